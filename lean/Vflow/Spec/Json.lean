import Vflow.Model.Base
/-!
# JSON at the octet level (RFC 8259): tree, compact renderer, grammar

`Json` is a tree whose leaves carry *already formatted* text: a number's digits, a string's escaped
body.  `render` is the compact serialisation.  `DVal` is the grammar as an inductive derivation
relation on octet strings; `isNumber` / `isStrBody` are the (decidable) lexical classes.
`derives_render` (at the end of this file): every well-formed tree renders to a text that
derives exactly that tree.
-/
namespace Vflow.Spec

mutual
inductive Json where
  | null
  | bool (b : Bool)
  | num (digits : Bytes)          -- formatted number text
  | str (body : Bytes)            -- escaped string body (without the quotes)
  | arr (xs : JList)
  | obj (ms : JMembers)
inductive JList where
  | nil
  | cons (x : Json) (xs : JList)
inductive JMembers where
  | nil
  | cons (k : Bytes) (v : Json) (ms : JMembers)
end

def q : UInt8 := 34

mutual
def render : Json → Bytes
  | .null => [110, 117, 108, 108]
  | .bool true => [116, 114, 117, 101]
  | .bool false => [102, 97, 108, 115, 101]
  | .num d => d
  | .str s => q :: s ++ [q]
  | .arr xs => [91] ++ renderList xs ++ [93]
  | .obj ms => [123] ++ renderMembers ms ++ [125]
def renderList : JList → Bytes
  | .nil => []
  | .cons x .nil => render x
  | .cons x xs => render x ++ [44] ++ renderList xs
def renderMembers : JMembers → Bytes
  | .nil => []
  | .cons k v .nil => q :: k ++ [q] ++ [58] ++ render v
  | .cons k v ms => q :: k ++ [q] ++ [58] ++ render v ++ [44] ++ renderMembers ms
end

/-! ## Lexical classes -/

def isDigit (c : UInt8) : Bool := 48 ≤ c && c ≤ 57
def isHexDigit (c : UInt8) : Bool := isDigit c || (97 ≤ c && c ≤ 102) || (65 ≤ c && c ≤ 70)

/-- one or more digits -/
def digits1 : Bytes → Bool
  | [] => false
  | [c] => isDigit c
  | c :: t => isDigit c && digits1 t

/-- `exp = (e|E) [+-]? DIGIT+` or nothing -/
def isExpOpt : Bytes → Bool
  | [] => true
  | c :: t =>
    (c == 101 || c == 69) &&
      (match t with
       | s :: t' => if s == 43 || s == 45 then digits1 t' else digits1 (s :: t')
       | [] => false)

/-- after the integer part: `(. DIGIT+)? exp?` -/
def isFracExpOpt : Bytes → Bool
  | 46 :: t =>
    -- split the longest digit prefix
    let ds := t.takeWhile isDigit
    !ds.isEmpty && isExpOpt (t.dropWhile isDigit)
  | l => isExpOpt l

/-- `int = 0 | [1-9] DIGIT*` followed by frac/exp -/
def isUnsignedNumber : Bytes → Bool
  | 48 :: t => isFracExpOpt t
  | c :: t => (49 ≤ c && c ≤ 57) && isFracExpOpt (t.dropWhile isDigit)
  | [] => false

/-- RFC 8259 `number` -/
def isNumber : Bytes → Bool
  | 45 :: t => isUnsignedNumber t
  | l => isUnsignedNumber l

/-- RFC 8259 string body: unescaped octets (≥ 0x20, not `"` or `\`) and escapes
`\" \\ \/ \b \f \n \r \t \uXXXX` -/
def isStrBody : Bytes → Bool
  | [] => true
  | 92 :: 117 :: a :: b :: c :: d :: t => isHexDigit a && isHexDigit b && isHexDigit c && isHexDigit d && isStrBody t
  | 92 :: e :: t => (e == 34 || e == 92 || e == 47 || e == 98 || e == 102 || e == 110 || e == 114 || e == 116) && isStrBody t
  | c :: t => c != 34 && c != 92 && 32 ≤ c && isStrBody t

/-! ## Grammar -/

mutual
inductive DVal : Bytes → Json → Prop where
  | null : DVal [110, 117, 108, 108] .null
  | tru : DVal [116, 114, 117, 101] (.bool true)
  | fls : DVal [102, 97, 108, 115, 101] (.bool false)
  | num (d) : isNumber d = true → DVal d (.num d)
  | str (s) : isStrBody s = true → DVal (q :: s ++ [q]) (.str s)
  | arrE : DVal ([91] ++ [] ++ [93]) (.arr .nil)
  | arr (b xs) : DElems b xs → DVal ([91] ++ b ++ [93]) (.arr xs)
  | objE : DVal ([123] ++ [] ++ [125]) (.obj .nil)
  | obj (b ms) : DMems b ms → DVal ([123] ++ b ++ [125]) (.obj ms)
inductive DElems : Bytes → JList → Prop where
  | one (b x) : DVal b x → DElems b (.cons x .nil)
  | more (b x bs xs) : DVal b x → DElems bs xs → DElems (b ++ [44] ++ bs) (.cons x xs)
inductive DMems : Bytes → JMembers → Prop where
  | one (k b v) : isStrBody k = true → DVal b v → DMems (q :: k ++ [q] ++ [58] ++ b) (.cons k v .nil)
  | more (k b v bs ms) : isStrBody k = true → DVal b v → DMems bs ms →
      DMems (q :: k ++ [q] ++ [58] ++ b ++ [44] ++ bs) (.cons k v ms)
end

mutual
def WF : Json → Prop
  | .null => True
  | .bool _ => True
  | .num d => isNumber d = true
  | .str s => isStrBody s = true
  | .arr xs => WFL xs
  | .obj ms => WFM ms
def WFL : JList → Prop
  | .nil => True
  | .cons x xs => WF x ∧ WFL xs
def WFM : JMembers → Prop
  | .nil => True
  | .cons k v ms => isStrBody k = true ∧ WF v ∧ WFM ms
end

mutual
theorem derives_render : ∀ j, WF j → DVal (render j) j
  | .null, _ => by simp only [render]; exact DVal.null
  | .bool true, _ => by simp only [render]; exact DVal.tru
  | .bool false, _ => by simp only [render]; exact DVal.fls
  | .num d, h => by simp only [render]; exact DVal.num d h
  | .str s, h => by simp only [render]; exact DVal.str s h
  | .arr .nil, _ => by simp only [render, renderList]; exact DVal.arrE
  | .arr (.cons x xs), h => by
      simp only [render]
      exact DVal.arr _ _ (derives_list (.cons x xs) h (by simp))
  | .obj .nil, _ => by simp only [render, renderMembers]; exact DVal.objE
  | .obj (.cons k v ms), h => by
      simp only [render]
      exact DVal.obj _ _ (derives_mems (.cons k v ms) h (by simp))
theorem derives_list : ∀ l, WFL l → l ≠ .nil → DElems (renderList l) l
  | .nil, _, hn => absurd rfl hn
  | .cons x .nil, h, _ => by
      simp only [renderList]
      exact DElems.one _ _ (derives_render x h.1)
  | .cons x (.cons y ys), h, _ => by
      simp only [renderList]
      exact DElems.more _ _ _ _ (derives_render x h.1) (derives_list (.cons y ys) h.2 (by simp))
theorem derives_mems : ∀ m, WFM m → m ≠ .nil → DMems (renderMembers m) m
  | .nil, _, hn => absurd rfl hn
  | .cons k v .nil, h, _ => by
      simp only [renderMembers]
      exact DMems.one _ _ _ h.1 (derives_render v h.2.1)
  | .cons k v (.cons k2 v2 ms), h, _ => by
      simp only [renderMembers]
      exact DMems.more _ _ _ _ _ h.1 (derives_render v h.2.1) (derives_mems (.cons k2 v2 ms) h.2.2 (by simp))
end

example : isNumber [45, 49, 46, 53, 69, 43, 48, 48] = true := by decide   -- -1.5E+00
example : isNumber [48, 49] = false := by decide                          -- 01
example : isStrBody [97, 92, 117, 48, 48, 48, 97, 92, 34] = true := by decide
example : isStrBody [97, 34] = false := by decide

end Vflow.Spec
