import Vflow.Proofs.RoundIpfix
import Vflow.Proofs.HeaderLayouts
import Vflow.Proofs.Interpret
import Vflow.Proofs.IpfixIRTpl
import Vflow.Gen.Sites
import Vflow.Spec.Sites
/-!
# C03 — IPFIX: data records are decoded exactly as their templates describe

Round trip between the RFC 7011 encoders of `Vflow/Spec/Wire.lean` (written without reference to the
decoder) and the decoder model `Vflow/Model/Ipfix.lean` (tied to `ipfix/decoder.go` by the differential
correspondence).  From the leaves up: field / record (fixed and variable length, enterprise elements,
scope fields first), record loop, set, message.

Preconditions (the Boolean predicates `Wire.Ipfix.wf…`, all decidable; see `Spec/Wire.lean`):
* every specifier of the template is in the information model (`lookupElem ent id = some …`);
* the length 65535 announces a variable-length field for an element of ANY type (RFC 7011 §7; RFC 6313 structured
  data 291–293 is always sent so), the value then carries a 1-octet length prefix (< 255 octets) or the 3-octet
  prefix 255 + u16 (any length < 65536, also allowed for short values); every other specifier length is a fixed
  length and the value has exactly it.  Before the F23 repair `getDataLength` honoured the marker only on string /
  octetArray elements: on every other element the decoder tried to read 65535 octets and the whole message was lost
  (`f23_repaired`);
* no hypothesis on field lengths versus the element's type: the reported value is `interpret octets type` for every
  length, and for the integer types that is the RFC's value of ALL the field's octets whenever the field is at least
  as long as the type and at most 8 octets (`unsigned_field_value`, `signed_field_value`; F24: before the repair the
  leading octets of the type's size were read, `f24_repaired`), the raw octets otherwise (`field_raw`);
* every data record has a positive length on the wire (a record of no octets cannot be told from the end
  of the set; the decoder reports `zero-length data record`, F2); records of 4 octets or fewer are included — before
  the padding repair the decoder dropped them at the end of a set (finding K2, `k2_repaired`);
* padding (any content) of a data set **shorter than the shortest record of the template**, RFC 7011 §3.3.1
  (`wfDataPad`, `Wire.Ipfix.minRecLen`: fixed lengths plus one octet per variable-length field) — before the
  padding repair the decoder's constant `> 4` took 5..7 octets of padding after records of 8 or more octets for a
  record and the whole message was lost (F16, `k3_repaired`);
  padding of a template set at most 4 octets (`wfTplPad`: the RFC gives 0..3; the unchanged template loop
  stops when at most 4 octets are left);
* set length < 65536 (the decoder's 16-bit arithmetic then never wraps), sets non-empty, template ids
  non-zero (id 0 at a record boundary of a template set is the padding test), a template record (set id 2)
  has at least one field, element ids < 32768, enterprise elements have id ≥ 1 (the decoder tests
  `id > 0x8000`, not the E bit);
* a data set's template is what `Cache.lookup` returns for (exporter address, set id) in the cache
  *as updated by the preceding sets of the same message* — no assumption about the hash other than
  `lookup (insert c a id t) a id = some t` (`announced_template_in_force`).
-/
namespace Vflow.C03
open Vflow Vflow.Wire
open Vflow.Wire.Ipfix (VVal)

/-- **C03 level 1 (record)**: for every template and every conforming list of field values (scope
fields first; variable-length values with either prefix form) the decoder returns exactly
`expectedRecord` — per field the element id, the enterprise number and `interpret octets type` — and the
reader ends right behind the record. -/
theorem record_roundtrip (t : Template) (vals : List VVal) (rest : Bytes) (c : Nat)
    (hw : Wire.Ipfix.wfRecord t vals = true) :
    Ipfix.decodeData t ⟨Wire.Ipfix.encodeRecord t vals ++ rest, c⟩ =
      (.ok (Wire.Ipfix.expectedRecord t vals), ⟨rest, c + (Wire.Ipfix.encodeRecord t vals).length⟩) :=
  Ipfix.decodeData_roundtrip t vals rest c hw

/-- the field loop alone, without the "positive length" condition (which belongs to the record
loop): any list of specifiers against a conforming list of values -/
theorem fields_roundtrip (specs : List Spec) (vals : List VVal) (rest : Bytes) (c : Nat) (acc : Record)
    (hl : specs.length = vals.length)
    (hw : (List.zipWith Wire.Ipfix.wfField specs vals).all id = true) :
    Ipfix.decFields specs ⟨(List.zipWith Wire.Ipfix.encodeField specs vals).flatten ++ rest, c⟩ acc =
      (.ok (acc ++ List.zipWith expectedField specs (vals.map (·.octets))),
       ⟨rest, c + (List.zipWith Wire.Ipfix.encodeField specs vals).flatten.length⟩) :=
  Ipfix.decFields_roundtrip specs vals rest c acc hl hw

/-- **C03 level 2a (record loop)**: over `records ++ pad ++ rest`, the set header announcing exactly
`records ++ pad`, the padding shorter than the shortest record of the template (RFC 7011 §3.3.1), the
loop yields all records in order, stops in front of the padding, no error, no direct return. -/
theorem recordLoop_roundtrip (ctx : Ipfix.Ctx) (hsid : 255 < ctx.setId) (hlen16 : ctx.len < 65536)
    (records : List (List VVal)) (pad rest : Bytes) (fuel : Nat) (st : Ipfix.St)
    (hrec : ∀ x ∈ records, Wire.Ipfix.wfRecord ctx.tr x = true)
    (hpad : pad.length < Wire.Ipfix.minRecLen ctx.tr)
    (hrem : st.r.rem = Ipfix.body ctx.tr records ++ (pad ++ rest))
    (hstart : ctx.start ≤ st.r.cnt)
    (hleft : (st.r.cnt - ctx.start) + ((Ipfix.body ctx.tr records).length + pad.length) = ctx.len)
    (hfuel : records.length < fuel) :
    Ipfix.setLoop ctx fuel st =
      ({ st with r := ⟨pad ++ rest, st.r.cnt + (Ipfix.body ctx.tr records).length⟩,
                 recs := st.recs ++ records.map (Wire.Ipfix.expectedRecord ctx.tr) }, none, false) :=
  Ipfix.setLoop_data ctx hsid hlen16 records pad rest fuel st hrec hpad hrem hstart hleft hfuel

/-- **C03 level 2b (data set)**: `decodeSet` consumes the whole encoded data set (the padding is
skipped), appends exactly the expected records in order, leaves the cache unchanged, no error. -/
theorem dataSet_roundtrip (addr : Bytes) (t : Template) (records : List (List VVal))
    (pad rest : Bytes) (c fuel : Nat) (cache : Cache) (recs : List Record)
    (hw : Wire.Ipfix.wfSet addr cache (.data t records pad) = true) (hfuel : records.length < fuel) :
    Ipfix.decodeSet addr fuel ⟨⟨Wire.Ipfix.encodeDataSet t records pad ++ rest, c⟩, cache, recs⟩ =
      (⟨⟨rest, c + (Wire.Ipfix.encodeDataSet t records pad).length⟩, cache,
        recs ++ records.map (Wire.Ipfix.expectedRecord t)⟩, none) :=
  Ipfix.decodeSet_data addr t records pad rest c fuel cache recs hw hfuel

/-- **C03 level 2c (template set)**: inserts exactly its templates — in order, a later one overriding
an earlier one with the same id (`insertAll`) — and adds no record. -/
theorem templateSet_roundtrip (addr : Bytes) (ts : List Template) (pad rest : Bytes)
    (c fuel : Nat) (cache : Cache) (recs : List Record)
    (hw : Wire.Ipfix.wfSet addr cache (.tpl ts pad) = true) (hfuel : ts.length < fuel) :
    Ipfix.decodeSet addr fuel ⟨⟨Wire.Ipfix.encodeTemplateSet ts pad ++ rest, c⟩, cache, recs⟩ =
      (⟨⟨rest, c + (Wire.Ipfix.encodeTemplateSet ts pad).length⟩, insertAll addr cache ts, recs⟩, none) :=
  Ipfix.decodeSet_tpl addr ts pad rest c fuel cache recs hw hfuel

/-- **C03 level 2d (options template set)** -/
theorem optTemplateSet_roundtrip (addr : Bytes) (ts : List Template) (pad rest : Bytes)
    (c fuel : Nat) (cache : Cache) (recs : List Record)
    (hw : Wire.Ipfix.wfSet addr cache (.optTpl ts pad) = true) (hfuel : ts.length < fuel) :
    Ipfix.decodeSet addr fuel ⟨⟨Wire.Ipfix.encodeOptTemplateSet ts pad ++ rest, c⟩, cache, recs⟩ =
      (⟨⟨rest, c + (Wire.Ipfix.encodeOptTemplateSet ts pad).length⟩, insertAll addr cache ts, recs⟩, none) :=
  Ipfix.decodeSet_optTpl addr ts pad rest c fuel cache recs hw hfuel

/-- **C03 level 3 (message)**: for every cache `c`, exporter address and well-formed message `m` the
decoder returns the header, exactly the expected records of all data sets in order, no non-fatal
error, and the cache updated with the message's templates; templates announced earlier in the message
are in force for its later data sets. -/
theorem message_roundtrip (c : Cache) (addr : Bytes) (m : Wire.Ipfix.Msg)
    (hw : Wire.Ipfix.wfMsg addr c m = true) :
    Ipfix.decode c addr (Wire.Ipfix.encodeMsg m) =
      (.ok (Wire.Ipfix.expectedHdr m, (Wire.Ipfix.expected addr c m).1, []),
       (Wire.Ipfix.expected addr c m).2) :=
  Ipfix.decode_roundtrip c addr m hw

/-- **RFC 7011 §3.3.1 "shorter than any allowable record"**: `Wire.Ipfix.minRecLen t` is a lower bound for
every conforming record of `t` — so `wfDataPad` is exactly the RFC's condition — and the decoder's loop
bound `Ipfix.minRecLen` is that number, clamped to 1. -/
theorem minRecLen_is_shortest (t : Template) (vals : List VVal) (hw : Wire.Ipfix.wfRecord t vals = true) :
    Wire.Ipfix.minRecLen t ≤ (Wire.Ipfix.encodeRecord t vals).length ∧
    Ipfix.minRecLen t = (if Wire.Ipfix.minRecLen t < 1 then 1 else Wire.Ipfix.minRecLen t) :=
  ⟨Ipfix.wfRecord_minRecLen hw, Ipfix.minRecLen_spec t⟩

/-- the template a set has just announced is the one a data set with its id gets: the cache condition
of `wfSet` is met by "announced earlier in this message under the same id" for every cache and every
hash function behaviour -/
theorem announced_template_in_force (addr : Bytes) (c : Cache) (t : Template) (pad : Bytes) :
    Cache.lookup (Wire.Ipfix.applySet addr ([], c) (.tpl [t] pad)).2 addr t.tid = some t := by
  simp only [Wire.Ipfix.applySet, insertAll, List.foldl_cons, List.foldl_nil]
  exact lookup_insert c addr t.tid t

/-! ## Non-vacuity: a concrete well-formed message — a template with a fixed and a variable-length
field, an options template with a scope field, a data set of two records (1-octet and 3-octet length
prefix) with padding, a data set of the options template — starting from the empty cache -/

def exAddr : Bytes := [192, 0, 2, 1]
def exTpl : Template := ⟨256, 2, 0, [], [⟨8, 4, 0⟩, ⟨82, 65535, 0⟩]⟩
def exOpt : Template := ⟨257, 2, 1, [⟨8, 4, 0⟩], [⟨1, 8, 0⟩]⟩
def exMsg : Wire.Ipfix.Msg :=
  { exportTime := 1700000000, seq := 7, domain := 1,
    sets := [.tpl [exTpl] [], .optTpl [exOpt] [0, 0],
             .data exTpl [[⟨[10,0,0,1], false⟩, ⟨[101,116,104,48], false⟩],
                          [⟨[10,0,0,3], false⟩, ⟨[120], true⟩]] [0,0,0],
             .data exOpt [[⟨[10,0,0,9], false⟩, ⟨[0,0,0,0,0,0,1,0], false⟩]] []] }

/-- The elements the examples of this file use, looked up on the list form of the table (`lookupElem_eq`): evaluating
`lookupElem` as it stands costs the kernel time quadratic in the row, so the examples rewrite with these and evaluate
what is left. -/
theorem lookup_examples :
    lookupElem 0 1 = some (1, 4) ∧ lookupElem 0 8 = some (8, 19) ∧ lookupElem 0 10 = some (10, 3) ∧
    lookupElem 0 12 = some (12, 19) ∧ lookupElem 0 82 = some (82, 14) ∧ lookupElem 0 291 = some (291, 0) := by
  simp only [lookupElem_eq]
  decide +kernel

set_option maxRecDepth 100000 in
example : Wire.Ipfix.wfMsg exAddr [] exMsg = true := by
  obtain ⟨l1, l8, -, -, l82, -⟩ := lookup_examples
  unfold Wire.Ipfix.wfMsg
  simp only [exMsg, Wire.Ipfix.wfSets, Wire.Ipfix.wfSet, List.all_cons, List.all_nil, Wire.Ipfix.wfRecord,
    exTpl, exOpt, specsOf, List.nil_append, List.cons_append, List.zipWith_cons_cons, List.zipWith_nil_right,
    Ipfix.wfField_of_lookup (s := ⟨8, 4, 0⟩) l8, Ipfix.wfField_of_lookup (s := ⟨82, 65535, 0⟩) l82,
    Ipfix.wfField_of_lookup (s := ⟨1, 8, 0⟩) l1]
  decide +kernel

set_option maxRecDepth 100000 in
example : (Wire.Ipfix.expected exAddr [] exMsg).1 =
    [[⟨8, 0, .ip [10,0,0,1]⟩, ⟨82, 0, .str [101,116,104,48]⟩],
     [⟨8, 0, .ip [10,0,0,3]⟩, ⟨82, 0, .str [120]⟩],
     [⟨8, 0, .ip [10,0,0,9]⟩, ⟨1, 0, .u64 256⟩]] := by
  obtain ⟨l1, l8, -, -, l82, -⟩ := lookup_examples
  simp only [Wire.Ipfix.expected, exMsg, List.foldl_cons, List.foldl_nil, Wire.Ipfix.applySet, List.map_cons,
    List.map_nil, Wire.Ipfix.expectedRecord, Wire.expectedRecord, exTpl, exOpt, specsOf, List.nil_append,
    List.cons_append, List.zipWith_cons_cons, List.zipWith_nil_right,
    expectedField_of_lookup (s := ⟨8, 4, 0⟩) l8, expectedField_of_lookup (s := ⟨82, 65535, 0⟩) l82,
    expectedField_of_lookup (s := ⟨1, 8, 0⟩) l1]
  decide +kernel

/-! (Enterprise-specific elements are covered by the quantified theorems; a concrete instance is not
evaluated here because a failed scan of the 400-row IANA table inside the kernel takes ~15 s. The
correspondence runs exercise them: `extElems`.) -/

/-! ## Repaired findings: K2 (records of ≤ 4 octets at the end of a set were dropped) and F16 (5..7 octets
of set padding were read as a record and the whole message was lost).  The two inputs are well-formed messages,
and the model — evaluated by the kernel, independently of `message_roundtrip` — decodes them completely. -/

def k2Tpl : Template := ⟨256, 1, 0, [], [⟨8, 4, 0⟩]⟩
/-- template with one 4-octet field, then a data set with three records, no padding -/
def k2Msg : Wire.Ipfix.Msg :=
  { exportTime := 1700000000, seq := 8, domain := 1,
    sets := [.tpl [k2Tpl] [],
             .data k2Tpl [[⟨[10,0,0,1], false⟩], [⟨[10,0,0,2], false⟩], [⟨[10,0,0,3], false⟩]] []] }

/-- **K2 repaired**: three records of 4 octets are encoded; before the padding repair the decoder
returned the first two and no error; the message is well-formed and all three come back. -/
theorem k2_repaired :
    Wire.Ipfix.wfMsg exAddr [] k2Msg = true ∧
    (Wire.Ipfix.expected exAddr [] k2Msg).1.length = 3 ∧
    (Ipfix.decode [] exAddr (Wire.Ipfix.encodeMsg k2Msg)).1 =
      .ok (Wire.Ipfix.expectedHdr k2Msg, (Wire.Ipfix.expected exAddr [] k2Msg).1, []) ∧
    (Wire.Ipfix.encodeRecord k2Tpl [⟨[10,0,0,3], false⟩]).length = 4 := by
  decide +kernel

def k3Tpl : Template := ⟨256, 2, 0, [], [⟨8, 4, 0⟩, ⟨12, 4, 0⟩]⟩
/-- template with two 4-octet fields, then three data sets of one 8-octet record followed by 5, 6 and 7
zero octets of padding (shorter than the shortest record: RFC 7011 §3.3.1, 8-octet alignment) -/
def k3Msg : Wire.Ipfix.Msg :=
  { exportTime := 1700000000, seq := 9, domain := 1,
    sets := [.tpl [k3Tpl] [],
             .data k3Tpl [[⟨[10,0,0,1], false⟩, ⟨[10,0,0,2], false⟩]] [0,0,0,0,0],
             .data k3Tpl [[⟨[10,0,0,3], false⟩, ⟨[10,0,0,4], false⟩]] [0,0,0,0,0,0],
             .data k3Tpl [[⟨[10,0,0,5], false⟩, ⟨[10,0,0,6], false⟩]] [0,0,0,0,0,0,0]] }

/-- **F16 repaired (long padding)**: before the repair each of the three data sets alone made `Decode`
return `(nil, "can not read the data")` — the padding, longer than 4 octets, was read as a record.  The messages
are well-formed (padding shorter than the 8-octet record) and decode completely.  (`k3…` names the input; the
finding is F16.) -/
theorem k3_repaired :
    Wire.Ipfix.wfMsg exAddr [] k3Msg = true ∧
    (Ipfix.decode [] exAddr (Wire.Ipfix.encodeMsg k3Msg)).1 =
      .ok (Wire.Ipfix.expectedHdr k3Msg,
           [[⟨8, 0, .ip [10,0,0,1]⟩, ⟨12, 0, .ip [10,0,0,2]⟩], [⟨8, 0, .ip [10,0,0,3]⟩, ⟨12, 0, .ip [10,0,0,4]⟩],
            [⟨8, 0, .ip [10,0,0,5]⟩, ⟨12, 0, .ip [10,0,0,6]⟩]], []) := by
  decide +kernel

set_option maxRecDepth 100000 in
/-- padding as long as the shortest record is not padding: the bound of `wfDataPad` is sharp (8 octets
after 8-octet records are one more record); and a variable-length field counts one octet (`exTpl`: 4 + 1) -/
example : Wire.Ipfix.wfSet exAddr (Wire.Ipfix.applySet exAddr ([], []) (.tpl [k3Tpl] [])).2
    (.data k3Tpl [[⟨[10,0,0,1], false⟩, ⟨[10,0,0,2], false⟩]] [0,0,0,0,0,0,0,0]) = false := by decide +kernel
example : Wire.Ipfix.minRecLen k3Tpl = 8 ∧ Wire.Ipfix.minRecLen exTpl = 5 ∧ Ipfix.minRecLen exTpl = 5 := by decide +kernel

/-- template with one variable-length field (interfaceName): its shortest record is the 1-octet length prefix
of an empty string -/
def vTpl : Template := ⟨256, 1, 0, [], [⟨82, 65535, 0⟩]⟩
/-- one 6-octet record ("eth01" with a 1-octet prefix) followed by ONE zero octet -/
def vMsg : Wire.Ipfix.Msg :=
  { exportTime := 1700000000, seq := 10, domain := 1,
    sets := [.tpl [vTpl] [], .data vTpl [[⟨[101,116,104,48,49], false⟩]] [0]] }

/-- **Octets as long as the shortest record are a record, not padding.**  Before the padding repair the decoder skipped
the zero octet of this message; RFC 7011 §3.3.1 does not allow that: the template's shortest record has 1 octet, so no
padding at all is allowed, and the octet `00` IS a record (an empty interfaceName).  `wfDataPad` rejects the message
and the decoder reports two records.  Templates with variable-length fields whose shortest record has at most 4
octets, followed by at least that many octets, are the only inputs on which the repair made the decoder report MORE
than before.  (NetFlow v9 has none: a record of more than 4 octets is longer than 4 octets of padding.) -/
theorem padding_not_shorter_than_a_record_is_data :
    Wire.Ipfix.minRecLen vTpl = 1 ∧
    Wire.Ipfix.wfMsg exAddr [] vMsg = false ∧
    Ipfix.recordsOf (Ipfix.decode [] exAddr (Wire.Ipfix.encodeMsg vMsg)).1 =
      [[⟨82, 0, .str [101,116,104,48,49]⟩], [⟨82, 0, .str []⟩]] := by
  decide +kernel

/-- The point `wfSpec` excludes (enterprise bit set, element id 0: outside the 1..32767 range RFC 7012 §4 gives
enterprise-specific identifiers): the decoder tests `ElementID > 0x8000`, so the specifier `80 00` is taken as the
IANA element 32768 WITHOUT an enterprise number, and the four enterprise-number octets that follow are read as the
next specifier.  Malformed input, decoded without a crash (C01); recorded here because the proof forced the
hypothesis, and run against the real decoder by the `ipfix` correspondence (corpus/C03/ipfix--enterprise-id0.txt). -/
example : (Ipfix.readSpec ⟨[0x80, 0x00, 0x00, 0x04, 0x00, 0x00, 0x27, 0x0f], 0⟩).1 = .ok ⟨32768, 4, 0⟩ := by rfl
example : (Ipfix.readSpec ⟨[0x80, 0x01, 0x00, 0x04, 0x00, 0x00, 0x27, 0x0f], 0⟩).1 = .ok ⟨1, 4, 9999⟩ := by rfl

/-! ## Repaired findings F23 (the variable-length marker was honoured only for string / octetArray elements) and F24
(an integer field longer than its type decoded to its leading octets) -/

/-- **C03 (value of an unsigned field)**: what the round trips report for an unsigned8 … unsigned64 element sent in
`k ≤ n ≤ 8` octets (`k` the type's size: full-size, or over-long as NetFlow v9 exporters and mediators send them) is
the element id, the enterprise number and the number whose network-byte-order representation ALL `n` octets are
(`Wire.unsignedValue`, written from RFC 7011 §6.1.1 without reference to `interpret`).  False before the F24 repair:
samplerId (unsigned8) in the two octets `00 07` was reported as 0. -/
theorem unsigned_field_value (s : Spec) (v : Bytes) (fid ty k : Nat)
    (hl : lookupElem s.ent s.id = some (fid, ty)) (ht : uintSize? ty = some k)
    (hk : k ≤ v.length) (h8 : v.length ≤ 8) :
    (expectedField s v).id = fid ∧ (expectedField s v).ent = s.ent ∧
    intOf (expectedField s v).val = some (unsignedValue v : Int) :=
  Interp.expected_unsigned s v fid ty k hl ht hk h8

/-- **C03 (value of a signed field)**: signed8 … signed64 likewise, two's complement over all `8·n` bits (RFC 7011 §6.1.2) -/
theorem signed_field_value (s : Spec) (v : Bytes) (fid ty k : Nat)
    (hl : lookupElem s.ent s.id = some (fid, ty)) (ht : intSize? ty = some k)
    (hk : k ≤ v.length) (h8 : v.length ≤ 8) :
    (expectedField s v).id = fid ∧ (expectedField s v).ent = s.ent ∧
    intOf (expectedField s v).val = some (signedValue v) :=
  Interp.expected_signed s v fid ty k hl ht hk h8

/-- the Go type of an integer value: that of the element's size for a full-size field, 64 bits for a longer one -/
theorem integer_field_kind (b : Bytes) (t k : Nat) (hk : k ≤ b.length) (h8 : b.length ≤ 8) :
    (uintSize? t = some k → (interpret b t).kind = (if b.length = k then "u" ++ toString (8 * k) else "u64")) ∧
    (intSize? t = some k → (interpret b t).kind = (if b.length = k then "i" ++ toString (8 * k) else "i64")) :=
  ⟨fun ht => (Interp.interpret_unsigned b t k ht hk h8).2, fun ht => (Interp.interpret_signed b t k ht hk h8).2⟩

/-- **C03 ("raw octets when the field is encoded shorter than the type's size")**, and an integer field of more than
8 octets, which no 64-bit value can hold -/
theorem field_raw (s : Spec) (v : Bytes) (fid ty : Nat)
    (hl : lookupElem s.ent s.id = some (fid, ty))
    (h : v.length < minLen ty ∨ (((uintSize? ty).isSome ∨ (intSize? ty).isSome) ∧ 8 < v.length)) :
    expectedField s v = ⟨fid, s.ent, .raw v⟩ :=
  Interp.expected_raw s v fid ty hl h

/-- template 256: two IPv4 addresses; template 257: an address and a basicList (291, RFC 6313: always variable length);
template 258: ingressInterface (unsigned32) announced as variable length, and an address -/
def f23TplA : Template := ⟨256, 2, 0, [], [⟨8, 4, 0⟩, ⟨12, 4, 0⟩]⟩
def f23TplB : Template := ⟨257, 2, 0, [], [⟨8, 4, 0⟩, ⟨291, 65535, 0⟩]⟩
def f23TplC : Template := ⟨258, 2, 0, [], [⟨10, 65535, 0⟩, ⟨8, 4, 0⟩]⟩
/-- the witness of `corpus/C03/ipfix-wf--F23-variable-length-any-type.txt` (its first message, plus the second one's
template and record) -/
def f23Msg : Wire.Ipfix.Msg :=
  { exportTime := 0, seq := 1, domain := 0,
    sets := [.tpl [f23TplA, f23TplB, f23TplC] [],
             .data f23TplA [[⟨[10,0,0,1], false⟩, ⟨[10,0,0,2], false⟩]] [],
             .data f23TplB [[⟨[10,0,0,3], false⟩, ⟨[0xaa,0xbb,0xcc], false⟩]] [],
             .data f23TplC [[⟨[0,0,0,5], false⟩, ⟨[10,0,0,4], false⟩], [⟨[0,5], true⟩, ⟨[10,0,0,5], false⟩]] []] }

/-- **F23 repaired**: before the repair the data set of template 257 (and of 258) made `Decode` return
`(nil, "can not read the data")` — the record of template 256 in front of it was lost too.  The message is
well-formed (`wfField` allows the marker 65535 on an element of any type) and decodes completely: the
basicList as its octets (the collector does not interpret structured data), the variable-length unsigned32 as the
`uint32` 5 when sent in 4 octets and as its 2 octets when sent shorter than the type.

basicList is row 260 of the information model: evaluating `lookupElem` there as it stands costs the kernel as much as
everything else in this file together.  So the elements come from `lookup_examples`, `wfMsg` is unfolded down to the
fields before it is evaluated, and the decoder's result is `message_roundtrip`'s. -/
theorem f23_repaired :
    Wire.Ipfix.wfMsg exAddr [] f23Msg = true ∧
    (Ipfix.decode [] exAddr (Wire.Ipfix.encodeMsg f23Msg)).1 =
      .ok (Wire.Ipfix.expectedHdr f23Msg,
           [[⟨8, 0, .ip [10,0,0,1]⟩, ⟨12, 0, .ip [10,0,0,2]⟩],
            [⟨8, 0, .ip [10,0,0,3]⟩, ⟨291, 0, .raw [0xaa,0xbb,0xcc]⟩],
            [⟨10, 0, .u32 5⟩, ⟨8, 0, .ip [10,0,0,4]⟩], [⟨10, 0, .raw [0,5]⟩, ⟨8, 0, .ip [10,0,0,5]⟩]], []) := by
  obtain ⟨-, l8, l10, l12, -, l291⟩ := lookup_examples
  have hw : Wire.Ipfix.wfMsg exAddr [] f23Msg = true := by
    unfold Wire.Ipfix.wfMsg
    simp only [f23Msg, Wire.Ipfix.wfSets, Wire.Ipfix.wfSet, List.all_cons, List.all_nil, Wire.Ipfix.wfRecord,
      f23TplA, f23TplB, f23TplC, specsOf, List.nil_append, List.zipWith_cons_cons, List.zipWith_nil_right,
      Ipfix.wfField_of_lookup (s := ⟨8, 4, 0⟩) l8, Ipfix.wfField_of_lookup (s := ⟨12, 4, 0⟩) l12,
      Ipfix.wfField_of_lookup (s := ⟨291, 65535, 0⟩) l291, Ipfix.wfField_of_lookup (s := ⟨10, 65535, 0⟩) l10]
    decide +kernel
  refine ⟨hw, ?_⟩
  rw [message_roundtrip _ _ _ hw]
  simp only [Wire.Ipfix.expected, f23Msg, List.foldl_cons, List.foldl_nil, Wire.Ipfix.applySet, List.map_cons,
    List.map_nil, Wire.Ipfix.expectedRecord, Wire.expectedRecord, f23TplA, f23TplB, f23TplC, specsOf,
    List.nil_append, List.zipWith_cons_cons, List.zipWith_nil_right,
    expectedField_of_lookup (s := ⟨8, 4, 0⟩) l8, expectedField_of_lookup (s := ⟨12, 4, 0⟩) l12,
    expectedField_of_lookup (s := ⟨291, 65535, 0⟩) l291, expectedField_of_lookup (s := ⟨10, 65535, 0⟩) l10]
  decide +kernel

/-- samplerId (48, unsigned8) announced with 2 octets, ingressInterface (10, unsigned32) with 8, and an address -/
def f24Tpl : Template := ⟨256, 3, 0, [], [⟨48, 2, 0⟩, ⟨10, 8, 0⟩, ⟨8, 4, 0⟩]⟩
def f24Msg : Wire.Ipfix.Msg :=
  { exportTime := 0, seq := 1, domain := 0,
    sets := [.tpl [f24Tpl] [],
             .data f24Tpl [[⟨[0,7], false⟩, ⟨[0,0,0,0,0,0,0,5], false⟩, ⟨[10,0,0,1], false⟩],
                           [⟨[1,0], false⟩, ⟨[255,255,255,255,255,255,255,255], false⟩, ⟨[10,0,0,2], false⟩]] []] }

/-- **F24 repaired** (`corpus/C03/ipfix-wf--F24-overlong-integers.txt`): before the repair the first record came back as
`uint8(0)`, `uint32(0)` — the leading octets — and the second as `uint8(1)`, `uint32(4294967295)`. -/
theorem f24_repaired :
    Wire.Ipfix.wfMsg exAddr [] f24Msg = true ∧
    (Ipfix.decode [] exAddr (Wire.Ipfix.encodeMsg f24Msg)).1 =
      .ok (Wire.Ipfix.expectedHdr f24Msg,
           [[⟨48, 0, .u64 7⟩, ⟨10, 0, .u64 5⟩, ⟨8, 0, .ip [10,0,0,1]⟩],
            [⟨48, 0, .u64 256⟩, ⟨10, 0, .u64 18446744073709551615⟩, ⟨8, 0, .ip [10,0,0,2]⟩]], []) := by
  decide +kernel

/-- the values of `interpret` around the sizes, evaluated: unsigned16 in 1 (raw), 2 (`uint16`), 3 and 8 (`uint64`), 9
octets (raw); signed8 in 2 octets `ff fe` = −2 and signed32 in 5 octets `80 00 00 00 00` = −2^39 (`int64`, sign
extended from the field's own width); the RFC values computed independently -/
example : interpret [7] 2 = .raw [7] ∧ interpret [1,2] 2 = .u16 258 ∧ interpret [0,1,2] 2 = .u64 258 ∧
    interpret [1,0,0,0,0,0,0,0] 2 = .u64 72057594037927936 ∧ interpret [0,0,0,0,0,0,0,0,7] 2 = .raw [0,0,0,0,0,0,0,0,7] ∧
    interpret [255,254] 5 = .i64 (-2) ∧ interpret [128,0,0,0,0] 7 = .i64 (-549755813888) ∧
    signedValue [255,254] = -2 ∧ signedValue [128,0,0,0,0] = -549755813888 ∧ unsignedValue [0,1,2] = 258 := by decide +kernel

/-! ## Tie: the fixed-layout readers of the model read the layouts REGENERATED from the decoder source
(`Gen.Layouts.*`, re-extracted from the `unmarshal` chains on every run; what a `readFields` result says about the
single reads is in `Proofs/HeaderLayouts.lean`) -/
theorem gen_header_layout (r : Rd) : Ipfix.readHeader r = V5.readFields (V5.widths Gen.Layouts.ipfixHeader) r := by
  simp only [Gen.Layouts.ipfixHeader, V5.widths, List.map, V5.readFields, Ipfix.readHeader, Rd.rU16, Rd.rU32]
  rcases h1 : r.readN 2 with _ | ⟨x1, r1⟩ <;> simp only [Option.map]
  rcases h2 : r1.readN 2 with _ | ⟨x2, r2⟩ <;> simp only []
  rcases h3 : r2.readN 4 with _ | ⟨x3, r3⟩ <;> simp only []
  rcases h4 : r3.readN 4 with _ | ⟨x4, r4⟩ <;> simp only []
  rcases h5 : r4.readN 4 with _ | ⟨x5, r5⟩ <;> simp only []
theorem gen_setHeader_layout (addr : Bytes) (fuel : Nat) (st : Ipfix.St) (sid len : Nat) (r2 : Rd)
    (h : V5.readFields (V5.widths Gen.Layouts.ipfixSetHeader) st.r = some ([sid, len], r2)) :
    Ipfix.decodeSet addr fuel st =
      if len < 4 then ({ st with r := r2 }, some .badSetLen)
      else Ipfix.setBody addr sid len st.r.cnt fuel { st with r := r2 } := by
  obtain ⟨r1, h1, h2⟩ := HeaderLayouts.readFields_22_some h
  simp only [Ipfix.decodeSet, h1, h2]
theorem gen_setHeader_short (addr : Bytes) (fuel : Nat) (st : Ipfix.St)
    (h : V5.readFields (V5.widths Gen.Layouts.ipfixSetHeader) st.r = none) :
    (Ipfix.decodeSet addr fuel st).2 = some .short := by
  rcases HeaderLayouts.readFields_22_none h with h1 | ⟨_, _, h1, h2⟩ <;> simp only [Ipfix.decodeSet, *]
theorem gen_tplHeader_layout (r : Rd) (tid n : Nat) (r2 : Rd)
    (h : V5.readFields (V5.widths Gen.Layouts.ipfixTplHeader) r = some ([tid, n], r2)) :
    Ipfix.parseTpl r = (match Ipfix.readSpecs n r2 [] with
      | (.ok fs, r3) => (.ok ⟨tid, n, 0, [], fs⟩, r3)
      | (.error e, r3) => (.error e, r3)) := by
  obtain ⟨r1, h1, h2⟩ := HeaderLayouts.readFields_22_some h
  simp only [Ipfix.parseTpl, h1, h2]
  rfl
theorem gen_tplHeader_short (r : Rd) (h : V5.readFields (V5.widths Gen.Layouts.ipfixTplHeader) r = none) :
    (Ipfix.parseTpl r).1 = .error .short := by
  rcases HeaderLayouts.readFields_22_none h with h1 | ⟨_, _, h1, h2⟩ <;> simp only [Ipfix.parseTpl, *]
theorem gen_optTplHeader_short (r : Rd) (h : V5.readFields (V5.widths Gen.Layouts.ipfixOptTplHeader) r = none) :
    (Ipfix.parseOptTpl r).1 = .error .short := by
  rcases HeaderLayouts.readFields_222_none h with h1 | ⟨_, _, h1, h2⟩ | ⟨_, _, _, _, h1, h2, h3⟩ <;>
    simp only [Ipfix.parseOptTpl, *]
theorem gen_optTplHeader_layout (r : Rd) (tid n sc : Nat) (r3 : Rd)
    (h : V5.readFields (V5.widths Gen.Layouts.ipfixOptTplHeader) r = some ([tid, n, sc], r3)) :
    Ipfix.parseOptTpl r =
      (match Ipfix.readSpecs sc r3 [] with
       | (.error e, r4) => (.error e, r4)
       | (.ok scs, r4) =>
         match Ipfix.readSpecs ((n + 65536 - sc) % 65536) r4 [] with
         | (.error e, r5) => (.error e, r5)
         | (.ok fs, r5) => (.ok ⟨tid, n, sc, scs, fs⟩, r5)) := by
  obtain ⟨r1, r2, h1, h2, h3⟩ := HeaderLayouts.readFields_222_some h
  simp only [Ipfix.parseOptTpl, h1, h2, h3]
  rfl
theorem gen_layout_field_names :
    Gen.Layouts.ipfixHeader.map (·.1) = ["Version", "Length", "ExportTime", "SequenceNo", "DomainID"] ∧
    Gen.Layouts.ipfixSetHeader.map (·.1) = ["SetID", "Length"] ∧
    Gen.Layouts.ipfixTplHeader.map (·.1) = ["TemplateID", "FieldCount"] ∧
    Gen.Layouts.ipfixOptTplHeader.map (·.1) = ["TemplateID", "FieldCount", "ScopeFieldCount"] :=
  have h := HeaderLayouts.gen_field_names
  ⟨h.1, h.2.1, h.2.2.1, h.2.2.2.1⟩

/-! ## Tie: the decoder's functions TRANSLATED statement by statement on every run (`Gen.IpfixIR`, from the Go AST by
`go/cmd/factgen/ipfix_ir.go`) and interpreted with Go's semantics (`Model/IpfixIR.lean`: `Func.sem`, linked in
`Model/IpfixProg.lean`) ARE the functions of the hand-written model — for every argument, reader state, cache, exporter
address and fuel.  Not only the conditions (`guards_reviewed`) but what is assigned, in which order, what a loop carries
and what is returned on which path.  Proofs in `Proofs/IpfixIR.lean` and `Proofs/IpfixIRTpl.lean`, on the execution
lemmas of `Proofs/IpfixIRExec.lean`.  A function result is `some (state afterwards, final values of the by-pointer arguments, results)`; `none` would be a panic, an
unrecognised statement or an unfinished loop. -/

/-- the struct declarations the interpreter's field semantics (`fieldOf` / `setField`) stand for -/
theorem gen_ir_structs :
    Gen.IpfixIR.structs =
      [("Decoder", "raddr net.IP; reader *reader.Reader"),
       ("MessageHeader", "Version uint16; Length uint16; ExportTime uint32; SequenceNo uint32; DomainID uint32"),
       ("TemplateHeader", "TemplateID uint16; FieldCount uint16; ScopeFieldCount uint16"),
       ("TemplateRecord", "TemplateID uint16; FieldCount uint16; FieldSpecifiers []TemplateFieldSpecifier; ScopeFieldCount uint16; ScopeFieldSpecifiers []TemplateFieldSpecifier"),
       ("TemplateFieldSpecifier", "ElementID uint16; Length uint16; EnterpriseNo uint32"),
       ("Message", "AgentID string; Header MessageHeader; DataSets [][]DecodedField"),
       ("DecodedField", "ID uint16; Value interface{}; EnterpriseNo uint32"),
       ("SetHeader", "SetID uint16; Length uint16"),
       ("nonfatalError", "error"),
       ("ElementKey", "EnterpriseNo uint32; ElementID uint16"),
       ("InfoElementEntry", "FieldID uint16; Name string; Type FieldType")] := rfl

/-- **`Decoder.getDataLength` translated = `Ipfix.dataLen`**: same reader afterwards, same length or the reader's
error (returned as a fatal error with length 0), the cache untouched, for every specifier length -/
theorem gen_ir_getDataLength (addr : Bytes) (fuel : Nat) (r : Rd) (c : Cache) (len : Nat) :
    IpfixProg.getDataLength addr fuel [.int len] ⟨r, c⟩ =
      some (⟨(Ipfix.dataLen r len).2, c⟩, [], IpfixProg.lenResult (Ipfix.dataLen r len).1) :=
  IpfixIR.getDataLength_sem addr fuel r c len

/-- **`TemplateRecord.minRecordLen` translated = `Ipfix.minRecLen`** for every template (any number of scope and field
specifiers: the two `range` loops need no fuel); the template and the decoder state are left as they were -/
theorem gen_ir_minRecordLen (addr : Bytes) (fuel : Nat) (st : IpfixIR.St) (t : Template) :
    IpfixProg.minRecordLen addr fuel [.tpl t] st = some (st, [.tpl t], [.int (Ipfix.minRecLen t)]) :=
  IpfixIR.minRecordLen_sem addr fuel st t

/-- **`Decoder.decodeData` translated = `Ipfix.decodeData`** for every template, reader state, cache and exporter:
the two index loops over the scope and the field specifiers (element lookup, `getDataLength`, `Read`, `Interpret`,
`append`, in this order), the non-fatal "not exist" / "failed to decodeData" errors and the fatal read errors, the
reader position on every path.  `fuel` bounds the iterations of each loop: any value above the two specifier counts. -/
theorem gen_ir_decodeData (addr : Bytes) (fuel : Nat) (r : Rd) (c : Cache) (t : Template)
    (hs : t.scope.length < fuel) (hf : t.fields.length < fuel) :
    IpfixProg.decodeData addr fuel [.tpl t] ⟨r, c⟩ =
      some (⟨(Ipfix.decodeData t r).2, c⟩, [], IpfixProg.recResult (Ipfix.decodeData t r).1) :=
  IpfixIR.decodeData_sem addr fuel r c t hs hf

/-- **`TemplateFieldSpecifier.unmarshal` translated = `Ipfix.readSpec`** for every reader state and every previous
content `s0` of the specifier (the decoder reuses one `tf` across the loop): ElementID, Length, the test `> 0x8000`, the
mask `& 0x7fff` and the enterprise number, or `EnterpriseNo = 0`; on a short read the reader's error at the position
the model reports (the specifier is then partly overwritten: `s'`) -/
theorem gen_ir_fieldSpecUnmarshal (addr : Bytes) (fuel : Nat) (r : Rd) (c : Cache) (s0 : Spec) :
    match Ipfix.readSpec r with
    | (.ok s, r') => IpfixProg.fieldSpecUnmarshal addr fuel [.spec s0] ⟨r, c⟩ = some (⟨r', c⟩, [.spec s], [.nil])
    | (.error e, r') => ∃ s', IpfixProg.fieldSpecUnmarshal addr fuel [.spec s0] ⟨r, c⟩ =
        some (⟨r', c⟩, [.spec s'], [.err ⟨false, e⟩]) :=
  IpfixIR.fieldSpecUnmarshal_sem addr fuel r c s0

/-- **`TemplateHeader.unmarshal` translated**: TemplateID then FieldCount, 16 bits each; a failed read stores 0,
returns the reader's error and leaves the reader where it was (stronger than `gen_tplHeader_layout`: order, error paths
and positions, not only the widths) -/
theorem gen_ir_tplHeaderUnmarshal (addr : Bytes) (fuel : Nat) (r : Rd) (c : Cache) (a b sc : Nat) :
    IpfixProg.tplHeaderUnmarshal addr fuel [.thdr a b sc] ⟨r, c⟩ =
      match r.rU16 with
      | none => some (⟨r, c⟩, [.thdr 0 b sc], [IpfixIR.errReader])
      | some (tid, r1) =>
        match r1.rU16 with
        | none => some (⟨r1, c⟩, [.thdr tid 0 sc], [IpfixIR.errReader])
        | some (n, r2) => some (⟨r2, c⟩, [.thdr tid n sc], [.nil]) :=
  IpfixIR.tplHeaderUnmarshal_sem addr fuel r c a b sc

/-- **`TemplateHeader.unmarshalOpts` translated**: TemplateID, FieldCount, ScopeFieldCount -/
theorem gen_ir_tplHeaderUnmarshalOpts (addr : Bytes) (fuel : Nat) (r : Rd) (c : Cache) (a b sc : Nat) :
    IpfixProg.tplHeaderUnmarshalOpts addr fuel [.thdr a b sc] ⟨r, c⟩ =
      match r.rU16 with
      | none => some (⟨r, c⟩, [.thdr 0 b sc], [IpfixIR.errReader])
      | some (tid, r1) =>
        match r1.rU16 with
        | none => some (⟨r1, c⟩, [.thdr tid 0 sc], [IpfixIR.errReader])
        | some (n, r2) =>
          match r2.rU16 with
          | none => some (⟨r2, c⟩, [.thdr tid n 0], [IpfixIR.errReader])
          | some (m, r3) => some (⟨r3, c⟩, [.thdr tid n m], [.nil]) :=
  IpfixIR.tplHeaderUnmarshalOpts_sem addr fuel r c a b sc

/-- **`SetHeader.unmarshal` translated**: SetID then Length — the two reads with which `Ipfix.decodeSet` begins -/
theorem gen_ir_setHeaderUnmarshal (addr : Bytes) (fuel : Nat) (r : Rd) (c : Cache) (a b : Nat) :
    IpfixProg.setHeaderUnmarshal addr fuel [.shdr a b] ⟨r, c⟩ =
      match r.rU16 with
      | none => some (⟨r, c⟩, [.shdr 0 b], [IpfixIR.errReader])
      | some (sid, r1) =>
        match r1.rU16 with
        | none => some (⟨r1, c⟩, [.shdr sid 0], [IpfixIR.errReader])
        | some (len, r2) => some (⟨r2, c⟩, [.shdr sid len], [.nil]) :=
  IpfixIR.setHeaderUnmarshal_sem addr fuel r c a b

/-- **`TemplateRecord.unmarshal` translated = `Ipfix.parseTpl`** on a fresh record (`tr := TemplateRecord{}` in
`decodeSet`): header, the copies into `tr`, the count-down loop `for i := th.FieldCount; i > 0; i--` that appends one
specifier per round — for every reader state.  `fuel`: more than the octets left (a specifier takes at least 4). -/
theorem gen_ir_tplRecordUnmarshal (addr : Bytes) (fuel : Nat) (r : Rd) (c : Cache) (hfuel : r.rem.length < fuel) :
    match Ipfix.parseTpl r with
    | (.ok t, r') => IpfixProg.tplRecordUnmarshal addr fuel [.tpl Ipfix.emptyTpl] ⟨r, c⟩ = some (⟨r', c⟩, [.tpl t], [.nil])
    | (.error e, r') => ∃ t', IpfixProg.tplRecordUnmarshal addr fuel [.tpl Ipfix.emptyTpl] ⟨r, c⟩ =
        some (⟨r', c⟩, [.tpl t'], [.err ⟨false, e⟩]) :=
  IpfixIR.tplRecordUnmarshal_sem addr fuel r c hfuel

/-- **`TemplateRecord.unmarshalOpts` translated = `Ipfix.parseOptTpl`**: the scope loop, then the loop over
`th.FieldCount - th.ScopeFieldCount` — a 16-bit subtraction that WRAPS when the scope count exceeds the field count,
in the translation (`.bin .sub .u16`) as in the model (`(n + 65536 - sc) % 65536`) -/
theorem gen_ir_tplRecordUnmarshalOpts (addr : Bytes) (fuel : Nat) (r : Rd) (c : Cache) (hfuel : r.rem.length < fuel) :
    match Ipfix.parseOptTpl r with
    | (.ok t, r') => IpfixProg.tplRecordUnmarshalOpts addr fuel [.tpl Ipfix.emptyTpl] ⟨r, c⟩ = some (⟨r', c⟩, [.tpl t], [.nil])
    | (.error e, r') => ∃ t', IpfixProg.tplRecordUnmarshalOpts addr fuel [.tpl Ipfix.emptyTpl] ⟨r, c⟩ =
        some (⟨r', c⟩, [.tpl t'], [.err ⟨false, e⟩]) :=
  IpfixIR.tplRecordUnmarshalOpts_sem addr fuel r c hfuel

/-- **`MessageHeader.unmarshal` translated = `Ipfix.readHeader`**: Version, Length (16 bits), ExportTime, SequenceNo,
DomainID (32 bits) in this order; any short read gives the reader's error -/
theorem gen_ir_msgHeaderUnmarshal (addr : Bytes) (fuel : Nat) (r : Rd) (c : Cache) (h0 : IpfixIR.MHdr) :
    match Ipfix.readHeader r with
    | some (h, r') => ∃ h1 : IpfixIR.MHdr, h1.toHdr = h ∧
        IpfixProg.msgHeaderUnmarshal addr fuel [.mhdr h0] ⟨r, c⟩ = some (⟨r', c⟩, [.mhdr h1], [.nil])
    | none => ∃ r' h1, IpfixProg.msgHeaderUnmarshal addr fuel [.mhdr h0] ⟨r, c⟩ =
        some (⟨r', c⟩, [.mhdr h1], [IpfixIR.errReader]) :=
  IpfixIR.msgHeaderUnmarshal_sem addr fuel r c h0

/-- **`MessageHeader.validate` translated**: the version test of `Ipfix.decode` (`h.headD 0 ≠ 10`), a fatal error -/
theorem gen_ir_msgHeaderValidate (addr : Bytes) (fuel : Nat) (st : IpfixIR.St) (h : IpfixIR.MHdr) :
    IpfixProg.msgHeaderValidate addr fuel [.mhdr h] st =
      some (st, [.mhdr h], [if h.toHdr.headD 0 ≠ 10 then .err ⟨false, .badVersion⟩ else .nil]) :=
  IpfixIR.msgHeaderValidate_sem addr fuel st h

set_option maxRecDepth 100000 in
/-- non-vacuity: the translated `TemplateRecord.unmarshal` on the record `01 00 00 02 | 00 08 00 04 | 00 0c 00 04`
(template 256 with two fields) and on the same record cut inside its second specifier -/
example : IpfixProg.tplRecordUnmarshal [] 13 [.tpl Ipfix.emptyTpl] ⟨⟨[1, 0, 0, 2, 0, 8, 0, 4, 0, 12, 0, 4], 0⟩, []⟩ =
    some (⟨⟨[], 12⟩, []⟩, [.tpl ⟨256, 2, 0, [], [⟨8, 4, 0⟩, ⟨12, 4, 0⟩]⟩], [.nil]) :=
  gen_ir_tplRecordUnmarshal [] 13 ⟨[1, 0, 0, 2, 0, 8, 0, 4, 0, 12, 0, 4], 0⟩ [] (by decide)
set_option maxRecDepth 100000 in
example : ∃ t', IpfixProg.tplRecordUnmarshal [] 13 [.tpl Ipfix.emptyTpl] ⟨⟨[1, 0, 0, 2, 0, 8, 0, 4, 0, 12, 0], 0⟩, []⟩ =
    some (⟨⟨[0], 10⟩, []⟩, [.tpl t'], [.err ⟨false, .short⟩]) :=
  gen_ir_tplRecordUnmarshal [] 13 ⟨[1, 0, 0, 2, 0, 8, 0, 4, 0, 12, 0], 0⟩ [] (by decide)

/-- non-vacuity: the translated `getDataLength` on the three-octet prefix `ff 01 00` and on a short reader; the
translated `minRecordLen` on a template with a variable-length field -/
example : IpfixProg.getDataLength [] 0 [.int 65535] ⟨⟨[255, 1, 0, 7], 0⟩, []⟩ = some (⟨⟨[7], 3⟩, []⟩, [], [.int 256, .nil]) ∧
    IpfixProg.getDataLength [] 0 [.int 65535] ⟨⟨[255, 1], 0⟩, []⟩ = some (⟨⟨[1], 1⟩, []⟩, [], [.int 0, .err ⟨false, .short⟩]) ∧
    IpfixProg.minRecordLen [] 0 [.tpl exTpl] ⟨⟨[], 0⟩, []⟩ = some (⟨⟨[], 0⟩, []⟩, [.tpl exTpl], [.int 5]) := by
  refine ⟨?_, ?_, ?_⟩
  · rw [gen_ir_getDataLength]; rfl
  · rw [gen_ir_getDataLength]; rfl
  · rw [gen_ir_minRecordLen]; rfl

/-- **Tie (control-flow skeleton)**: every branch / loop condition, switch case and `break` / `continue` of the
sources this model mirrors, re-extracted on every run, is exactly the reviewed inventory in `Spec/Sites.lean`
(which names the model clause of each).  A changed bound, a new or dropped branch breaks this obligation. -/
theorem guards_reviewed : Gen.Sites.guardsIpfix = Spec.Sites.guardsIpfix := rfl

end Vflow.C03
