import Vflow.Proofs.PipelineAcct
import Vflow.Props.C12
import Vflow.Props.C08
import Vflow.Model.Ipfix
import Vflow.Model.V9
/-!
# C13 — each received datagram is accounted for and published at most once

Same model as C12 (`Vflow.Pipeline`), with the ghost event log: `received d`, `countUDP id`
(`UDPCount++`), `decoded id cache result`, `countDecoded id` (`DecodedCount++`), `published id payload`
(the non-blocking MQ enqueue found room), `dropped id payload` (it did not). `nK k log id` counts the
events of kind `k` about datagram `id`: 0 countUDP, 1 decoded, 2 countDecoded, 3 publish attempt
(published or dropped).

All theorems: ANY number of workers, ANY datagram sequence, EVERY schedule (`Reach`), every `Canonical`
worker program; `spec` is the code's own notion of "decoded" (`.onMsg`: ipfix / v9 / v5 count when
`Decode` returned a message; `.onYield`: sFlow counts when the datagram decoded, has a sample and
marshalled) — the obligations at the end check the extracted programs against it.

For NetFlow v5 the two notions coincide since the F29 repair (`v5_counted_iff_decodes`): the decoder model
returns a message **or** an error, never both (`V5.decode : Except V5Err Msg`), and it returns a message
exactly for the datagrams that hold a version-5 header with a count in 1..30 and all announced records
(`C08.decode_ok_iff`).  Before the repair `type nonfatalError error` made `Decode` hand out the header
together with the error for a datagram shorter than announced, and `DecodedCount` counted it.
-/
namespace Vflow.C13
open Vflow Vflow.Pipeline

variable {K : Codec} {cfg : Cfg} {spec : CountSpec}

/-- a predicate that at most one element of a list satisfies picks that element -/
theorem uniq_of_countP_le_one {α} {p : α → Bool} : ∀ {l : List α}, l.countP p ≤ 1 → ∀ {a b}, a ∈ l → b ∈ l →
    p a = true → p b = true → a = b
  | [], _, a, b, ha, _, _, _ => by simp at ha
  | x :: t, h, a, b, ha, hb, pa, pb => by
      simp only [List.countP_cons] at h
      have pos : ∀ y, y ∈ t → p y = true → 0 < t.countP p := fun y hy py => List.countP_pos_iff.mpr ⟨y, hy, py⟩
      rcases List.mem_cons.mp ha with rfl | ha' <;> rcases List.mem_cons.mp hb with rfl | hb'
      · rfl
      · have := pos b hb' pb; rw [if_pos pa] at h; omega
      · have := pos a ha' pa; rw [if_pos pb] at h; omega
      · exact uniq_of_countP_le_one (by split at h <;> omega) ha' hb' pa pb

theorem ite_le_one {c : Prop} [Decidable c] : (if c then 1 else 0) ≤ 1 := by
  by_cases h : c
  · rw [if_pos h]; exact Nat.le_refl 1
  · rw [if_neg h]; exact Nat.zero_le 1

/-- the counts of a received datagram, by where it currently is -/
theorem counts_by_place (hc : Canonical spec cfg.prog) {c : K.Cache} {mem0 : BufId → Bytes} {s : State K}
    (hr : Reach cfg (init K c mem0) s) (d : Dgram) (hd : Event.received d ∈ s.log) :
    (nK 0 s.log d.id = 0 ∧ (∃ b, s.rx = .read b d) ∨ nK 0 s.log d.id = 1) ∧
    nK 1 s.log d.id ≤ 1 ∧ nK 2 s.log d.id ≤ 1 ∧ nK 3 s.log d.id ≤ 1 := by
  obtain ⟨hinv, hacct, _⟩ := reach_all (spec := spec) hc hr
  -- the place of `d` knows its counts
  have key : ∃ u e c p, Cnts s.log d.id u e c p ∧ (u = 0 ∧ (∃ b, s.rx = .read b d) ∨ u = 1) ∧ e ≤ 1 ∧ c ≤ 1 ∧ p ≤ 1 := by
    rcases hacct.place d hd with ⟨b, hrx | hrx⟩ | ⟨b, hq⟩ | ⟨i, w, hi, hw⟩ | hf
    · exact ⟨_, _, _, _, hacct.rxR b d hrx, .inl ⟨rfl, b, hrx⟩, by decide, by decide, by decide⟩
    · exact ⟨_, _, _, _, hacct.rxC b d hrx, .inr rfl, by decide, by decide, by decide⟩
    · exact ⟨_, _, _, _, hacct.qA b d hq, .inr rfl, by decide, by decide, by decide⟩
    · obtain ⟨a, hsim, _⟩ := (hinv.wk i w hi).resolve_left fun ⟨_, hcn⟩ => by rw [hcn] at hw; cases hw
      exact ⟨_, _, _, _, hacct.wA i w hi d hw, .inr rfl, hsim.cnt_dec ▸ ite_le_one, hsim.cnt_cnt ▸ ite_le_one,
        hsim.cnt_pub ▸ ite_le_one⟩
    · obtain ⟨_, c', _, hcn⟩ := hacct.finA d hf
      exact ⟨_, _, _, _, hcn, .inr rfl, by decide, ite_le_one, ite_le_one⟩
  obtain ⟨u, e, c, p, ⟨rfl, rfl, rfl, rfl⟩, hu, he, hc, hp⟩ := key
  exact ⟨hu, he, hc, hp⟩

/-- **C13 (accounted for)**: every received datagram is, in every reachable state, in exactly one of:
the read loop (read, not yet enqueued), the UDP channel, one worker, or finished — it is never lost
and never duplicated (`drefs` counts the places with multiplicity) -/
theorem received_is_somewhere (hc : Canonical spec cfg.prog) {c : K.Cache} {mem0 : BufId → Bytes} {s : State K}
    (hr : Reach cfg (init K c mem0) s) (d : Dgram) (hd : Event.received d ∈ s.log) :
    inPlace s d ∧ drefs s d.id ≤ 1 :=
  let h := reach_all (spec := spec) hc hr
  ⟨h.2.1.place d hd, h.2.1.dlive d.id⟩

/-- **C13 (UDPCount)**: each received datagram contributes exactly one `countUDP` — none only while the
read loop is between `ReadFromUDP` and the increment —, and the counter is the number of such events -/
theorem countUDP_exactly_once (hc : Canonical spec cfg.prog) {c : K.Cache} {mem0 : BufId → Bytes} {s : State K}
    (hr : Reach cfg (init K c mem0) s) (d : Dgram) (hd : Event.received d ∈ s.log) :
    nK 0 s.log d.id ≤ 1 ∧ ((∀ b, s.rx ≠ .read b d) → nK 0 s.log d.id = 1) ∧
    s.udpCount = s.log.countP isCountUDP := by
  refine ⟨?_, fun hn => ?_, (reach_tot hr).1⟩ <;> rcases (counts_by_place hc hr d hd).1 with ⟨h, b, hb⟩ | h
  · rw [h]; exact Nat.zero_le 1
  · exact Nat.le_of_eq h
  · exact absurd hb (hn b)
  · exact h

/-- **C13 (at most once)**: in every reachable state each received datagram has been decoded at most
once, counted in `DecodedCount` at most once, and handed to the MQ channel at most once (attempts,
successful or not) -/
theorem at_most_once (hc : Canonical spec cfg.prog) {c : K.Cache} {mem0 : BufId → Bytes} {s : State K}
    (hr : Reach cfg (init K c mem0) s) (d : Dgram) (hd : Event.received d ∈ s.log) :
    nK 1 s.log d.id ≤ 1 ∧ nK 2 s.log d.id ≤ 1 ∧ nK 3 s.log d.id ≤ 1 ∧
    s.decCount = s.log.countP isCountDecoded :=
  let h := counts_by_place hc hr d hd
  ⟨h.2.1, h.2.2.1, h.2.2.2, (reach_tot hr).2⟩

/-- **C13 (exactly once iff)**: once the worker's iteration for datagram `d` is over (`d ∈ fin`): one
`countUDP`; decoded exactly once, under some cache `c`, with result `r = decode c addr octets` of its
own octets; exactly one `countDecoded` iff `r` counts by the code's own notion (`counts`), else none;
exactly one publish attempt iff `r` has data and marshals (`outcome`), else none -/
theorem finished_account (hc : Canonical spec cfg.prog) {c : K.Cache} {mem0 : BufId → Bytes} {s : State K}
    (hr : Reach cfg (init K c mem0) s) (d : Dgram) (hf : d ∈ s.fin) :
    Event.received d ∈ s.log ∧
    ∃ c', Event.decoded d.id c' (K.decode c' d.addr d.bytes).1 ∈ s.log ∧
      nK 0 s.log d.id = 1 ∧ nK 1 s.log d.id = 1 ∧
      nK 2 s.log d.id = (if counts K spec (K.decode c' d.addr d.bytes).1 = true then 1 else 0) ∧
      nK 3 s.log d.id = (if (outcome K (K.decode c' d.addr d.bytes).1).isSome = true then 1 else 0) :=
  (reach_all (spec := spec) hc hr).2.1.finA d hf

/-- **C13 (queue not full at that step)**: a publish attempt is recorded as `published` only by a step
that finds room on the MQ channel, and as `dropped` only by a step that finds it full — so a datagram
that yields a payload is published exactly once iff the queue is not full at that step -/
theorem attempt_outcome {s s' : State K} (hs : Step cfg s s') (id : Nat) (p : Bytes) :
    (Event.published id p ∈ s'.log → Event.published id p ∈ s.log ∨ s.mq.length < cfg.mqCap) ∧
    (Event.dropped id p ∈ s'.log → Event.dropped id p ∈ s.log ∨ cfg.mqCap ≤ s.mq.length) :=
by
  obtain ⟨e0, hl⟩ := hs.logged
  refine ⟨fun hd => ?_, fun hd => ?_⟩ <;> rcases hl.mem hd with rfl | hd
  · exact .inr hl.2.2.2.2
  · exact .inl hd
  · exact .inr hl.2.2.2.2
  · exact .inl hd

/-- **C13 (belongs)**: every published payload belongs to a received datagram and is its solo result;
and what was handed to the MQ channel is exactly what is queued there plus what its consumer has read -/
theorem published_belongs (hc : Canonical spec cfg.prog) {c : K.Cache} {mem0 : BufId → Bytes} {s : State K}
    (hr : Reach cfg (init K c mem0) s) :
    (∀ id p, (id, p) ∈ pubList s.log → Sol s.log id p) ∧
    pubList s.log = (s.mq.reverse.map itemPair) ++ s.delivered := by
  obtain ⟨hinv, _, hpub⟩ := reach_all (spec := spec) hc hr
  exact ⟨fun id p h => hinv.pubOk id p (mem_pubList.mp h), hpub⟩

/-- quiescence: the read loop is between datagrams, the UDP channel is empty, no worker is in the
middle of an iteration -/
def Quiescent (s : State K) : Prop :=
  (s.rx = .idle ∨ ∃ b, s.rx = .got b) ∧ s.udpq = [] ∧
  ∀ (i : Nat) (w : Worker K), s.workers[i]? = some w → w.cur = none

theorem quiescent_fin (hc : Canonical spec cfg.prog) {c : K.Cache} {mem0 : BufId → Bytes} {s : State K}
    (hr : Reach cfg (init K c mem0) s) (hq : Quiescent s) (d : Dgram) (hd : Event.received d ∈ s.log) :
    d ∈ s.fin := by
  obtain ⟨hrx, hu, hw⟩ := hq
  rcases (reach_all (spec := spec) hc hr).2.1.place d hd with ⟨b, h⟩ | ⟨b, h⟩ | ⟨i, w, hi, h⟩ | hf
  · rcases hrx with e | ⟨b', e⟩ <;> rw [e] at h <;> exact h.elim nofun nofun
  · rw [hu] at h; cases h
  · rw [hw i w hi] at h; cases h
  · exact hf

/-- **C13 (quiescence)**: at quiescence, if the MQ channel was never found full, the published
messages are exactly the solo results of the received datagrams that yield one: for every received
datagram `d` there is the cache `c'` under which it was (once) decoded, a message with id `d.id` and
payload `p` was published iff `p` is `marshal (decode c' addr octets)` of `d`'s own octets (message with
data that marshals), and at most one message carries `d.id`; every published message carries the id
of a received datagram (`published_belongs`). Together with `countUDP_exactly_once` and
`finished_account` the counters are `UDPCount = #received`, `DecodedCount = #{d | counts d}`. -/
theorem quiescent_published_exact (hc : Canonical spec cfg.prog) {c : K.Cache} {mem0 : BufId → Bytes}
    {s : State K} (hr : Reach cfg (init K c mem0) s) (hq : Quiescent s)
    (hnd : ∀ id p, Event.dropped id p ∉ s.log) (d : Dgram) (hd : Event.received d ∈ s.log) :
    ∃ c', Event.decoded d.id c' (K.decode c' d.addr d.bytes).1 ∈ s.log ∧
      (∀ p, (d.id, p) ∈ pubList s.log ↔ outcome K (K.decode c' d.addr d.bytes).1 = some p) ∧
      ((pubList s.log).map (·.1)).count d.id ≤ 1 := by
  obtain ⟨hinv, hacct, _⟩ := reach_all (spec := spec) hc hr
  obtain ⟨_, c', hdec, h0, h1, h2, h3⟩ := hacct.finA d (quiescent_fin hc hr hq d hd)
  have hfwd : ∀ p, (d.id, p) ∈ pubList s.log → outcome K (K.decode c' d.addr d.bytes).1 = some p := by
    intro p hp
    obtain ⟨d2, c2, r1, r2, r3, r4⟩ := hinv.pubOk d.id p (mem_pubList.mp hp)
    cases (reach_recvUniq hr).2 d2 d r1 hd r2
    -- `d` was decoded once (`h1`): the decode `Sol` speaks of is the one `Final` speaks of
    cases uniq_of_countP_le_one (p := fun e => tag e == some (1, d.id)) (Nat.le_of_eq h1) r3 hdec
      (beq_self_eq_true _) (beq_self_eq_true _)
    exact r4
  refine ⟨c', hdec, fun p => ⟨hfwd p, fun hp => ?_⟩, Nat.le_trans (count_pubList_le s.log d.id) (h3 ▸ ite_le_one)⟩
  -- the datagram yields: there is exactly one attempt, and it was not dropped
  have h3 : nK 3 s.log d.id = 1 := by rw [h3, hp]; rfl
  obtain ⟨e, he, hte⟩ := List.countP_pos_iff.mp (show 0 < nK 3 s.log d.id from h3 ▸ Nat.one_pos)
  have hte := eq_of_beq hte
  cases e with
  | published id' p' =>
    cases hte
    have hm := mem_pubList.mpr he
    cases (hfwd p' hm).symm.trans hp
    exact hm
  | dropped id' p' => exact absurd he (hnd _ _)
  | _ => cases hte

/-! ## the tie to the current source (regenerated facts) -/

/-- the obligations of C12, read for C13: a `Canonical .onMsg` worker counts and publishes each datagram exactly as
`.onMsg` says (ipfix / v9 / v5) -/
theorem head_workers_canonical :
    Canonical .onMsg Gen.ipfixWorker ∧ Canonical .onMsg Gen.netflowV9Worker ∧
    Canonical .onMsg Gen.netflowV5Worker :=
  ⟨C12.ipfixWorker_canonical, C12.netflowV9Worker_canonical, C12.netflowV5Worker_canonical⟩
/-- … and a `Canonical .onYield` one as `.onYield` says (sFlow) -/
theorem sFlowWorker_canonical : Canonical .onYield Gen.sFlowWorker := C12.sFlowWorker_canonical
/-- the four read loops count each datagram once, before enqueueing it, and all that follows the
loop in `run()` is the reader closing its own UDP channel (`canonicalRxTail`: nothing is counted or enqueued after the loop) -/
theorem readloops_canonical :
    Gen.ipfixRun = canonicalRx ∧ Gen.netflowV9Run = canonicalRx ∧ Gen.netflowV5Run = canonicalRx ∧
    Gen.sFlowRun = canonicalRx ∧
    Gen.ipfixRunTail = canonicalRxTail ∧ Gen.netflowV9RunTail = canonicalRxTail ∧
    Gen.netflowV5RunTail = canonicalRxTail ∧ Gen.sFlowRunTail = canonicalRxTail := C12.readloops_canonical

/-! ## NetFlow v5: "counted as decoded" is "decodes successfully" (F29) -/

/-- the NetFlow v5 instance of the pipeline's codec parameter: `Decode` of `Vflow.V5` (no template cache; `none`
= `(nil, err)`), the worker's `Flows != nil` test, `JSONMarshal` (never fails) -/
def v5Codec : Codec where
  Cache := Unit
  Msg := V5.Msg
  decode := fun _ addr bs =>
    (match V5.decode bs with
     | .ok m => some m
     | .error _ => none, ())
  hasData := fun m => !m.flows.isEmpty
  marshal := fun m => some (V5.marshal [] m)

/-- **C13 (NetFlow v5, exactly once as decoded iff it decodes successfully)**: for every number of workers, every
datagram sequence and every schedule of the extracted `netflowV5Worker` (any `.onMsg`-canonical program), a
datagram whose iteration is over has been counted in `DecodedCount` exactly once if it holds a header with
version 5, a count in 1..30 and all `24 + 48·Count` octets, and not at all otherwise — in particular not when it
is 1..47 octets short of what its header announces (the F29 input) -/
theorem v5_counted_iff_decodes (hc : Canonical .onMsg cfg.prog) {mem0 : BufId → Bytes} {s : State v5Codec}
    (hr : Reach cfg (init v5Codec () mem0) s) (d : Dgram) (hf : d ∈ s.fin) :
    nK 2 s.log d.id =
      (if 24 ≤ d.bytes.length ∧ V5.fieldAt (Spec.valuesAt (V5.widths Spec.v5Header) d.bytes) 0 = 5 ∧
          1 ≤ V5.fieldAt (Spec.valuesAt (V5.widths Spec.v5Header) d.bytes) 1 ∧
          V5.fieldAt (Spec.valuesAt (V5.widths Spec.v5Header) d.bytes) 1 ≤ 30 ∧
          24 + 48 * V5.fieldAt (Spec.valuesAt (V5.widths Spec.v5Header) d.bytes) 1 ≤ d.bytes.length
       then 1 else 0) := by
  obtain ⟨_, c', _, _, _, h2, _⟩ := finished_account (spec := .onMsg) hc hr d hf
  rw [h2]
  have hiff := C08.decode_ok_iff d.bytes
  have hcnt : counts v5Codec .onMsg (v5Codec.decode c' d.addr d.bytes).1 = true ↔ ∃ m, V5.decode d.bytes = .ok m := by
    simp only [counts, v5Codec]
    cases V5.decode d.bytes with
    | ok m => simp
    | error e => simp
  by_cases hok : ∃ m, V5.decode d.bytes = .ok m
  · rw [if_pos (hcnt.mpr hok), if_pos (hiff.mp hok)]
  · rw [if_neg (fun h => hok (hcnt.mp h)), if_neg (fun h => hok (hiff.mpr h))]

/-- non-vacuity: the one-flow datagram of `Props/C08` counts as decoded and yields a payload; cut one octet
short it does neither (before the F29 repair it counted) -/
example :
    counts v5Codec .onMsg (v5Codec.decode () [] C08.exPacket).1 = true ∧
    (outcome v5Codec (v5Codec.decode () [] C08.exPacket).1).isSome = true ∧
    counts v5Codec .onMsg (v5Codec.decode () [] (C08.exPacket.take 71)).1 = false ∧
    outcome v5Codec (v5Codec.decode () [] (C08.exPacket.take 71)).1 = none := by decide +kernel

/-! ## IPFIX and NetFlow v9: counted iff `Decode` returned a message, offered iff it holds a record -/


/-- the message a worker holds after `Decode`: `none` = `(nil, err)` -/
def msgOf (addr : Bytes) : Except Err (Hdr × List Record × List Err) → Option (Bytes × Hdr × List Record)
  | .ok (h, recs, _) => some (addr, h, recs)
  | .error _ => none

/-- the pipeline's codec parameter for a flow decoder `dec` with template cache (IPFIX, NetFlow v9): a message iff `Decode`
returned one, the worker's data-set test, a `JSONMarshal` that never fails -/
def flowCodec (dec : Cache → Bytes → Bytes → Except Err (Hdr × List Record × List Err) × Cache)
    (mar : Bytes → Hdr → List Record → Bytes) : Codec where
  Cache := Cache
  Msg := Bytes × Hdr × List Record
  decode := fun c addr bs => (msgOf addr (dec c addr bs).1, (dec c addr bs).2)
  hasData := fun m => !m.2.2.isEmpty
  marshal := fun m => some (mar m.1 m.2.1 m.2.2)

/-- how often a finished datagram is counted as decoded / offered to the queue, by what its decode returned -/
def decodedTimes : Except Err (Hdr × List Record × List Err) → Nat
  | .ok _ => 1 | .error _ => 0
def offeredTimes : Except Err (Hdr × List Record × List Err) → Nat
  | .ok (_, [], _) => 0 | .ok _ => 1 | .error _ => 0

theorem msgOf_counts (addr : Bytes) (r : Except Err (Hdr × List Record × List Err)) :
    (if (msgOf addr r).isSome = true then 1 else 0) = decodedTimes r := by
  cases r with
  | ok m => obtain ⟨h, recs, es⟩ := m; simp [msgOf, decodedTimes]
  | error e => simp [msgOf, decodedTimes]

theorem msgOf_offered (mar : Bytes → Hdr → List Record → Bytes) (addr : Bytes)
    (r : Except Err (Hdr × List Record × List Err)) :
    (if ((msgOf addr r).bind fun m => if (!m.2.2.isEmpty) = true then some (mar m.1 m.2.1 m.2.2) else none).isSome = true
      then 1 else 0) = offeredTimes r := by
  cases r with
  | ok m => obtain ⟨h, recs, es⟩ := m; cases recs <;> simp [msgOf, offeredTimes]
  | error e => simp [msgOf, offeredTimes]

/-- **C13 (IPFIX / NetFlow v9 shape, in the property's words)**: for every number of workers, every datagram sequence and
every schedule of an `.onMsg`-canonical worker program, a datagram whose iteration is over was counted once as received
and — with `c'` the template cache in force when it was decoded — counted as decoded exactly once if `Decode` returned
a message and not at all if it returned an error; and offered to the outgoing queue exactly once if that message holds
at least one record, not at all otherwise: a template-only datagram, a datagram whose sets are all unknown, and an
undecodable one give rise to no message (the trial change `seeded/C13-i` to the Go source published the worker's previous payload for the first kind). -/
theorem flow_counted_and_offered
    (dec : Cache → Bytes → Bytes → Except Err (Hdr × List Record × List Err) × Cache)
    (mar : Bytes → Hdr → List Record → Bytes)
    (hc : Canonical .onMsg cfg.prog) {c : Cache} {mem0 : BufId → Bytes} {s : State (flowCodec dec mar)}
    (hr : Reach cfg (init (flowCodec dec mar) c mem0) s) (d : Dgram) (hf : d ∈ s.fin) :
    nK 0 s.log d.id = 1 ∧
    ∃ c' : Cache, nK 2 s.log d.id = decodedTimes (dec c' d.addr d.bytes).1 ∧
      nK 3 s.log d.id = offeredTimes (dec c' d.addr d.bytes).1 := by
  obtain ⟨_, c', _, h0, _, h2, h3⟩ := finished_account (spec := .onMsg) hc hr d hf
  exact ⟨h0, c', h2.trans (msgOf_counts d.addr _), h3.trans (msgOf_offered mar d.addr _)⟩

/-- the IPFIX instance (`Ipfix.decode`, any marshal function) -/
theorem ipfix_counted_and_offered (mar : Bytes → Hdr → List Record → Bytes)
    (hc : Canonical .onMsg cfg.prog) {c : Cache} {mem0 : BufId → Bytes} {s : State (flowCodec Ipfix.decode mar)}
    (hr : Reach cfg (init (flowCodec Ipfix.decode mar) c mem0) s) (d : Dgram) (hf : d ∈ s.fin) :
    nK 0 s.log d.id = 1 ∧
    ∃ c' : Cache, nK 2 s.log d.id = decodedTimes (Ipfix.decode c' d.addr d.bytes).1 ∧
      nK 3 s.log d.id = offeredTimes (Ipfix.decode c' d.addr d.bytes).1 :=
  flow_counted_and_offered Ipfix.decode mar hc hr d hf

/-- the NetFlow v9 instance -/
theorem v9_counted_and_offered (mar : Bytes → Hdr → List Record → Bytes)
    (hc : Canonical .onMsg cfg.prog) {c : Cache} {mem0 : BufId → Bytes} {s : State (flowCodec V9.decode mar)}
    (hr : Reach cfg (init (flowCodec V9.decode mar) c mem0) s) (d : Dgram) (hf : d ∈ s.fin) :
    nK 0 s.log d.id = 1 ∧
    ∃ c' : Cache, nK 2 s.log d.id = decodedTimes (V9.decode c' d.addr d.bytes).1 ∧
      nK 3 s.log d.id = offeredTimes (V9.decode c' d.addr d.bytes).1 :=
  flow_counted_and_offered V9.decode mar hc hr d hf


set_option maxRecDepth 20000 in
/-- non-vacuity: a template-only message is counted and not offered; the data message for it is not offered before the
template is known (no record) and offered after; a malformed message is neither counted nor offered -/
example :
    let tmpl : Bytes := [0,10,0,28, 0,0,0,0, 0,0,0,1, 0,0,0,0, 0,2,0,12, 1,0,0,1, 0,4,0,1]
    let data : Bytes := [0,10,0,21, 0,0,0,0, 0,0,0,2, 0,0,0,0, 1,0,0,5, 17]
    let bad : Bytes := [0,10,0,20,0,0,0,0,0,0,0,1,0,0,0,0,1,0,0,3,9,9]
    let c1 := (Ipfix.decode [] [10,0,0,1] tmpl).2
    (decodedTimes (Ipfix.decode [] [10,0,0,1] tmpl).1, offeredTimes (Ipfix.decode [] [10,0,0,1] tmpl).1) = (1, 0) ∧
    (decodedTimes (Ipfix.decode [] [10,0,0,1] data).1, offeredTimes (Ipfix.decode [] [10,0,0,1] data).1) = (1, 0) ∧
    (decodedTimes (Ipfix.decode c1 [10,0,0,1] data).1, offeredTimes (Ipfix.decode c1 [10,0,0,1] data).1) = (1, 1) ∧
    (decodedTimes (Ipfix.decode c1 [10,0,0,1] bad).1, offeredTimes (Ipfix.decode c1 [10,0,0,1] bad).1) = (0, 0) := by
  decide +kernel

/-! ## non-vacuity and mutants -/

/-- a toy codec: decodes iff non-empty, has data iff longer than one octet, marshals (to the reversal)
iff the first octet is not 255 -/
def toy : Codec where
  Cache := Unit
  Msg := Bytes
  decode := fun _ _ bs => (if bs.isEmpty then none else some bs, ())
  hasData := fun m => decide (1 < m.length)
  marshal := fun m => if m.head? = some 255 then none else some m.reverse

def feed (addr bytes : Bytes) : List Action := [.rxGetNew, .rxRead (some (addr, bytes)), .rxCount, .rxEnqueue]
def works (i n : Nat) : List Action := List.replicate n (.work i false none)

/-- non-vacuity (ipfix shape): four datagrams — yields / template-only / undecodable / marshal error —
two workers; quiescent at the end; UDPCount 4, DecodedCount 3, one message published -/
example :
    let s := run (K := toy) { prog := Gen.ipfixWorker } (init toy () (fun _ => []))
      ([.spawn none, .spawn none] ++ feed [1] [10, 11] ++ feed [1] [7] ++ feed [2] [] ++ feed [2] [255, 1] ++
       works 0 20 ++ works 1 20 ++ works 0 20 ++ works 1 20)
    s.udpCount = 4 ∧ s.decCount = 3 ∧ pubList s.log = [(0, [11, 10])] ∧ s.fin.length = 4 ∧
    s.udpq = [] ∧ s.rx = .idle ∧ s.workers.all (fun w => w.cur.isNone) = true := by decide +kernel

/-- non-vacuity (sFlow shape): the same traffic; DecodedCount counts only what is published -/
example :
    let s := run (K := toy) { prog := Gen.sFlowWorker } (init toy () (fun _ => []))
      ([.spawn none, .spawn none] ++ feed [1] [10, 11] ++ feed [1] [7] ++ feed [2] [] ++ feed [2] [255, 1] ++
       works 0 20 ++ works 1 20 ++ works 0 20 ++ works 1 20)
    s.udpCount = 4 ∧ s.decCount = 1 ∧ pubList s.log = [(0, [11, 10])] ∧ s.fin.length = 4 := by decide +kernel

/-- a full MQ channel: the second message is dropped, not published (capacity 1, no consumer) -/
example :
    let s := run (K := toy) { prog := Gen.ipfixWorker, mqCap := 1 } (init toy () (fun _ => []))
      ([.spawn none] ++ feed [1] [10, 11] ++ feed [1] [20, 21] ++ works 0 40)
    pubList s.log = [(0, [11, 10])] ∧ nK 3 s.log 1 = 1 ∧ s.decCount = 2 := by decide +kernel

def dropCount (p : Prog) : Prog := { p with loop := p.loop.filter (· ≠ .countDecoded) }
def dupInstr (x : Instr) (p : Prog) : Prog := { p with loop := p.loop.flatMap (fun i => if i = x then [i, i] else [i]) }
def dropDataTest (p : Prog) : Prog := { p with loop := p.loop.filter (· ≠ .contIf .noData false) }

/-- mutants: dropping the increment, incrementing twice, publishing twice, publishing without the
data test are all rejected by `Canonical` -/
theorem mutants_not_canonical :
    ¬ Canonical .onMsg (dropCount Gen.ipfixWorker) ∧
    ¬ Canonical .onMsg (dupInstr .countDecoded Gen.ipfixWorker) ∧
    ¬ Canonical .onMsg (dupInstr .publishCopy Gen.ipfixWorker) ∧
    ¬ Canonical .onMsg (dropDataTest Gen.ipfixWorker) ∧
    ¬ Canonical .onYield (dropCount Gen.sFlowWorker) ∧
    ¬ Canonical .onYield (dupInstr .publishCopy Gen.sFlowWorker) := by
  decide +kernel

end Vflow.C13
