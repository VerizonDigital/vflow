import Vflow.Gen.InfoModelTbl
import Vflow.Gen.InterpretTbl
import Vflow.Spec.Registry
import Vflow.Model.Flow
import Vflow.Gen.ShutdownIR
/-!
# C20 — built-in and shipped IPFIX information models agree

Every statement is about the tables *regenerated from the current source* by factgen
(`Vflow.Gen.InfoModelTbl`: the `InfoModel` literal, the `FieldTypes` map, the iota block of
`ipfix/rfc5102_model.go`; `scripts/ipfix.elements`), so `lake build` checks them against what
the code says now.  The space is finite (402 + 402 entries): every table fact is checked by evaluation.
-/
namespace Vflow.C20
open Vflow Vflow.Gen.InfoModelTbl

/-- the built-in table as `LoadExtElements` would rebuild it: (pen, id, name, type name) -/
def builtinAsShipped : List (Nat × Nat × String × String) :=
  builtin.map fun r => (r.1, r.2.1, r.2.2.2.1, r.2.2.2.2)

theorem map_eq_of_take_drop {α β : Type} (f : α → β) {l : List α} {r : List β} (n : Nat)
    (h₁ : (l.take n).map f = r.take n) (h₂ : (l.drop n).map f = r.drop n) : l.map f = r := by
  rw [← List.take_append_drop n l, List.map_append, h₁, h₂, List.take_append_drop]

/-- **C20 (equality)**: the built-in model and the shipped file define the same elements with
identical names and abstract data types -/
theorem builtin_eq_shipped : builtinAsShipped = shipped :=
  -- `rfl` compares the string literals as they stand (`String.decEq` in the kernel would take each apart into
  -- its bytes), but the elaborator's check recurses once per row and does not get through the 402 at once
  map_eq_of_take_drop _ 128 rfl <| map_eq_of_take_drop _ 128 rfl <| map_eq_of_take_drop _ 128 rfl rfl

/-- the YAML-subset parser of factgen recognised every line of the shipped file -/
theorem shipped_fully_parsed : shippedUnrecognised = [] := rfl

/-- **C20 (self-keyed)**: every entry is keyed by its own element id -/
theorem builtin_self_keyed : ∀ r ∈ builtin, r.2.2.1 = r.2.1 := by decide +kernel

/-- keys are duplicate-free (the table is sorted strictly by (pen, id)) -/
def strictlySorted : List (Nat × Nat) → Bool
  | a :: b :: t => (a.1 < b.1 || (a.1 == b.1 && a.2 < b.2)) && strictlySorted (b :: t)
  | _ => true
theorem builtin_keys_distinct : strictlySorted (builtin.map fun r => (r.1, r.2.1)) = true := by decide +kernel
theorem shipped_keys_distinct : strictlySorted (shipped.map fun r => (r.1, r.2.1)) = true := by
  rw [← builtin_eq_shipped, builtinAsShipped, List.map_map]
  exact builtin_keys_distinct

/-- **C20 (recognised types)**: every type name is in the generated `FieldTypes` map, or is one of the
three RFC 6313 structured types (basicList 291, subTemplateList 292, subTemplateMultiList 293), which resolve to
`Unknown` on both load paths: the collector does not interpret structured data and reports such a field as its
octets.  These elements are always sent variable-length (specifier length 65535); until the F23 repair the decoder
honoured the marker only for string / octetArray elements, so a data set of a template containing one of them lost
the whole message; C03's well-formedness predicate includes them
(`C03.f23_repaired`; `structured_elements_unknown` below pins how they resolve). -/
theorem builtin_types_recognised :
    ∀ r ∈ builtin, (fieldTypes.map (·.1)).contains r.2.2.2.2 = true ∨ r.2.2.2.2 ∈ Spec.structuredTypes := by
  decide +kernel
theorem shipped_types_recognised :
    ∀ r ∈ shipped, (fieldTypes.map (·.1)).contains r.2.2.2 = true ∨ r.2.2.2 ∈ Spec.structuredTypes := by
  rw [← builtin_eq_shipped]
  intro r hr
  obtain ⟨b, hb, rfl⟩ := List.mem_map.1 hr
  exact builtin_types_recognised b hb

/-- `lookupElem` on the built-in table, from a search of the list of its rows (the kernel evaluates `Array.find?` by
indexing, and each index by walking the list from its head) -/
theorem lookupElem_of_find {ent id : Nat} {e : Nat × Nat × Nat × Nat}
    (h : infoModelTbl.toList.find? (fun e => e.1 = ent ∧ e.2.1 = id) = some e) :
    Vflow.lookupElem ent id = some (e.2.2.1, e.2.2.2) := by
  unfold Vflow.lookupElem
  rw [← Array.find?_toList, h]

/-- the three structured-data elements are in the decoder's table, keyed by their own ids, with type index 0 (`Unknown`):
`interpret` returns their octets for every length -/
theorem structured_elements_unknown :
    Vflow.lookupElem 0 291 = some (291, 0) ∧ Vflow.lookupElem 0 292 = some (292, 0) ∧
    Vflow.lookupElem 0 293 = some (293, 0) ∧ ∀ b : Bytes, Vflow.interpret b 0 = .raw b := by
  refine ⟨lookupElem_of_find (e := (0, 291, 291, 0)) (by decide +kernel),
    lookupElem_of_find (e := (0, 292, 292, 0)) (by decide +kernel),
    lookupElem_of_find (e := (0, 293, 293, 0)) (by decide +kernel), fun b => ?_⟩
  simp [Vflow.interpret, Vflow.isUintT, Vflow.isIntT]

/-- the generated `FieldTypes` map is the registry's type table (names and FieldType indices) -/
theorem fieldTypes_eq_registry : fieldTypes = Spec.registryTypes := rfl

/-- **C20 (snapshot)**: both tables equal the committed registry snapshot the decoders are validated against -/
theorem shipped_eq_snapshot : shipped = Spec.registrySnapshot := rfl
theorem builtin_eq_snapshot : builtinAsShipped = Spec.registrySnapshot := by
  rw [builtin_eq_shipped]; exact shipped_eq_snapshot

/-- the table the decoder model uses (`infoModelTbl`) is the built-in table with each type name
resolved through `FieldTypes` — i.e. `InfoModel` as a function, before *and* after
`LoadExtElements` on the shipped file (by `builtin_eq_shipped` both paths build the same map) -/
theorem decoder_table_is_builtin :
    infoModelTbl.toList = builtin.map (fun r => (r.1, r.2.1, r.2.2.1, typeIndex r.2.2.2.2)) := by
  decide +kernel

/-- "decoding does not change depending on whether the file is installed": resolving the shipped
rows gives exactly the decoder table -/
theorem decoder_table_is_shipped :
    infoModelTbl.toList = shipped.map (fun r => (r.1, r.2.1, r.2.1, typeIndex r.2.2.2)) := by
  rw [decoder_table_is_builtin, ← builtin_eq_shipped, builtinAsShipped, List.map_map]
  refine List.map_congr_left fun r hr => ?_
  show (_, _, r.2.2.1, _) = (_, _, r.2.1, _)
  rw [builtin_self_keyed r hr]

/-- over regenerated facts: `LoadExtElements` builds each entry as the theorems above assume — keyed by
(PEN, element id), FieldID = the element id, type = the `FieldTypes` lookup of the row's type name
(a missing name giving `Unknown`) -/
theorem load_path_as_modelled :
    loadExtAssignment =
      "InfoModel[ElementKey{PEN, elementID}] = InfoElementEntry{FieldID: elementID, Name: prop[0], Type: FieldTypes[prop[1]]}" :=
  rfl

/-! ## The hand-written model's `minLen` / `interpret` agree with the generated switch tables -/

/-- `minLen` of the generated switch of `ipfix/interpret.go` -/
def genMinLen (t : Nat) : Option String :=
  match Gen.InterpretTbl.minLen.find? (·.1 = t) with
  | some e => some e.2
  | none => (Gen.InterpretTbl.minLen.find? (·.1 = 9998)).map (·.2)   -- default arm

theorem minLen_matches_source : ∀ t ∈ List.range 21, genMinLen t = some (toString (Vflow.minLen t)) := by
  decide +kernel

/-- the result kind of the generated `Interpret` switch, per FieldType -/
def genKind (t : Nat) : Option String := (Gen.InterpretTbl.interpretKind.find? (·.1 = t)).map (·.2)

/-- the helper the over-long branch of the generated `Interpret` (`if len(*b) > t.minLen() { switch t … }`, F24 repair)
calls for FieldType `t`, if any -/
def genWide (t : Nat) : Option String := (Gen.InterpretTbl.interpretWide.find? (·.1 = t)).map (·.2)

/-- the result kind the SOURCE gives a field of `n` octets of FieldType `t`, read off the regenerated facts: the guard
(`minLen`, tied to the generated switch by `minLen_matches_source`), the over-long branch (helper by `interpretWide`;
both helpers return the octets as they are when there are more than 8 and a 64-bit integer otherwise: their statements
are pinned in `interpret_wide_matches_source`), the main switch -/
def srcKind (t n : Nat) : Option String :=
  if n < Vflow.minLen t then some "raw"
  else if n > Vflow.minLen t ∧ (genWide t).isSome then
    (if genWide t = some "wideUint" then some (if n > 8 then "raw" else "u64")
     else if genWide t = some "wideInt" then some (if n > 8 then "raw" else "i64")
     else none)
  else genKind t

/-- every FieldType × every field length 0..20 (shorter than, equal to and longer than every type's size, below and
above 8 octets): `interpret` yields the kind the source returns -/
theorem interpret_kind_matches_source :
    ∀ t ∈ List.range 21, ∀ n ∈ List.range 21,
      srcKind t n = some (Vflow.interpret (List.replicate n 1) t).kind := by
  decide +kernel

/-- the statements of `Interpret` in order: guard, over-long branch, switch, final return; `minLen` is one switch -/
theorem interpret_guard_matches_source :
    Gen.InterpretTbl.interpretKindOther =
      ["if len(*b) < t.minLen() { return *b }", "if len(*b) > t.minLen() { switch t <interpretWide> }",
       "switch t <interpretKind>", "return *b"] ∧
    Gen.InterpretTbl.minLenOther = ["switch t <minLen>"] := ⟨rfl, rfl⟩

/-- the over-long branch sends exactly the unsigned types to `wideUint` and the signed ones to `wideInt` (the model's
`isUintT` / `isIntT`), and the two helpers are, statement by statement, what `Vflow.wideUint` / `Vflow.wideInt`
transcribe; no further function in the file -/
theorem interpret_wide_matches_source :
    (∀ t ∈ List.range 21, genWide t =
      if Vflow.isUintT t then some "wideUint" else if Vflow.isIntT t then some "wideInt" else none) ∧
    Gen.InterpretTbl.interpretWide.length = 8 ∧
    Gen.InterpretTbl.wideUintBody =
      ["func(b []byte) interface{}", "if len(b) > 8 { return b }", "var v uint64",
       "for _, x := range b { v = v<<8 | uint64(x) }", "return v"] ∧
    Gen.InterpretTbl.wideIntBody =
      ["func(b []byte) interface{}", "if len(b) > 8 { return b }", "var v uint64",
       "for _, x := range b { v = v<<8 | uint64(x) }", "shift := uint(64 - 8*len(b))",
       "return int64(v<<shift) >> shift"] ∧
    Gen.InterpretTbl.interpretFuncs = ["Interpret", "wideUint", "wideInt", "minLen"] :=
  ⟨by decide +kernel, rfl, rfl, rfl, rfl⟩

/-- the FieldType constants the decoder model hard-codes -/
theorem model_type_constants : typeIndex "string" = Vflow.tString ∧ typeIndex "octetArray" = Vflow.tOctets := by
  decide +kernel

/-- non-vacuity: the tables are the real ones (402 entries each, first and last element) -/
example : builtin.length = 402 ∧ shipped.length = 402 ∧
    builtin.head? = some (0, 1, 1, "octetDeltaCount", "unsigned64") ∧
    shipped.getLast? = some (0, 433, "ignoredLayer2FrameTotalCount", "unsigned64") := by decide +kernel

/-! ## "does not change depending on whether the file is installed": the load happens before anything decodes

`LoadExtElements` replaces the global `ipfix.InfoModel` map (a `make` followed by one assignment per row) that the
IPFIX **and the NetFlow v9** decoders read.  F18: it used to be called from `IPFIX.run()`, after the IPFIX workers had
been started and next to the already running NetFlow v9 listener — a datagram decoded at that moment ended the process
(`fatal error: concurrent map read and map write`), so with the file installed the collector could die at start-up.
The repaired `main` loads the file before any protocol is started; the two regenerated facts below pin that down. -/

/-- the only run-time writers of the shared model: `main` (the one call of the loader) and the loader itself -/
theorem gen_model_writers :
    Gen.InfoModelTbl.modelWriters =
      ["vflow/vflow.go main: call ipfix.LoadExtElements",
       "ipfix/rfc5102_model.go LoadExtElements: assign InfoModel",
       "ipfix/rfc5102_model.go LoadExtElements: assign InfoModel[ElementKey{PEN, elementID}]"] := rfl

/-- in `main` the load comes before the statement that spawns the four `run()` loops: apart from statements that
synchronise with nothing (`.setUp`), `main` begins with the signal channel, `signal.Notify`, the options, the load — under
the guard "the IPFIX or the NetFlow v9 listener is switched on" (F34 repair) —, and only then the start of the listeners
(nothing unrecognised in between) -/
theorem gen_load_before_listeners :
    (Gen.ShutdownIR.mainSteps.filter (· ≠ .setUp)).take 5 =
      [.makeSignalChan 1, .notifySigintSigterm, .getOptions, .loadElementsIf ["IPFIXEnabled", "NetflowV9Enabled"],
       .spawnRunsCounted] := by decide +kernel

/-! ## … and whichever decoder reads the model is switched on (F34)

The load in `main` stands under a guard. F34: the guard named the IPFIX switch alone (F18 had moved the call out of the
IPFIX listener together with the test it stood under there), so with `-ipfix-enabled=false` the NetFlow v9 decoder — which
reads the same map — never saw the extension elements of the installed file: its decoding depended on the switch of
another protocol. The obligation below is stated over regenerated facts so that a future third reader is caught: every
package whose functions index `ipfix.InfoModel` (`modelReaders`) must be the decoder package of a listener
(`decoderSwitches`: which package's `New…Decoder` the listener's workers call, which option its `run()` tests first), and
that listener's switch must be one of the disjuncts of the guard. -/

/-- the guard the load of `main` stands under: `none` = unconditional (then every reader is covered) -/
def loadGuard (ms : List Shutdown.MStep) : Option (Option (List String)) :=
  ms.findSome? fun
    | .loadElementsIf g => some (some g)
    | .loadElements => some none
    | _ => none

/-- every reader of the model is the decoder of a listener whose switch is in the guard `g` -/
def guardCovers (readers : List String) (switches : List (String × String)) (g : Option (Option (List String))) : Bool :=
  match g with
  | none => false                      -- no load at all
  | some none => true                  -- unconditional
  | some (some opts) => readers.all fun pkg => switches.any fun sw => sw.1 == pkg && opts.contains sw.2

/-- the packages that read the shared model, and which listener decodes with which package under which switch -/
theorem gen_model_readers :
    Gen.InfoModelTbl.modelReaders = ["ipfix", "netflow/v9"] ∧
    Gen.ShutdownIR.decoderSwitches = [("ipfix", "IPFIXEnabled"), ("netflow/v9", "NetflowV9Enabled"),
                                      ("netflow/v5", "NetflowV5Enabled"), ("sflow", "SFlowEnabled")] := ⟨rfl, rfl⟩

/-- **the obligation**: every package that reads `ipfix.InfoModel` is the decoder of a listener whose switch is a
disjunct of the guard of the load (stated on the regenerated lists themselves, not on their pinned values: a third reader,
a reader that is no listener's decoder, or a guard that loses a disjunct makes it false) -/
theorem gen_load_guard_covers_readers :
    guardCovers Gen.InfoModelTbl.modelReaders Gen.ShutdownIR.decoderSwitches (loadGuard Gen.ShutdownIR.mainSteps) = true := by
  decide +kernel

/-- regression witness (the guard before the F34 repair, `if opts.IPFIXEnabled`): the NetFlow v9 reader is not covered;
and the obligation is sensitive to a third reader and to a reader that is not a listener's decoder -/
theorem f34_old_guard_misses_v9 :
    guardCovers Gen.InfoModelTbl.modelReaders Gen.ShutdownIR.decoderSwitches (some (some ["IPFIXEnabled"])) = false ∧
    guardCovers ("sflow" :: Gen.InfoModelTbl.modelReaders) Gen.ShutdownIR.decoderSwitches (loadGuard Gen.ShutdownIR.mainSteps) = false ∧
    guardCovers ("producer" :: Gen.InfoModelTbl.modelReaders) Gen.ShutdownIR.decoderSwitches (loadGuard Gen.ShutdownIR.mainSteps) = false ∧
    guardCovers Gen.InfoModelTbl.modelReaders Gen.ShutdownIR.decoderSwitches (loadGuard []) = false := by decide +kernel

end Vflow.C20
