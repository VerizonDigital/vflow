import Vflow.Props.C02Flow
import Vflow.Props.C02Sflow
import Vflow.Props.C08
import Vflow.Gen.Sites
import Vflow.Spec.Sites
/-!
# C02 — decoding work and memory are bounded by the datagram's size

* IPFIX / NetFlow v9 (`Props/C02Flow`): `ipfix_terminates`, `v9_terminates` (the fuel `decode`
  supplies, `length + 1`, always suffices: every loop iteration consumes at least one octet — the F2
  repair makes this true), `*_record_bound` (records ≤ octets), `*_template_size`, `*_alloc_bound`
  (fields decoded ≤ octets × largest template, a template parsed from n octets has ≤ n/4 fields), and the
  linear bounds that isolate finding K4: `*_record_fields_le_octets` (fields of a record ≤ octets it consumed +
  zero-length specifiers of its template), `*_fields_linear` (fields ≤ octets + records × Z), `*_fields_le_octets`
  (no zero-length specifier ⇒ fields ≤ octets).
* sFlow (`Props/C02Sflow`): `decode_ne_fuel`, `samples_le`, `records_le`, `alloc_linear`.
* NetFlow v5 (here): structural recursion (no fuel), `v5_flow_bound`.
* Over regenerated facts: `alloc_sites_reviewed` — the make/new/append calls of the decoder packages
  are exactly the reviewed inventory (`Spec/Sites.lean`), so an allocation sized by a wire field that
  the model does not account for cannot appear unnoticed.

What is *measured* rather than proved: seconds and bytes — the watchdog and the
`runtime.MemStats.TotalAlloc` delta of every decode call of the correspondence runs.
-/
namespace Vflow.C02
open Vflow

/-- **C02 (NetFlow v5)**: at most 30 flows, and 48 octets of the datagram behind each of them -/
theorem v5_flow_bound (bs : Bytes) (m : V5.Msg) (h : V5.decode bs = .ok m) :
    m.flows.length ≤ 30 ∧ m.flows.length * (V5.widths Gen.Layouts.v5Record).sum ≤ bs.length := by
  obtain ⟨_, _, h30, hl, hlen, _⟩ := C08.decode_ok_flows bs m h
  rw [C08.gen_v5Record_layout, V5Round.rec_sum, hlen]
  omega

/-- the record layout regenerated from the source is 48 octets, the header 24 -/
theorem v5_layout_sizes :
    (V5.widths Gen.Layouts.v5Record).sum = 48 ∧ (V5.widths Gen.Layouts.v5Header).sum = 24 := by decide +kernel

/-- over regenerated facts: the allocation sites of the decoder packages are the reviewed inventory -/
theorem alloc_sites_reviewed : Gen.Sites.allocSites = Spec.Sites.allocSites := rfl

theorem ipfix_terminates (c : Cache) (addr bs : Bytes) : (Ipfix.decode c addr bs).1 ≠ .error .fuel :=
  C02Flow.ipfix_terminates c addr bs
theorem v9_terminates (c : Cache) (addr bs : Bytes) : (V9.decode c addr bs).1 ≠ .error .fuel :=
  C02Flow.v9_terminates c addr bs
theorem ipfix_record_bound (c : Cache) (addr bs : Bytes) :
    (Ipfix.recordsOf (Ipfix.decode c addr bs).1).length ≤ bs.length := C02Flow.ipfix_record_bound c addr bs
theorem v9_record_bound (c : Cache) (addr bs : Bytes) :
    (V9.recordsOf (V9.decode c addr bs).1).length ≤ bs.length := C02Flow.v9_record_bound c addr bs

/-! In the linear bounds `zeroSpecs tr` = number of field specifiers of length 0 of `tr` — finding K4: such a
specifier is decoded without consuming an octet — and `Z` bounds it for every template in force during the
decode (the cache before the datagram, `hc`; every template record that parses at some offset of it, `hP`) -/

/-- **C02 per record (IPFIX; K4)**: fields of a decoded record ≤ octets it consumed + zero-length specifiers -/
theorem ipfix_record_fields_le_octets (tr : Template) (r r' : Rd) (fs : Record)
    (h : Ipfix.decodeData tr r = (.ok fs, r')) : fs.length ≤ (r'.cnt - r.cnt) + zeroSpecs tr :=
  C02Flow.ipfix_record_fields_le_octets tr r r' fs h

/-- **C02 per record (NetFlow v9; K4)** -/
theorem v9_record_fields_le_octets (tr : Template) (r r' : Rd) (fs : Record)
    (h : V9.decodeData tr r = (.ok fs, r')) : fs.length ≤ (r'.cnt - r.cnt) + zeroSpecs tr :=
  C02Flow.v9_record_fields_le_octets tr r r' fs h

/-- **C02 allocation, linear (IPFIX; K4)**: decoded fields ≤ octets + records × Z -/
theorem ipfix_fields_linear (c : Cache) (addr bs : Bytes) (Z : Nat)
    (hc : ∀ e ∈ c, zeroSpecs e.2 ≤ Z)
    (hP : ∀ k t r', k ≤ bs.length →
      (Ipfix.parseTpl ⟨bs.drop k, k⟩ = (.ok t, r') ∨ Ipfix.parseOptTpl ⟨bs.drop k, k⟩ = (.ok t, r')) →
      zeroSpecs t ≤ Z) :
    ((Ipfix.recordsOf (Ipfix.decode c addr bs).1).map List.length).sum
      ≤ bs.length + (Ipfix.recordsOf (Ipfix.decode c addr bs).1).length * Z :=
  (C02Flow.ipfix_fields_linear c addr bs Z hc hP).1

/-- **C02 allocation, linear (NetFlow v9; K4)** -/
theorem v9_fields_linear (c : Cache) (addr bs : Bytes) (Z : Nat)
    (hc : ∀ e ∈ c, zeroSpecs e.2 ≤ Z)
    (hP : ∀ k t r', k ≤ bs.length →
      (V9.parseTpl ⟨bs.drop k, k⟩ = (.ok t, r') ∨ V9.parseOptTpl ⟨bs.drop k, k⟩ = (.ok t, r')) →
      zeroSpecs t ≤ Z) :
    ((V9.recordsOf (V9.decode c addr bs).1).map List.length).sum
      ≤ bs.length + (V9.recordsOf (V9.decode c addr bs).1).length * Z :=
  (C02Flow.v9_fields_linear c addr bs Z hc hP).1

/-- **C02 allocation, no zero-length specifier (IPFIX)**: decoded fields ≤ octets of the datagram -/
theorem ipfix_fields_le_octets (c : Cache) (addr bs : Bytes)
    (hc : ∀ e ∈ c, zeroSpecs e.2 = 0)
    (hP : ∀ k t r', k ≤ bs.length →
      (Ipfix.parseTpl ⟨bs.drop k, k⟩ = (.ok t, r') ∨ Ipfix.parseOptTpl ⟨bs.drop k, k⟩ = (.ok t, r')) →
      zeroSpecs t = 0) :
    ((Ipfix.recordsOf (Ipfix.decode c addr bs).1).map List.length).sum ≤ bs.length :=
  C02Flow.ipfix_fields_le_octets c addr bs hc hP

/-- **C02 allocation, no zero-length specifier (NetFlow v9)** -/
theorem v9_fields_le_octets (c : Cache) (addr bs : Bytes)
    (hc : ∀ e ∈ c, zeroSpecs e.2 = 0)
    (hP : ∀ k t r', k ≤ bs.length →
      (V9.parseTpl ⟨bs.drop k, k⟩ = (.ok t, r') ∨ V9.parseOptTpl ⟨bs.drop k, k⟩ = (.ok t, r')) →
      zeroSpecs t = 0) :
    ((V9.recordsOf (V9.decode c addr bs).1).map List.length).sum ≤ bs.length :=
  C02Flow.v9_fields_le_octets c addr bs hc hP

end Vflow.C02
