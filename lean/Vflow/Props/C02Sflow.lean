import Vflow.Proofs.SflowCost
/-!
# C02 (sFlow share) — decoding work and output are bounded by the datagram's size

The sample loop and the two record loops are `loopN` with explicit fuel; `Res.fuel` is the model's
image of a loop that makes no progress.  Every successful iteration consumes at least the two
32-bit words it reads first, so fuel `length + 1` always suffices and at most `length / 8` items
can be produced — however large the `SamplesNo` / `RecordsNo` fields are.
-/
namespace Vflow.C02Sflow
open Vflow Vflow.Sflow Vflow.Packet

/-- **C02 (termination)**: with fuel `bs.length + 1` the decoder never runs out of fuel -/
theorem decode_ne_fuel (f : List Nat) (bs : Bytes) : decode f bs ≠ .fuel :=
  (decode_safe f bs).2

/-- the inner record loops, started (as `decodeFlowSample` / `decodeFlowCounter` do) with fuel
`remaining + 1`, never run out of fuel either -/
theorem record_loops_ne_fuel (n : Nat) (bs : Bytes) :
    loopN flowRecord (bs.length + 1) n bs ≠ .fuel ∧ loopN counterRecord (bs.length + 1) n bs ≠ .fuel :=
  ⟨(loopN_good flowRecord_good n _ bs (Nat.lt_succ_self _)).1.2,
   (loopN_good counterRecord_good n _ bs (Nat.lt_succ_self _)).1.2⟩

theorem filterMap_split_le (l : List (Option Sample)) :
    (l.filterMap (fun o => o.bind Sample.flow?)).length +
      (l.filterMap (fun o => o.bind Sample.counter?)).length ≤ l.length := by
  induction l with
  | nil => simp
  | cons x t ih =>
    cases x with
    | none => simp; omega
    | some s => cases s <;> simp [List.filterMap_cons, Sample.flow?, Sample.counter?] <;> omega

/-- **C02 (output bound)**: a decoded datagram holds at most `length / 8` samples and counters,
whatever its `SamplesNo` field says -/
theorem samples_le (f : List Nat) (bs : Bytes) (d : Datagram) (h : decode f bs = .ok d) :
    d.samples.length + d.counters.length ≤ bs.length / 8 := by
  unfold decode at h
  split at h
  · rename_i hd r hx
    have h1 := (decodeHeader_good bs).2 _ _ hx
    split at h
    · rename_i items r' hl
      cases h
      have h2 := (loopN_good (sampleStep_good f) hd.samplesNo _ r (by omega)).2 items r' hl
      have h3 := loopN_length _ _ _ _ _ hl
      have h4 := filterMap_split_le items
      simp only [mkDatagram]
      omega
    all_goals cases h
  all_goals cases h

/-- a decoded flow or counter sample consumed at least 8 octets per record it holds: the record
count that was *executed* is bounded by the octets, not by the `RecordsNo` field -/
theorem records_le (n : Nat) (bs r : Bytes) (items : List (Option FlowRec))
    (h : loopN flowRecord (bs.length + 1) n bs = .ok (items, r)) : 8 * n ≤ bs.length := by
  exact Nat.le_trans (Nat.le_add_left _ _) ((loopN_good flowRecord_good n _ bs (Nat.lt_succ_self _)).2 items r h)

/-- **C02 (allocation)**: the allocation count of one decode call (`decodeCost`, the instrumented twin of
`Vflow.Model.SflowCost`: `n` units per `make([]byte, n)` with a wire-derived size, 1–2 per fixed-size
object of a step) is linear in the number of octets received — never in a length or count field.  The
slope 64 comes from the 1500-octet header cap (a raw-header record of ≥ 25 octets can request at most
1503), the constant from the one request that may exceed what is left of a truncated datagram (1503 + 2:
`decodeCost_le`; the 1525 of the statement is not tight). -/
theorem alloc_linear (f : List Nat) (bs : Bytes) : decodeCost f bs ≤ 64 * bs.length + 1525 :=
  Nat.le_trans (decodeCost_le f bs) (Nat.add_le_add_left (by decide) _)

/-- non-vacuity of the allocation bound (F5 witness): an extended-router record announcing length 4
(which made the unrepaired code request 4 GiB) is skipped by its length since the F19d repair and costs
1 unit (no buffer at all), as does one announcing 4 294 967 295; a valid one costs its 8-octet buffer -/
example : flowRecordCost [0,0,3,234, 0,0,0,4, 0,0,0,1, 192,0,2,9, 0,0,0,24, 0,0,0,16] = 1 ∧
    flowRecordCost [0,0,3,234, 255,255,255,255, 0,0,0,1, 192,0,2,9, 0,0,0,24, 0,0,0,16] = 1 ∧
    flowRecordCost [0,0,3,234, 0,0,0,16, 0,0,0,1, 192,0,2,9, 0,0,0,24, 0,0,0,16] = 10 := by decide +kernel

/-- non-vacuity: a datagram announcing 4 294 967 295 samples but carrying none ends with an error after
one failed read — no fuel, no panic -/
example : decode [] [0,0,0,5, 0,0,0,1, 10,0,0,1, 0,0,0,2, 0,0,0,3, 0,0,0,4, 255,255,255,255] = .err .eof := by
  decide +kernel

end Vflow.C02Sflow
