import Vflow.Proofs.SkipV9
import Vflow.Proofs.SkipIpfix
import Vflow.Props.C02Flow
import Vflow.Proofs.IpfixIRMsg
import Vflow.Proofs.V9IRMsg
import Vflow.Gen.Sites
import Vflow.Spec.Sites
/-!
# C09 — an undecodable set never corrupts its neighbours; truncation never fabricates

Statements about the two executable decoder models `Vflow.Ipfix.decode` / `Vflow.V9.decode`
(tied to `ipfix/decoder.go` and `netflow/v9/decoder.go` by the differential correspondence).
(a) skip-equivalence and (b) truncation ⇒ prefix are lettered as in the property's entry of MANIFEST.json; (b) comes
first because (a) uses its simulation.
All theorems quantify over every template cache `c`, exporter address `addr`, octet string `bs`
and truncation length `n`.  Proofs: `Vflow/Proofs/Trunc*.lean`, `Vflow/Proofs/Skip*.lean`, `Vflow/Proofs/OuterLoop.lean`.
-/
namespace Vflow.C09
open Vflow

/-! ## Concrete messages for the non-vacuity examples

One template set (template 256: sourceIPv4Address, destinationIPv4Address), then two data sets of
one 8-octet record each. -/

def exAddr : Bytes := [127, 0, 0, 1]
def exRec1 : Record := [⟨8, 0, .ip [10, 0, 0, 1]⟩, ⟨12, 0, .ip [10, 0, 0, 2]⟩]
def exRec2 : Record := [⟨8, 0, .ip [10, 0, 0, 3]⟩, ⟨12, 0, .ip [10, 0, 0, 4]⟩]
def exData1 : Bytes := [1, 0, 0, 12, 10, 0, 0, 1, 10, 0, 0, 2]
def exData2 : Bytes := [1, 0, 0, 12, 10, 0, 0, 3, 10, 0, 0, 4]
/-- a set whose declared length is 2 (< 4): fatal `badSetLen` -/
def exBadSet : Bytes := [1, 0, 0, 2, 0]

def v9Hdr : Bytes := [0, 9, 0, 3, 0, 0, 0, 1, 0, 0, 0, 2, 0, 0, 0, 3, 0, 0, 0, 4]
def v9Tpl : Bytes := [0, 0, 0, 16, 1, 0, 0, 2, 0, 8, 0, 4, 0, 12, 0, 4]
def v9Msg : Bytes := v9Hdr ++ v9Tpl ++ exData1 ++ exData2

def ipfixHdr : Bytes := [0, 10, 0, 56, 0, 0, 0, 1, 0, 0, 0, 2, 0, 0, 0, 3]
def ipfixTpl : Bytes := [0, 2, 0, 16, 1, 0, 0, 2, 0, 8, 0, 4, 0, 12, 0, 4]
def ipfixMsg : Bytes := ipfixHdr ++ ipfixTpl ++ exData1 ++ exData2

/-- template 256 as both decoders store it -/
def exTpl : Template := ⟨256, 2, 0, [], [⟨8, 4, 0⟩, ⟨12, 4, 0⟩]⟩
/-- the cache after the template set of the example messages -/
def exCache : Cache := Cache.insert [] exAddr 256 exTpl
/-- a data set for template 999, which nobody announced -/
def exUnknown : Bytes := setBytes 999 [1, 2, 3, 4, 5]
/-- template 400, whose second field names element `x` (`x := 9000` is not in the information model) -/
def exTplBad (x : Nat) : Template := ⟨400, 3, 0, [], [⟨8, 4, 0⟩, ⟨x, 4, 0⟩, ⟨12, 4, 0⟩]⟩
def exCacheBad (x : Nat) : Cache := Cache.insert exCache exAddr 400 (exTplBad x)
def exBadBody : Bytes := [10, 0, 0, 9, 1, 2, 3, 4, 10, 0, 0, 8]

theorem ex_lookup_8 : lookupElem 0 8 = some (8, 19) := by rw [lookupElem_eq]; decide +kernel
/-- element 9000 is not in the information model -/
theorem ex_lookup_9000 : lookupElem 0 9000 = none := by rw [lookupElem_eq]; decide +kernel

-- decidable equality of decode outcomes, so that the kernel alone evaluates the concrete examples
deriving instance DecidableEq for Except

theorem ok_ne_fuel {α : Type} {x : Except Err α} {m : α} (h : x = .ok m) : x ≠ .error .fuel := by
  rw [h]; exact fun h' => nomatch h'

/-! ## (b) Truncation ⇒ prefix -/

/-- **C09(b), NetFlow v9, no hypothesis.**  Cut the datagram `bs` after any `n` octets.  Either the
truncated decode emits no record at all, or the full decode got past the packet header and what the
truncated decode emits is a prefix of the records the full run had accumulated when its set loop
stopped (`V9.finalSt`: the state of the `for d.reader.Len() > 4` loop at its end, whether it ended
normally, with a fatal error or by running out of model fuel). -/
theorem V9.truncation_prefix_state (c : Cache) (addr bs : Bytes) (n : Nat) :
    V9.recordsOf (V9.decode c addr (bs.take n)).1 = [] ∨
    ∃ st, V9.finalSt c addr bs = some st ∧ V9.recordsOf (V9.decode c addr (bs.take n)).1 <+: st.recs :=
  Vflow.V9.truncation_prefix_state c addr bs n

/-- **C09(b), NetFlow v9.**  If the full decode does not fail (`Decode` returns a message, possibly
with non-fatal errors), the records decoded from any truncation of the datagram are a prefix of the
records decoded from the whole datagram.

The hypothesis excludes exactly the inputs on which the *full* decode returns `(nil, err)` (fatal
error: short read, bad version, bad set length, or the model's `fuel`).  It cannot be dropped: when
the full decode fails it hands out *no* records, whereas a truncation that ends before the offending
set decodes cleanly and hands out the records before it (`V9.truncation_prefix_unconditional_counterexample`).
No separate fuel hypothesis is needed: a truncated run that exhausts its (smaller) fuel emits nothing. -/
theorem V9.truncation_prefix (c : Cache) (addr bs : Bytes) (n : Nat)
    {m : Hdr × List Record × List Err} (hok : (V9.decode c addr bs).1 = .ok m) :
    V9.recordsOf (V9.decode c addr (bs.take n)).1 <+: V9.recordsOf (V9.decode c addr bs).1 := by
  obtain ⟨h, recs, errs⟩ := m
  obtain ⟨st, hst, hrecs⟩ := Vflow.V9.decode_ok_finalSt hok
  rcases Vflow.V9.truncation_prefix_state c addr bs n with h0 | ⟨st', hst', hpre⟩
  · rw [h0]; exact List.nil_prefix
  · rw [hst] at hst'
    simp only [Option.some.injEq] at hst'
    subst hst'
    rw [hok]
    simpa [V9.recordsOf, hrecs] using hpre

/-- the unconditional form of `V9.truncation_prefix` is false: header, template, one data set, then a
set with declared length 2.  The whole datagram is rejected (`badSetLen`, no records); cut after the
data set it decodes to one record. -/
theorem V9.truncation_prefix_unconditional_counterexample :
    ∃ (c : Cache) (addr bs : Bytes) (n : Nat),
      ¬ (V9.recordsOf (V9.decode c addr (bs.take n)).1 <+: V9.recordsOf (V9.decode c addr bs).1) :=
  ⟨[], exAddr, v9Hdr ++ v9Tpl ++ exData1 ++ exBadSet, 48, by decide +kernel⟩

set_option maxRecDepth 100000 in
/-- non-vacuity of `V9.truncation_prefix`: the full datagram decodes to two records, cut after the
first data set (and two octets into the next set header) to exactly the first one, cut inside the
second data set to nothing -/
example :
    (V9.decode [] exAddr v9Msg).1 = .ok ([9, 3, 1, 2, 3, 4], [exRec1, exRec2], []) ∧
    V9.recordsOf (V9.decode [] exAddr (v9Msg.take 50)).1 = [exRec1] ∧
    V9.recordsOf (V9.decode [] exAddr (v9Msg.take 59)).1 = [] := by decide +kernel

set_option maxRecDepth 100000 in
example : V9.recordsOf (V9.decode [] exAddr (v9Msg.take 50)).1 <+: V9.recordsOf (V9.decode [] exAddr v9Msg).1 :=
  V9.truncation_prefix [] exAddr v9Msg 50 (m := ([9, 3, 1, 2, 3, 4], [exRec1, exRec2], [])) (by decide +kernel)

/-- **C09(b), IPFIX, no hypothesis.**  As `V9.truncation_prefix_state`. -/
theorem Ipfix.truncation_prefix_state (c : Cache) (addr bs : Bytes) (n : Nat) :
    Ipfix.recordsOf (Ipfix.decode c addr (bs.take n)).1 = [] ∨
    ∃ st, Ipfix.finalSt c addr bs = some st ∧
      Ipfix.recordsOf (Ipfix.decode c addr (bs.take n)).1 <+: st.recs :=
  Vflow.Ipfix.truncation_prefix_state c addr bs n

/-- **C09(b), IPFIX.**  If the full decode does not fail, the records decoded from any truncation of
the message are a prefix of the records decoded from the whole message.

The hypothesis excludes exactly the inputs on which the *full* decode returns `(nil, err)` (short
read, bad version, bad set length, set id 0 in the record loop, or the model's `fuel` — since the F30
repair no longer a data set for a template without fields or a set with id 1: `Ipfix.decodeSet_skips_noFields`);
it cannot be dropped (`Ipfix.truncation_prefix_unconditional_counterexample`).  No separate
fuel hypothesis is needed. -/
theorem Ipfix.truncation_prefix (c : Cache) (addr bs : Bytes) (n : Nat)
    {m : Hdr × List Record × List Err} (hok : (Ipfix.decode c addr bs).1 = .ok m) :
    Ipfix.recordsOf (Ipfix.decode c addr (bs.take n)).1 <+: Ipfix.recordsOf (Ipfix.decode c addr bs).1 := by
  obtain ⟨h, recs, errs⟩ := m
  obtain ⟨st, hst, hrecs⟩ := Vflow.Ipfix.decode_ok_finalSt hok
  rcases Vflow.Ipfix.truncation_prefix_state c addr bs n with h0 | ⟨st', hst', hpre⟩
  · rw [h0]; exact List.nil_prefix
  · rw [hst] at hst'
    simp only [Option.some.injEq] at hst'
    subst hst'
    rw [hok]
    simpa [Ipfix.recordsOf, hrecs] using hpre

/-- the unconditional form of `Ipfix.truncation_prefix` is false (same construction as for v9) -/
theorem Ipfix.truncation_prefix_unconditional_counterexample :
    ∃ (c : Cache) (addr bs : Bytes) (n : Nat),
      ¬ (Ipfix.recordsOf (Ipfix.decode c addr (bs.take n)).1 <+: Ipfix.recordsOf (Ipfix.decode c addr bs).1) :=
  ⟨[], exAddr, ipfixHdr ++ ipfixTpl ++ exData1 ++ exBadSet, 44, by decide +kernel⟩

set_option maxRecDepth 100000 in
/-- non-vacuity of `Ipfix.truncation_prefix` -/
example :
    (Ipfix.decode [] exAddr ipfixMsg).1 = .ok ([10, 56, 1, 2, 3], [exRec1, exRec2], []) ∧
    Ipfix.recordsOf (Ipfix.decode [] exAddr (ipfixMsg.take 46)).1 = [exRec1] ∧
    Ipfix.recordsOf (Ipfix.decode [] exAddr (ipfixMsg.take 55)).1 = [] := by decide +kernel

set_option maxRecDepth 100000 in
example : Ipfix.recordsOf (Ipfix.decode [] exAddr (ipfixMsg.take 46)).1 <+:
    Ipfix.recordsOf (Ipfix.decode [] exAddr ipfixMsg).1 :=
  Ipfix.truncation_prefix [] exAddr ipfixMsg 46 (m := ([10, 56, 1, 2, 3], [exRec1, exRec2], [])) (by decide +kernel)

/-! ## (a) Skip-equivalence

`setBytes sid body` = `be16 sid ++ be16 (4 + |body|) ++ body` is a whole set.  It is `Undecodable`
for a cache `c` when `sid > 255` and `c` holds no template `sid` for the exporter, or when `sid` is
not a template / data set id (IPFIX: `4 ≤ sid ≤ 255`; NetFlow v9: `2 ≤ sid ≤ 255`, ids 2 and 3
taking the `zeroRec` path).  The third kind of the property text — a data set whose template names
an element missing from the information model — is `decodeSet_skips_unknownElem`.  A fourth kind (F30):
a data set whose template has no field specifier at all — a template record with field count 0 (the
withdrawal format) that sat in a template set in front of other records is installed as such a template —
is `Ipfix.decodeSet_skips_noFields` (`Ipfix.NoFields`; NetFlow v9 reports it as `zeroRec`, see the example
after `V9.decodeSet_skips`).  The cache meant is always the cache *at the point where the set is met* (earlier
sets of the same message may have added templates). -/

/-- **C09(a), V9, one flowset.**  On an undecodable flowset followed by any `rest`, `decodeSet` changes the
decoder state only by moving the reader over the flowset: cache and records are untouched; the error slot
holds the non-fatal `V9.skipErr` (`unknownTpl` for `sid > 255`, nothing for `4 ≤ sid ≤ 255`, `zeroRec` for
`sid = 2, 3` with a body of more than 4 octets) — never a fatal error.
Side conditions: the flowset is encodable (`sid`, `4 + |body|` fit in 16 bits) and the loop fuel is positive (the
outer loop passes `remaining + 1`).  Nothing is assumed about `rest`. -/
theorem V9.decodeSet_skips (addr : Bytes) (fuel : Nat) (st : V9.St) (sid : Nat) (body rest : Bytes)
    (hsid : sid < 65536) (hlen : 4 + body.length < 65536) (hfuel : 0 < fuel)
    (hrem : st.r.rem = setBytes sid body ++ rest) (hu : V9.Undecodable st.cache addr sid) :
    V9.decodeSet addr fuel st =
      ({ st with r := ⟨rest, st.r.cnt + (setBytes sid body).length⟩ }, V9.skipErr sid body) :=
  Vflow.V9.decodeSet_skips addr fuel st sid body rest hsid hlen hfuel hrem hu

theorem V9.skipErr_nonfatal (sid : Nat) (body : Bytes) (e : Err) (h : V9.skipErr sid body = some e) :
    e.nonfatal = true := Vflow.V9.skipErr_nonfatal sid body e h

/-- **C09(a), V9, one flowset, element missing from the information model.**  A data flowset whose
template `t` is in the cache, with a body of at least `minRecLen t` octets (one shortest record: since the
padding repair this is what it takes for the record loop to be entered) on which the record decoder — run on
the body alone — stops with `unknownElem` (a field specifier of `t` names an element that
`lookupElem` does not know, and the fields before it fit in the body), is skipped in the same way in
front of any `rest`; the error slot holds `unknownElem`. -/
theorem V9.decodeSet_skips_unknownElem (addr : Bytes) (fuel : Nat) (st : V9.St) (sid : Nat)
    (body rest : Bytes) (t : Template) (r1 : Rd)
    (hsid : sid < 65536) (hlen : 4 + body.length < 65536) (hfuel : 0 < fuel)
    (hrem : st.r.rem = setBytes sid body ++ rest)
    (hbig : sid > 255) (hlook : st.cache.lookup addr sid = some t) (hbody : body.length ≥ V9.minRecLen t)
    (hdec : V9.decodeData t ⟨body, st.r.cnt + 4⟩ = (.error .unknownElem, r1)) :
    V9.decodeSet addr fuel st =
      ({ st with r := ⟨rest, st.r.cnt + (setBytes sid body).length⟩ }, some .unknownElem) :=
  Vflow.V9.decodeSet_skips_unknownElem addr fuel st sid body rest t r1 hsid hlen hfuel hrem hbig hlook
    hbody hdec

/-! `V9.Skipped addr c u e` ("at cache `c`, in front of any rest, at any count, with any records accumulated,
`decodeSet` only moves the reader over the whole flowset `u`, with the non-fatal error slot `e`") is the notion the
outer-loop and datagram-level theorems are stated with.  Two syntactic conditions suffice for it: -/

/-- an undecodable flowset is skipped -/
theorem V9.skipped_of_undecodable (addr : Bytes) (c : Cache) (sid : Nat) (body : Bytes)
    (hsid : sid < 65536) (hlen : 4 + body.length < 65536) (hu : V9.Undecodable c addr sid) :
    V9.Skipped addr c (setBytes sid body) (V9.skipErr sid body) :=
  Vflow.V9.skipped_of_undecodable addr c sid body hsid hlen hu

/-- a data flowset that runs into an element missing from the information model is skipped -/
theorem V9.skipped_of_unknownElem (addr : Bytes) (c : Cache) (sid : Nat) (body : Bytes) (t : Template)
    (r1 : Rd) (hsid : sid < 65536) (hlen : 4 + body.length < 65536)
    (hbig : sid > 255) (hlook : c.lookup addr sid = some t) (hbody : body.length ≥ V9.minRecLen t)
    (hdec : V9.decodeData t ⟨body, 0⟩ = (.error .unknownElem, r1)) :
    V9.Skipped addr c (setBytes sid body) (some .unknownElem) :=
  Vflow.V9.skipped_of_unknownElem addr c sid body t r1 hsid hlen hbig hlook hbody hdec

/-- **C09(a), V9, outer loop.**  With a skipped flowset `u` in front (and more than 4 octets in all), the
outer loop spends one iteration on it and continues on `rest` exactly as if started there: same cache,
same records, count advanced by `|u|`, the error slot appended to the non-fatal errors. -/
theorem V9.outer_skips (addr : Bytes) (fuel : Nat) (st : V9.St) (errs : List Err) (u rest : Bytes)
    (e : Option Err) (hs : V9.Skipped addr st.cache u e) (hrem : st.r.rem = u ++ rest)
    (hgt : u.length + rest.length > 4) :
    V9.outer addr (fuel + 1) st errs =
      V9.outer addr fuel { st with r := ⟨rest, st.r.cnt + u.length⟩ } (errs ++ e.toList) :=
  Vflow.V9.outer_skips_gen addr fuel st errs u rest e hs hrem hgt

/-- tail case of `V9.outer_skips`: when at most 4 octets remain (a bare 4-octet flowset header at the
very end, say) the outer loop stops without looking at them, exactly as it would on the empty rest. -/
theorem V9.outer_skips_tail (addr : Bytes) (fuel : Nat) (st : V9.St) (errs : List Err)
    (h : st.r.rem.length ≤ 4) :
    V9.outer addr (fuel + 1) st errs = (st, none, errs) :=
  Vflow.V9.outer_tail addr fuel st errs h

/-- **Locality, V9.**  If the outer loop, run on the octets `x` alone (state `stT`), ends without a
fatal error in state `stT'` with error list `errs'`, then (i) at most 4 octets of `x` are left, and
(ii) there is a `j` such that on *every* extension `x ++ s` (state `stF`, `SRel s stT stF`: same cache,
records and count, `s` appended to the remaining octets) the loop passes after `j` iterations through
the state `stF'` corresponding to `stT'` with the same error list: what was decoded from `x` does not
depend on what follows.  The hypothesis that makes this true is that the run on `x` *alone* is clean:
the loop conditions look at the number of remaining octets (`> 4`, `≥ minLeft`), so a run that is starved on `x`
alone (fatal short read) can behave differently when more octets follow. -/
theorem V9.outer_locality (addr : Bytes) (fuelT : Nat) (stT : V9.St) (errs : List Err)
    (stT' : V9.St) (errs' : List Err)
    (h : V9.outer addr fuelT stT errs = (stT', none, errs')) :
    stT'.r.rem.length ≤ 4 ∧ ∃ j, j ≤ fuelT ∧ ∀ (s : Bytes) (stF : V9.St), V9.SRel s stT stF →
      ∃ stF', V9.SRel s stT' stF' ∧
        ∀ m, V9.outer addr (j + m) stF errs = V9.outer addr m stF' errs' :=
  Vflow.V9.outer_ext addr fuelT stT errs stT' errs' h

/-- **C09(a), V9, whole datagram.**  `hdr` is a packet header (`hh`); `pre` is a sequence of flowsets that the
outer loop, started after the header with cache `c`, decodes *on its own* exactly to its end without a
fatal error (`hpre`), leaving the cache `c1` — this is how "a position between two flowsets" is
expressed; `u` is skipped at `c1`, the cache at that point (`V9.Skipped`; by
`V9.skipped_of_undecodable` / `V9.skipped_of_unknownElem`: unknown template, reserved id, element
missing from the model).  Then for every `post`, inserting `u` between `pre` and `post` changes neither
the decoded records, nor the resulting cache, nor whether / with which fatal error `Decode` fails (at
most one more non-fatal error is reported).

Hypotheses, exactly: `hpre` (it is about `pre` alone because a flowset of `pre` that reads past the end of
`pre` makes the decoding of `pre` depend on what follows, see `V9.outer_locality`); `hfuel`: the decode
of the datagram *without* `u` does not run out of model fuel (it never does: `C02Flow.v9_terminates`;
`V9.decode_skips'` is the statement without this hypothesis). -/
theorem V9.decode_skips (c : Cache) (addr hdr pre post u : Bytes) (e : Option Err)
    (h : Hdr) (k k1 : Nat) (c1 : Cache) (recs1 : List Record) (errs1 : List Err)
    (hh : V9.readHeader ⟨hdr, 0⟩ = some (h, ⟨[], k⟩))
    (hpre : V9.outer addr (pre.length + 1) ⟨⟨pre, k⟩, c, []⟩ [] = (⟨⟨[], k1⟩, c1, recs1⟩, none, errs1))
    (hs : V9.Skipped addr c1 u e)
    (hfuel : (V9.decode c addr (hdr ++ (pre ++ post))).1 ≠ .error .fuel) :
    V9.recordsOf (V9.decode c addr (hdr ++ (pre ++ (u ++ post)))).1 =
      V9.recordsOf (V9.decode c addr (hdr ++ (pre ++ post))).1 ∧
    (V9.decode c addr (hdr ++ (pre ++ (u ++ post)))).2 = (V9.decode c addr (hdr ++ (pre ++ post))).2 ∧
    ∀ x, (V9.decode c addr (hdr ++ (pre ++ (u ++ post)))).1 = .error x ↔
      (V9.decode c addr (hdr ++ (pre ++ post))).1 = .error x :=
  Vflow.V9.decode_skips c addr hdr pre post u e h k k1 c1 recs1 errs1 hh hpre hs hfuel

set_option maxRecDepth 100000 in
/-- non-vacuity of `V9.decodeSet_skips` / `V9.outer_skips`: the three kinds of undecodable flowset
(unknown template 999, reserved id 100, id 2) in front of a decodable data flowset -/
example :
    V9.decodeSet exAddr 1 ⟨⟨exUnknown ++ exData2, 48⟩, exCache, [exRec1]⟩ =
      (⟨⟨exData2, 57⟩, exCache, [exRec1]⟩, some .unknownTpl) ∧
    V9.decodeSet exAddr 1 ⟨⟨setBytes 100 [1, 2, 3, 4, 5] ++ exData2, 48⟩, exCache, [exRec1]⟩ =
      (⟨⟨exData2, 57⟩, exCache, [exRec1]⟩, none) ∧
    V9.decodeSet exAddr 1 ⟨⟨setBytes 2 [1, 2, 3, 4, 5] ++ exData2, 48⟩, exCache, [exRec1]⟩ =
      (⟨⟨exData2, 57⟩, exCache, [exRec1]⟩, some .zeroRec) ∧
    (V9.outer exAddr 3 ⟨⟨exUnknown ++ exData2, 48⟩, exCache, [exRec1]⟩ []).1.recs = [exRec1, exRec2] :=
  ⟨V9.decodeSet_skips exAddr 1 _ 999 [1, 2, 3, 4, 5] exData2 (by decide) (by decide) (by decide) rfl
      (.inl ⟨by decide, by decide⟩),
   V9.decodeSet_skips exAddr 1 _ 100 [1, 2, 3, 4, 5] exData2 (by decide) (by decide) (by decide) rfl
      (.inr (by decide)),
   V9.decodeSet_skips exAddr 1 _ 2 [1, 2, 3, 4, 5] exData2 (by decide) (by decide) (by decide) rfl
      (.inr (by decide)),
   by rw [V9.outer_skips exAddr 2 _ [] exUnknown exData2 _
        (V9.skipped_of_undecodable exAddr exCache 999 [1, 2, 3, 4, 5] (by decide) (by decide)
          (.inl ⟨by decide, by decide⟩)) rfl (by decide)]; rfl⟩

/-- non-vacuity of `V9.decodeSet_skips_unknownElem`: data for template 400, whose second field names an
element `x` missing from the information model (the v9 decoder reads the field, then looks the element
up), in front of a decodable data flowset.  Proved for a variable `x` and instantiated with 9000 so
that the kernel is never asked to evaluate the decoder through the 400-entry table. -/
theorem V9.ex_unknownElem (x : Nat) (hx : lookupElem 0 x = none) :
    V9.decodeSet exAddr 1 ⟨⟨setBytes 400 exBadBody ++ exData2, 48⟩, exCacheBad x, [exRec1]⟩ =
      (⟨⟨exData2, 64⟩, exCacheBad x, [exRec1]⟩, some .unknownElem) :=
  V9.decodeSet_skips_unknownElem exAddr 1 _ 400 exBadBody exData2 (exTplBad x) ⟨[10, 0, 0, 8], 60⟩
    (by decide) (by decide) (by decide) rfl (by decide)
    (by simp [exCacheBad, Cache.lookup, Cache.insert]) (by simp [V9.minRecLen, exTplBad, exBadBody])
    (by simp [V9.decodeData, exTplBad, V9.decFields_cons, exBadBody, Rd.readN, ex_lookup_8, hx])

example :
    V9.decodeSet exAddr 1 ⟨⟨setBytes 400 exBadBody ++ exData2, 48⟩, exCacheBad 9000, [exRec1]⟩ =
      (⟨⟨exData2, 64⟩, exCacheBad 9000, [exRec1]⟩, some .unknownElem) :=
  V9.ex_unknownElem 9000 ex_lookup_9000

set_option maxRecDepth 100000 in
/-- non-vacuity of `V9.decode_skips`: header, template flowset, data flowset | unknown-template
flowset | data flowset: the same two records with and without the inserted flowset -/
example :
    V9.recordsOf (V9.decode [] exAddr (v9Hdr ++ ((v9Tpl ++ exData1) ++ (exUnknown ++ exData2)))).1 =
      V9.recordsOf (V9.decode [] exAddr (v9Hdr ++ ((v9Tpl ++ exData1) ++ exData2))).1 ∧
    V9.recordsOf (V9.decode [] exAddr (v9Hdr ++ ((v9Tpl ++ exData1) ++ exData2))).1 = [exRec1, exRec2] :=
  ⟨(V9.decode_skips [] exAddr v9Hdr (v9Tpl ++ exData1) exData2 exUnknown _
      [9, 3, 1, 2, 3, 4] 20 48 exCache [exRec1] [] rfl rfl
      (V9.skipped_of_undecodable exAddr exCache 999 [1, 2, 3, 4, 5] (by decide) (by decide)
        (.inl ⟨by decide, by decide⟩))
      (ok_ne_fuel (m := ([9, 3, 1, 2, 3, 4], [exRec1, exRec2], [])) rfl)).1, rfl⟩

/-- **C09(a), Ipfix, one set.**  On an undecodable set followed by any `rest`, `decodeSet` changes the
decoder state only by moving the reader over the set: cache and records are untouched; the error slot
holds the non-fatal `Ipfix.skipErr` (`unknownTpl` for `sid > 255`, nothing for a reserved id `4 ≤ sid ≤ 255`) —
never a fatal error.  (Set id 0 is *not* skipped by the IPFIX decoder: it ends the decode with the fatal
`invalidSet`; set id 1 is skipped since the F30 repair: `Ipfix.decodeSet_skips_noFields`.)
Side conditions: the set is encodable (`sid`, `4 + |body|` fit in 16 bits) and the loop fuel is positive (the
outer loop passes `remaining + 1`).  Nothing is assumed about `rest`. -/
theorem Ipfix.decodeSet_skips (addr : Bytes) (fuel : Nat) (st : Ipfix.St) (sid : Nat) (body rest : Bytes)
    (hsid : sid < 65536) (hlen : 4 + body.length < 65536) (hfuel : 0 < fuel)
    (hrem : st.r.rem = setBytes sid body ++ rest) (hu : Ipfix.Undecodable st.cache addr sid) :
    Ipfix.decodeSet addr fuel st =
      ({ st with r := ⟨rest, st.r.cnt + (setBytes sid body).length⟩ }, Ipfix.skipErr sid) :=
  Vflow.Ipfix.decodeSet_skips addr fuel st sid body rest hsid hlen hfuel hrem hu

theorem Ipfix.skipErr_nonfatal (sid : Nat) (e : Err) (h : Ipfix.skipErr sid = some e) :
    e.nonfatal = true := Vflow.Ipfix.skipErr_nonfatal sid e h

/-- the errors after which the IPFIX `Decode` goes on (`nonfatalError{…}` in the source): those it shares with
NetFlow v9 and, since the F30 repair, `emptyRec` ("failed to decodeData") -/
theorem Ipfix.nonfatalErr_iff (e : Err) : Ipfix.nonfatalErr e = true ↔ (e.nonfatal = true ∨ e = .emptyRec) := by
  cases e <;> simp [Ipfix.nonfatalErr, Err.nonfatal]

/-- **C09(a), Ipfix, one set, template without fields (F30).**  `Ipfix.NoFields c addr sid`: the template cached
under `sid > 255` for this exporter has neither scope nor field specifiers — what `decodeSet` installs for a
template record with field count 0 (RFC 7011 §8.1 withdrawal format) that is followed by other octets in its
template set — or `sid = 1` (decoded with the zero template, the same code path).  Such a set, with **any** body,
in front of any `rest`, is skipped exactly like an undecodable one: cache and records are untouched, the reader
moves over the set, and the error slot holds the non-fatal `emptyRec` when the body is long enough for the record
loop to be entered (1 octet; 5 for set id 1) and nothing otherwise.  Before the repair `emptyRec` was fatal:
`Decode` returned `(nil, "failed to decodeData")` and the records of every other set of the message were lost. -/
theorem Ipfix.decodeSet_skips_noFields (addr : Bytes) (fuel : Nat) (st : Ipfix.St) (sid : Nat) (body rest : Bytes)
    (hsid : sid < 65536) (hlen : 4 + body.length < 65536) (hfuel : 0 < fuel)
    (hrem : st.r.rem = setBytes sid body ++ rest) (hn : Ipfix.NoFields st.cache addr sid) :
    Ipfix.decodeSet addr fuel st =
      ({ st with r := ⟨rest, st.r.cnt + (setBytes sid body).length⟩ }, Ipfix.emptyErr sid body) :=
  Vflow.Ipfix.decodeSet_skips_noFields addr fuel st sid body rest hsid hlen hfuel hrem hn

theorem Ipfix.emptyErr_nonfatal (sid : Nat) (body : Bytes) (e : Err) (h : Ipfix.emptyErr sid body = some e) :
    Ipfix.nonfatalErr e = true := Vflow.Ipfix.emptyErr_nonfatal sid body e h

/-- **C09(a), Ipfix, one set, element missing from the information model.**  A data set whose
template `t` is in the cache, with a body of at least `minRecLen t` octets (one shortest record: since the
padding repair this is what it takes for the record loop to be entered) on which the record decoder — run on
the body alone — stops with `unknownElem` (a field specifier of `t` names an element that
`lookupElem` does not know, and the fields before it fit in the body), is skipped in the same way in
front of any `rest`; the error slot holds `unknownElem`. -/
theorem Ipfix.decodeSet_skips_unknownElem (addr : Bytes) (fuel : Nat) (st : Ipfix.St) (sid : Nat)
    (body rest : Bytes) (t : Template) (r1 : Rd)
    (hsid : sid < 65536) (hlen : 4 + body.length < 65536) (hfuel : 0 < fuel)
    (hrem : st.r.rem = setBytes sid body ++ rest)
    (hbig : sid > 255) (hlook : st.cache.lookup addr sid = some t) (hbody : body.length ≥ Ipfix.minRecLen t)
    (hdec : Ipfix.decodeData t ⟨body, st.r.cnt + 4⟩ = (.error .unknownElem, r1)) :
    Ipfix.decodeSet addr fuel st =
      ({ st with r := ⟨rest, st.r.cnt + (setBytes sid body).length⟩ }, some .unknownElem) :=
  Vflow.Ipfix.decodeSet_skips_unknownElem addr fuel st sid body rest t r1 hsid hlen hfuel hrem hbig hlook
    hbody hdec

/-! `Ipfix.Skipped addr c u e` ("at cache `c`, in front of any rest, at any count, with any records accumulated,
`decodeSet` only moves the reader over the whole set `u`, with the non-fatal error slot `e`") is the notion the
outer-loop and message-level theorems are stated with.  Three syntactic conditions suffice for it: -/

/-- an undecodable set is skipped -/
theorem Ipfix.skipped_of_undecodable (addr : Bytes) (c : Cache) (sid : Nat) (body : Bytes)
    (hsid : sid < 65536) (hlen : 4 + body.length < 65536) (hu : Ipfix.Undecodable c addr sid) :
    Ipfix.Skipped addr c (setBytes sid body) (Ipfix.skipErr sid) :=
  Vflow.Ipfix.skipped_of_undecodable addr c sid body hsid hlen hu

/-- a data set for a template without fields, or a set with id 1, is skipped (F30) -/
theorem Ipfix.skipped_of_noFields (addr : Bytes) (c : Cache) (sid : Nat) (body : Bytes)
    (hsid : sid < 65536) (hlen : 4 + body.length < 65536) (hn : Ipfix.NoFields c addr sid) :
    Ipfix.Skipped addr c (setBytes sid body) (Ipfix.emptyErr sid body) :=
  Vflow.Ipfix.skipped_of_noFields addr c sid body hsid hlen hn

/-- a data set that runs into an element missing from the information model is skipped -/
theorem Ipfix.skipped_of_unknownElem (addr : Bytes) (c : Cache) (sid : Nat) (body : Bytes) (t : Template)
    (r1 : Rd) (hsid : sid < 65536) (hlen : 4 + body.length < 65536)
    (hbig : sid > 255) (hlook : c.lookup addr sid = some t) (hbody : body.length ≥ Ipfix.minRecLen t)
    (hdec : Ipfix.decodeData t ⟨body, 0⟩ = (.error .unknownElem, r1)) :
    Ipfix.Skipped addr c (setBytes sid body) (some .unknownElem) :=
  Vflow.Ipfix.skipped_of_unknownElem addr c sid body t r1 hsid hlen hbig hlook hbody hdec

/-- **C09(a), Ipfix, outer loop.**  With a skipped set `u` in front (and more than 4 octets in all), the
outer loop spends one iteration on it and continues on `rest` exactly as if started there: same cache,
same records, count advanced by `|u|`, the error slot appended to the non-fatal errors. -/
theorem Ipfix.outer_skips (addr : Bytes) (fuel : Nat) (st : Ipfix.St) (errs : List Err) (u rest : Bytes)
    (e : Option Err) (hs : Ipfix.Skipped addr st.cache u e) (hrem : st.r.rem = u ++ rest)
    (hgt : u.length + rest.length > 4) :
    Ipfix.outer addr (fuel + 1) st errs =
      Ipfix.outer addr fuel { st with r := ⟨rest, st.r.cnt + u.length⟩ } (errs ++ e.toList) :=
  Vflow.Ipfix.outer_skips_gen addr fuel st errs u rest e hs hrem hgt

/-- tail case of `Ipfix.outer_skips`: when at most 4 octets remain (a bare 4-octet set header at the
very end, say) the outer loop stops without looking at them, exactly as it would on the empty rest. -/
theorem Ipfix.outer_skips_tail (addr : Bytes) (fuel : Nat) (st : Ipfix.St) (errs : List Err)
    (h : st.r.rem.length ≤ 4) :
    Ipfix.outer addr (fuel + 1) st errs = (st, none, errs) :=
  Vflow.Ipfix.outer_tail addr fuel st errs h

/-- **Locality, Ipfix.**  If the outer loop, run on the octets `x` alone (state `stT`), ends without a
fatal error in state `stT'` with error list `errs'`, then (i) at most 4 octets of `x` are left, and
(ii) there is a `j` such that on *every* extension `x ++ s` (state `stF`, `SRel s stT stF`: same cache,
records and count, `s` appended to the remaining octets) the loop passes after `j` iterations through
the state `stF'` corresponding to `stT'` with the same error list: what was decoded from `x` does not
depend on what follows.  The hypothesis that makes this true is that the run on `x` *alone* is clean:
the loop conditions look at the number of remaining octets (`> 4`, `≥ minLeft`), so a run that is starved on `x`
alone (fatal short read) can behave differently when more octets follow. -/
theorem Ipfix.outer_locality (addr : Bytes) (fuelT : Nat) (stT : Ipfix.St) (errs : List Err)
    (stT' : Ipfix.St) (errs' : List Err)
    (h : Ipfix.outer addr fuelT stT errs = (stT', none, errs')) :
    stT'.r.rem.length ≤ 4 ∧ ∃ j, j ≤ fuelT ∧ ∀ (s : Bytes) (stF : Ipfix.St), Ipfix.SRel s stT stF →
      ∃ stF', Ipfix.SRel s stT' stF' ∧
        ∀ m, Ipfix.outer addr (j + m) stF errs = Ipfix.outer addr m stF' errs' :=
  Vflow.Ipfix.outer_ext addr fuelT stT errs stT' errs' h

/-- **C09(a), Ipfix, whole message.**  `hdr` is a message header (`hh`); `pre` is a sequence of sets that the
outer loop, started after the header with cache `c`, decodes *on its own* exactly to its end without a
fatal error (`hpre`), leaving the cache `c1` — this is how "a position between two sets" is
expressed; `u` is skipped at `c1`, the cache at that point (`Ipfix.Skipped`; by
`Ipfix.skipped_of_undecodable` / `Ipfix.skipped_of_unknownElem` / `Ipfix.skipped_of_noFields`: unknown template,
reserved id, element missing from the model, template without fields).  Then for every `post`, inserting `u`
between `pre` and `post` changes neither the decoded records, nor the resulting cache, nor whether / with which
fatal error `Decode` fails (at most one more non-fatal error is reported).

Hypotheses, exactly: `hpre` (it is about `pre` alone because a set of `pre` that reads past the end of
`pre` makes the decoding of `pre` depend on what follows, see `Ipfix.outer_locality`); `hfuel`: the decode
of the message *without* `u` does not run out of model fuel (it never does: `C02Flow.ipfix_terminates`;
`Ipfix.decode_skips'` is the statement without this hypothesis). -/
theorem Ipfix.decode_skips (c : Cache) (addr hdr pre post u : Bytes) (e : Option Err)
    (h : Hdr) (k k1 : Nat) (c1 : Cache) (recs1 : List Record) (errs1 : List Err)
    (hh : Ipfix.readHeader ⟨hdr, 0⟩ = some (h, ⟨[], k⟩))
    (hpre : Ipfix.outer addr (pre.length + 1) ⟨⟨pre, k⟩, c, []⟩ [] = (⟨⟨[], k1⟩, c1, recs1⟩, none, errs1))
    (hs : Ipfix.Skipped addr c1 u e)
    (hfuel : (Ipfix.decode c addr (hdr ++ (pre ++ post))).1 ≠ .error .fuel) :
    Ipfix.recordsOf (Ipfix.decode c addr (hdr ++ (pre ++ (u ++ post)))).1 =
      Ipfix.recordsOf (Ipfix.decode c addr (hdr ++ (pre ++ post))).1 ∧
    (Ipfix.decode c addr (hdr ++ (pre ++ (u ++ post)))).2 = (Ipfix.decode c addr (hdr ++ (pre ++ post))).2 ∧
    ∀ x, (Ipfix.decode c addr (hdr ++ (pre ++ (u ++ post)))).1 = .error x ↔
      (Ipfix.decode c addr (hdr ++ (pre ++ post))).1 = .error x :=
  Vflow.Ipfix.decode_skips c addr hdr pre post u e h k k1 c1 recs1 errs1 hh hpre hs hfuel

set_option maxRecDepth 100000 in
/-- non-vacuity of `Ipfix.decodeSet_skips` / `Ipfix.outer_skips` -/
example :
    Ipfix.decodeSet exAddr 1 ⟨⟨exUnknown ++ exData2, 44⟩, exCache, [exRec1]⟩ =
      (⟨⟨exData2, 53⟩, exCache, [exRec1]⟩, some .unknownTpl) ∧
    Ipfix.decodeSet exAddr 1 ⟨⟨setBytes 100 [1, 2, 3, 4, 5] ++ exData2, 44⟩, exCache, [exRec1]⟩ =
      (⟨⟨exData2, 53⟩, exCache, [exRec1]⟩, none) ∧
    (Ipfix.outer exAddr 3 ⟨⟨exUnknown ++ exData2, 44⟩, exCache, [exRec1]⟩ []).1.recs = [exRec1, exRec2] :=
  ⟨Ipfix.decodeSet_skips exAddr 1 _ 999 [1, 2, 3, 4, 5] exData2 (by decide) (by decide) (by decide) rfl
      (.inl ⟨by decide, by decide⟩),
   Ipfix.decodeSet_skips exAddr 1 _ 100 [1, 2, 3, 4, 5] exData2 (by decide) (by decide) (by decide) rfl
      (.inr (by decide)),
   by rw [Ipfix.outer_skips exAddr 2 _ [] exUnknown exData2 _
        (Ipfix.skipped_of_undecodable exAddr exCache 999 [1, 2, 3, 4, 5] (by decide) (by decide)
          (.inl ⟨by decide, by decide⟩)) rfl (by decide)]; rfl⟩

/-! ### F30: the template record with field count 0

`exZeroTplSet` is the template set `{259: field count 0; 260: sourceIPv4Address/4}` of the audit's input: the
decoder installs 259 as a template without fields (`exZeroTpl`).  A data set for 259 — four octets, none, or set
id 1 with five octets — between two data sets of template 256 is skipped and both neighbours are decoded. -/

def exZeroTplSet : Bytes := [0, 2, 0, 16, 1, 3, 0, 0, 1, 4, 0, 1, 0, 8, 0, 4]
def exZeroTpl : Template := ⟨259, 0, 0, [], []⟩
def exTpl260 : Template := ⟨260, 1, 0, [], [⟨8, 4, 0⟩]⟩
def exCacheZero : Cache := Cache.insert (Cache.insert exCache exAddr 259 exZeroTpl) exAddr 260 exTpl260
def exZeroData : Bytes := setBytes 259 [1, 2, 3, 4]

theorem exCacheZero_noFields : Ipfix.NoFields exCacheZero exAddr 259 :=
  .inl ⟨by decide, exZeroTpl, by decide, rfl, rfl⟩

set_option maxRecDepth 100000 in
/-- the template set installs 259 as a template without fields -/
example : (Ipfix.decode [] exAddr (ipfixHdr ++ (ipfixTpl ++ exZeroTplSet))).2 = exCacheZero := by decide +kernel

set_option maxRecDepth 100000 in
/-- non-vacuity of `Ipfix.decodeSet_skips_noFields`: one set of each kind; and the audit's
message `[templates, data 256, data 259, data 256]` decodes to both records of template 256 (before the repair:
`.error .emptyRec`, no record) -/
example :
    Ipfix.decodeSet exAddr 1 ⟨⟨exZeroData ++ exData2, 60⟩, exCacheZero, [exRec1]⟩ =
      (⟨⟨exData2, 68⟩, exCacheZero, [exRec1]⟩, some .emptyRec) ∧
    Ipfix.decodeSet exAddr 1 ⟨⟨setBytes 259 [] ++ exData2, 60⟩, exCacheZero, [exRec1]⟩ =
      (⟨⟨exData2, 64⟩, exCacheZero, [exRec1]⟩, none) ∧
    Ipfix.decodeSet exAddr 1 ⟨⟨setBytes 1 [1, 2, 3, 4, 5] ++ exData2, 60⟩, exCacheZero, [exRec1]⟩ =
      (⟨⟨exData2, 69⟩, exCacheZero, [exRec1]⟩, some .emptyRec) ∧
    (Ipfix.decode [] exAddr (ipfixHdr ++ (ipfixTpl ++ exZeroTplSet ++ exData1 ++ exZeroData ++ exData2))).1 =
      .ok ([10, 56, 1, 2, 3], [exRec1, exRec2], [.emptyRec]) :=
  ⟨Ipfix.decodeSet_skips_noFields exAddr 1 _ 259 [1, 2, 3, 4] exData2 (by decide) (by decide) (by decide) rfl
      exCacheZero_noFields,
   Ipfix.decodeSet_skips_noFields exAddr 1 _ 259 [] exData2 (by decide) (by decide) (by decide) rfl
      exCacheZero_noFields,
   Ipfix.decodeSet_skips_noFields exAddr 1 _ 1 [1, 2, 3, 4, 5] exData2 (by decide) (by decide) (by decide) rfl
      (.inr rfl),
   rfl⟩

set_option maxRecDepth 100000 in
example :
    Ipfix.recordsOf (Ipfix.decode [] exAddr
        (ipfixHdr ++ ((ipfixTpl ++ exZeroTplSet ++ exData1) ++ (exZeroData ++ exData2)))).1 =
      Ipfix.recordsOf (Ipfix.decode [] exAddr (ipfixHdr ++ ((ipfixTpl ++ exZeroTplSet ++ exData1) ++ exData2))).1 ∧
    Ipfix.recordsOf (Ipfix.decode [] exAddr (ipfixHdr ++ ((ipfixTpl ++ exZeroTplSet ++ exData1) ++ exData2))).1 =
      [exRec1, exRec2] :=
  ⟨(Ipfix.decode_skips [] exAddr ipfixHdr (ipfixTpl ++ exZeroTplSet ++ exData1) exData2 exZeroData _
      [10, 56, 1, 2, 3] 16 60 exCacheZero [exRec1] [] rfl rfl
      (Ipfix.skipped_of_noFields exAddr exCacheZero 259 [1, 2, 3, 4] (by decide) (by decide) exCacheZero_noFields)
      (ok_ne_fuel (m := ([10, 56, 1, 2, 3], [exRec1, exRec2], [])) rfl)).1, rfl⟩

/-- non-vacuity of `Ipfix.decodeSet_skips_unknownElem` (the IPFIX decoder looks the element up before
reading the field); as `V9.ex_unknownElem` -/
theorem Ipfix.ex_unknownElem (x : Nat) (hx : lookupElem 0 x = none) :
    Ipfix.decodeSet exAddr 1 ⟨⟨setBytes 400 exBadBody ++ exData2, 44⟩, exCacheBad x, [exRec1]⟩ =
      (⟨⟨exData2, 60⟩, exCacheBad x, [exRec1]⟩, some .unknownElem) :=
  Ipfix.decodeSet_skips_unknownElem exAddr 1 _ 400 exBadBody exData2 (exTplBad x)
    ⟨[1, 2, 3, 4, 10, 0, 0, 8], 52⟩
    (by decide) (by decide) (by decide) rfl (by decide)
    (by simp [exCacheBad, Cache.lookup, Cache.insert]) (by simp [Ipfix.minRecLen, Ipfix.specMin, exTplBad, exBadBody])
    (by simp [Ipfix.decodeData, exTplBad, Ipfix.decFields_cons, exBadBody, Rd.readN, ex_lookup_8, hx,
      Ipfix.dataLen])

example :
    Ipfix.decodeSet exAddr 1 ⟨⟨setBytes 400 exBadBody ++ exData2, 44⟩, exCacheBad 9000, [exRec1]⟩ =
      (⟨⟨exData2, 60⟩, exCacheBad 9000, [exRec1]⟩, some .unknownElem) :=
  Ipfix.ex_unknownElem 9000 ex_lookup_9000

set_option maxRecDepth 100000 in
/-- non-vacuity of `Ipfix.decode_skips` -/
example :
    Ipfix.recordsOf (Ipfix.decode [] exAddr (ipfixHdr ++ ((ipfixTpl ++ exData1) ++ (exUnknown ++ exData2)))).1 =
      Ipfix.recordsOf (Ipfix.decode [] exAddr (ipfixHdr ++ ((ipfixTpl ++ exData1) ++ exData2))).1 ∧
    Ipfix.recordsOf (Ipfix.decode [] exAddr (ipfixHdr ++ ((ipfixTpl ++ exData1) ++ exData2))).1 =
      [exRec1, exRec2] :=
  ⟨(Ipfix.decode_skips [] exAddr ipfixHdr (ipfixTpl ++ exData1) exData2 exUnknown _
      [10, 56, 1, 2, 3] 16 44 exCache [exRec1] [] rfl rfl
      (Ipfix.skipped_of_undecodable exAddr exCache 999 [1, 2, 3, 4, 5] (by decide) (by decide)
        (.inl ⟨by decide, by decide⟩))
      (ok_ne_fuel (m := ([10, 56, 1, 2, 3], [exRec1, exRec2], [])) rfl)).1, rfl⟩

/-! ## Whole messages, without the fuel hypothesis

The decode without the inserted set never exhausts its fuel (`C02Flow.*_terminates`, for every cache and every
octet string).  The primed statements keep the equality of records and cache; that the fatal-error outcome is the
same too is the third conjunct of `decode_skips`. -/

/-- **C09(a), whole datagram, NetFlow v9**, for every datagram: records and cache -/
theorem V9.decode_skips' (c : Cache) (addr hdr pre post u : Bytes) (e : Option Err)
    (h : Hdr) (k k1 : Nat) (c1 : Cache) (recs1 : List Record) (errs1 : List Err)
    (hh : V9.readHeader ⟨hdr, 0⟩ = some (h, ⟨[], k⟩))
    (hpre : V9.outer addr (pre.length + 1) ⟨⟨pre, k⟩, c, []⟩ [] = (⟨⟨[], k1⟩, c1, recs1⟩, none, errs1))
    (hs : V9.Skipped addr c1 u e) :
    V9.recordsOf (V9.decode c addr (hdr ++ (pre ++ (u ++ post)))).1 =
      V9.recordsOf (V9.decode c addr (hdr ++ (pre ++ post))).1 ∧
    (V9.decode c addr (hdr ++ (pre ++ (u ++ post)))).2 = (V9.decode c addr (hdr ++ (pre ++ post))).2 :=
  let r := V9.decode_skips c addr hdr pre post u e h k k1 c1 recs1 errs1 hh hpre hs
    (C02Flow.v9_terminates c addr (hdr ++ (pre ++ post)))
  ⟨r.1, r.2.1⟩

/-- **C09(a), whole message, IPFIX**, for every message: records and cache -/
theorem Ipfix.decode_skips' (c : Cache) (addr hdr pre post u : Bytes) (e : Option Err)
    (h : Hdr) (k k1 : Nat) (c1 : Cache) (recs1 : List Record) (errs1 : List Err)
    (hh : Ipfix.readHeader ⟨hdr, 0⟩ = some (h, ⟨[], k⟩))
    (hpre : Ipfix.outer addr (pre.length + 1) ⟨⟨pre, k⟩, c, []⟩ [] = (⟨⟨[], k1⟩, c1, recs1⟩, none, errs1))
    (hs : Ipfix.Skipped addr c1 u e) :
    Ipfix.recordsOf (Ipfix.decode c addr (hdr ++ (pre ++ (u ++ post)))).1 =
      Ipfix.recordsOf (Ipfix.decode c addr (hdr ++ (pre ++ post))).1 ∧
    (Ipfix.decode c addr (hdr ++ (pre ++ (u ++ post)))).2 = (Ipfix.decode c addr (hdr ++ (pre ++ post))).2 :=
  let r := Ipfix.decode_skips c addr hdr pre post u e h k k1 c1 recs1 errs1 hh hpre hs
    (C02Flow.ipfix_terminates c addr (hdr ++ (pre ++ post)))
  ⟨r.1, r.2.1⟩

/-! ## The tie of the fatal / non-fatal classification to the current source -/

/-- **Tie (error classes)**: re-extracted on every run — the declaration of `nonfatalError` in ipfix/decoder.go and
netflow/v9/decoder.go (the struct wrapper: as `type nonfatalError error`, the F4 defect, the type-switch case matches
every error and a truncated datagram fabricates records) and every construction of one — are exactly the reviewed
inventory in `Spec/Sites.lean`: IPFIX unknown template, zero-length record, element missing (scope / field loop) and,
since the F30 repair, "failed to decodeData" = `Ipfix.nonfatalErr`; NetFlow v9 the same without the last =
`Err.nonfatal`.  An error newly wrapped or unwrapped, or a changed declaration, breaks this obligation. -/
theorem nonfatal_reviewed :
    Gen.Sites.nonfatalIpfix = Spec.Sites.nonfatalIpfix ∧ Gen.Sites.nonfatalV9 = Spec.Sites.nonfatalV9 :=
  ⟨rfl, rfl⟩

/-! ## Tie: `Decoder.decodeSet` and `Decoder.Decode` TRANSLATED statement by statement on every run (`Gen.IpfixIR`) and
interpreted with Go's semantics (`Model/IpfixIR.lean`, linked in `Model/IpfixProg.lean`) ARE `Ipfix.decodeSet` /
`Ipfix.decode` — the functions every theorem above is about.  What the guard inventory and the correspondence runs
do not tie statically: the template lookup, `err` carried across the rounds of the record loop, `break` / `return`
inside it, the leftover skip with its wrapping 16-bit difference, the non-fatal error collection.
`fuel` bounds every loop of the interpreted program; it has to exceed the octets still to read and the size of every
cached template (`decodeData` runs over its specifiers).  Proofs: `Proofs/IpfixIRSet.lean`, `Proofs/IpfixIRMsg.lean`. -/

/-- **`Decoder.decodeSet` translated = `Ipfix.decodeSet`** for every exporter, reader state, cache, message so far
(`agent`, `hdr`, the records in `st.recs`) — state afterwards, the records appended to `msg.DataSets`, and the returned
error with its class and its wrapping in `nonfatalError{…}` (`IpfixProg.errV`: wrapped exactly when the model calls it
non-fatal).  `f'` is the model's own fuel: any value above the octets left, like `fuel`. -/
theorem gen_ir_decodeSet (addr : Bytes) (fuel f' : Nat) (st : Ipfix.St) (agent : Bytes) (hdr : IpfixIR.MHdr)
    (hfuel : st.r.rem.length < fuel) (hf' : st.r.rem.length < f')
    (hc : ∀ e ∈ st.cache, e.2.scope.length + e.2.fields.length < fuel) :
    IpfixProg.decodeSet addr fuel [.msg agent hdr st.recs] ⟨st.r, st.cache⟩ =
      some (⟨(Ipfix.decodeSet addr f' st).1.r, (Ipfix.decodeSet addr f' st).1.cache⟩,
        [.msg agent hdr (Ipfix.decodeSet addr f' st).1.recs], [IpfixProg.errV (Ipfix.decodeSet addr f' st).2]) :=
  IpfixIR.decodeSet_sem addr fuel f' (fuel - 1) st agent hdr hfuel hf'
    (fun e he => by have := hc e he; simp only [Ipfix.nfields]; omega) (by omega)

/-- **`Decoder.Decode` translated = `Ipfix.decode`** for every datagram, cache and exporter address: the same cache
afterwards and the same result — the message (AgentID, header, data sets in order) with the collected non-fatal
errors, or `nil` and the fatal error (`IpfixProg.decodeResult`).  `r'` is where the reader stands at the end (the
model does not report it). -/
theorem gen_ir_decode (c : Cache) (addr bs : Bytes) (fuel : Nat) (hfuel : bs.length < fuel)
    (hc : ∀ e ∈ c, e.2.scope.length + e.2.fields.length < fuel) :
    ∃ r', IpfixProg.decode addr fuel [] ⟨⟨bs, 0⟩, c⟩ =
      some (⟨r', (Ipfix.decode c addr bs).2⟩, [], IpfixProg.decodeResult addr (Ipfix.decode c addr bs).1) :=
  IpfixIR.decode_sem c addr bs fuel hfuel hc

set_option maxRecDepth 100000 in
/-- non-vacuity: the interpreted translation of `Decode` on the example message (template set, two data sets) yields the
message with both records, no error, and the cache with template 256 -/
example : ∃ r', IpfixProg.decode exAddr 57 [] ⟨⟨ipfixMsg, 0⟩, []⟩ =
    some (⟨r', exCache⟩, [], [.msg exAddr ⟨10, 56, 1, 2, 3⟩ [exRec1, exRec2], .errs []]) := by
  have h := gen_ir_decode [] exAddr ipfixMsg 57 (by decide) (by simp)
  have hm : Ipfix.decode [] exAddr ipfixMsg = (.ok ([10, 56, 1, 2, 3], [exRec1, exRec2], []), exCache) := by rfl
  rw [hm] at h
  exact h

set_option maxRecDepth 100000 in
/-- … and on a message whose only set names a template nobody announced: the message without records and the
non-fatal error, wrapped -/
example : ∃ r', IpfixProg.decode exAddr 40 [] ⟨⟨ipfixHdr ++ exUnknown, 0⟩, []⟩ =
    some (⟨r', []⟩, [], [.msg exAddr ⟨10, 56, 1, 2, 3⟩ [], .errs [⟨true, .unknownTpl⟩]]) := by
  have h := gen_ir_decode [] exAddr (ipfixHdr ++ exUnknown) 40 (by decide) (by simp)
  have hm : Ipfix.decode [] exAddr (ipfixHdr ++ exUnknown) = (.ok ([10, 56, 1, 2, 3], [], [.unknownTpl]), []) := by rfl
  rw [hm] at h
  exact h

/-- **NetFlow v9: `Decoder.decodeSet` translated (`Gen.V9IR`) = `V9.decodeSet`** for every exporter, reader state, cache
and message so far: template flowsets 0 / 1, reserved ids, data flowsets with the zero-length rule, every error followed
by the skip of what is left of the flowset — a difference of `int`s that may be negative (`V9.leftInt`; the IR has
negative `int` values for it) -/
theorem gen_ir_v9_decodeSet (addr : Bytes) (fuel f' : Nat) (st : V9.St) (agent : Bytes) (hdr : IpfixIR.PHdr)
    (hfuel : st.r.rem.length < fuel) (hf' : st.r.rem.length < f')
    (hc : ∀ e ∈ st.cache, e.2.scope.length + e.2.fields.length < fuel) :
    V9Prog.decodeSet addr fuel [.msg9 agent hdr st.recs] ⟨st.r, st.cache⟩ =
      some (⟨(V9.decodeSet addr f' st).1.r, (V9.decodeSet addr f' st).1.cache⟩,
        [.msg9 agent hdr (V9.decodeSet addr f' st).1.recs], [V9Prog.errV (V9.decodeSet addr f' st).2]) :=
  V9IR.decodeSet_sem addr fuel f' (fuel - 1) st agent hdr hfuel hf'
    (fun e he => by have := hc e he; simp only [V9.nfields]; omega) (by omega)

/-- **NetFlow v9: `Decoder.Decode` translated = `V9.decode`** for every datagram, cache and exporter address -/
theorem gen_ir_v9_decode (c : Cache) (addr bs : Bytes) (fuel : Nat) (hfuel : bs.length < fuel)
    (hc : ∀ e ∈ c, e.2.scope.length + e.2.fields.length < fuel) :
    ∃ r', V9Prog.decode addr fuel [] ⟨⟨bs, 0⟩, c⟩ =
      some (⟨r', (V9.decode c addr bs).2⟩, [], V9Prog.decodeResult addr (V9.decode c addr bs).1) :=
  V9IR.decode_sem c addr bs fuel hfuel hc

set_option maxRecDepth 100000 in
/-- non-vacuity: the interpreted translation of the v9 `Decode` on the example packet -/
example : ∃ r', V9Prog.decode exAddr 61 [] ⟨⟨v9Msg, 0⟩, []⟩ =
    some (⟨r', exCache⟩, [], [.msg9 exAddr ⟨9, 3, 1, 2, 3, 4⟩ [exRec1, exRec2], .errs []]) := by
  have h := gen_ir_v9_decode [] exAddr v9Msg 61 (by decide) (by simp)
  have hm : V9.decode [] exAddr v9Msg = (.ok ([9, 3, 1, 2, 3, 4], [exRec1, exRec2], []), exCache) := by rfl
  rw [hm] at h
  exact h

end Vflow.C09
