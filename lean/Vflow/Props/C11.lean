import Vflow.Proofs.CacheReach
import Vflow.Proofs.JsonPrefix
/-!
# C11 — the template cache survives a restart; any cache file content is safe to load

Model: `CacheFile.dumpJson` (the octets `Dump` writes), `CacheFile.Doc` (what `json.Unmarshal`
can produce for `memCacheDisk`: absent / null shards, null maps, any `ShardNo`), `CacheFile.loadDoc`
(`GetCache` after the F9 repair), `CacheFile.docOf c` (the document `json.Unmarshal` reads back from
`Dump`'s output for cache `c`).

Crash points (the collector is killed while `Dump` writes the file): `Spec.jsonValid` is a port of the scanner
of Go's `encoding/json` (= `json.Valid`; `Spec/JsonText.lean`), `CacheFile.dumpJsonTs` the file with the
timestamps that are really written.  Proved here: the file is accepted (`dump_valid`), **every proper prefix of
it is rejected** (`dump_prefix_rejected`; both are instances of theorems about all RFC 8259 trees,
`json_render_valid` / `json_render_prefix_rejected`), hence the next start comes up with a fresh cache
(`load_prefix`).

Not modelled (library, trusted): (1) `jsonValid` = `json.Valid` — sampled on every run by the `jsonvalid`
correspondence kind (real dumps and their prefixes, structure-aware mutations, random octets); (2)
`json.Unmarshal` returns an error for whatever `json.Valid` rejects (it runs the same scanner over the whole
input first — `bindFile`); (3) the reflection-driven binding of an accepted text to `Doc` — a parameter of
`load_prefix`, obtained from `encoding/json` itself in the `*-cachefile` correspondence kinds, which also load
EVERY prefix of every sampled file with the real `GetCache`.
-/
namespace Vflow.C11
open Vflow Vflow.CacheFile Vflow.Spec

/-- lookup by key looks at the entries under that key only -/
theorem lookupKey_filter (c : Cache) (p : CKey × Template → Bool) (k : CKey) (h : ∀ e, e.1 = k → p e = true) :
    Cache.lookupKey (c.filter p) k = Cache.lookupKey c k := by
  unfold Cache.lookupKey
  rw [List.find?_filter]
  congr 2
  funext e
  by_cases he : e.1 = k
  · simp [he, h e he]
  · simp [he]

/-- **C11 (restart)**: for every cache reachable by decoding (keys distinct), loading the document
written for it gives a cache in which every key of the 32 shards maps to the same template — so every datagram
sequence decodes against `load (save c)` exactly as against `c`: lookups are the decoders' only
access to the cache (`C04.ipfix_data_uses_lookup`, `C04.v9_data_uses_lookup`).  The premise `k.1 < 32` holds of
every key `cacheKey a id` the decoders ask for, so `load_save_lookup` needs none. -/
theorem load_save (c : Cache) (hnd : NoDupKeys c) (k : CKey) (hk : k.1 < 32) :
    Cache.lookupKey (loadDoc (some (docOf c))) k = Cache.lookupKey c k := by
  have hp := docEntries_docOf_perm c
  have hndf : NoDupKeys (c.filter fun e => e.1.1 < 32) := by
    unfold NoDupKeys at *; exact (List.filter_sublist.map _).nodup hnd
  have hnd' : NoDupKeys (docEntries (docOf c)) := by
    unfold NoDupKeys at *; exact (hp.map _).nodup_iff.mpr hndf
  simp only [loadDoc, docUsable_docOf, if_true]
  rw [lookupKey_foldl_insertKey _ hnd' [] k, lookupKey_perm hp hnd' k,
    lookupKey_filter c _ k (fun e he => by simp [he, hk])]
  cases Cache.lookupKey c k <;> rfl

/-- the same, at the (exporter, id) level the decoders use: for every exporter address and template id -/
theorem load_save_lookup (c : Cache) (hnd : NoDupKeys c) (a : Bytes) (id : Nat) :
    (loadDoc (some (docOf c))).lookup a id = c.lookup a id := by
  rw [Cache.lookup_eq, Cache.lookup_eq, load_save c hnd _ (shardOf_lt a id)]

/-! The hypothesis of `load_save` holds of every cache reachable from the empty cache (or from any loaded cache) by
decoding any datagrams, IPFIX and NetFlow v9. -/

theorem reachable_ipfix (c : Cache) (addr bs : Bytes) (h : NoDupKeys c) : NoDupKeys (Ipfix.decode c addr bs).2 :=
  Ipfix.decode_nodup c addr bs h
theorem reachable_v9 (c : Cache) (addr bs : Bytes) (h : NoDupKeys c) : NoDupKeys (V9.decode c addr bs).2 :=
  V9.decode_nodup c addr bs h
theorem empty_nodup : NoDupKeys ([] : Cache) := List.nodup_nil

/-- whatever is loaded has distinct keys again (so restart cycles compose) -/
theorem loadDoc_nodup (d : Option Doc) : NoDupKeys (loadDoc d) := by
  cases d with
  | none => exact List.nodup_nil
  | some d =>
    simp only [loadDoc]
    split
    · exact foldl_insertKey_nodup _ _ List.nodup_nil
    · exact List.nodup_nil

/-- **C11 (any content, usable)**: `GetCache` returns either the document's cache — and then the
document has 32 shards, none null, every map present, which is what the decoders index into — or a
fresh cache.  There is no third outcome, whatever the file contains. -/
theorem load_usable (d : Option Doc) :
    loadDoc d = [] ∨ ∃ doc, d = some doc ∧ doc.shardNo = 32 ∧ doc.shards.length = 32 ∧
      ∀ s ∈ doc.shards, ∃ l, s = some (some l) := by
  cases d with
  | none => exact .inl rfl
  | some doc =>
    cases hu : docUsable doc with
    | false => exact .inl (by simp [loadDoc, hu])
    | true =>
      simp only [docUsable, Bool.and_eq_true, beq_iff_eq, List.all_eq_true] at hu
      refine .inr ⟨doc, rfl, hu.1.1, hu.1.2, fun s hs => ?_⟩
      match s, hu.2 s hs with
      | some (some l), _ => exact ⟨l, rfl⟩

/-- **C11 (any content, only saved templates)**: every entry of the loaded cache is an entry of the document -/
theorem load_subset (d : Doc) : ∀ e ∈ loadDoc (some d), e ∈ docEntries d := by
  simp only [loadDoc]
  split
  · exact fun e he => (mem_foldl_insertKey _ [] e he).resolve_right nofun
  · nofun

/-- every entry of `docEntriesFrom i l` sits in one of the shards `i … i + l.length - 1` -/
theorem docEntriesFrom_shard (l : List DocShard) : ∀ (i : Nat), ∀ e ∈ docEntriesFrom i l, i ≤ e.1.1 ∧ e.1.1 < i + l.length := by
  induction l with
  | nil => intro i e he; cases he
  | cons s ss ih =>
    intro i e he
    simp only [docEntriesFrom, List.mem_append] at he
    rcases he with he | he
    · have : e.1.1 = i := by
        unfold shardEntries at he
        split at he
        · obtain ⟨x, _, rfl⟩ := List.mem_map.mp he; rfl
        · cases he
      simp only [List.length_cons]; omega
    · have := ih (i + 1) e he
      simp only [List.length_cons]; omega

/-- whatever is loaded lies in the 32 shards the decoders index (so `load_save` speaks about every key of a loaded cache) -/
theorem loadDoc_shard_lt (d : Doc) : ∀ e ∈ loadDoc (some d), e.1.1 < 32 := by
  intro e he
  have hm := load_subset d e he
  by_cases hu : docUsable d = true
  · simp only [docUsable, Bool.and_eq_true, beq_iff_eq] at hu
    have := (docEntriesFrom_shard d.shards 0 e hm).2
    omega
  · simp [loadDoc, hu] at he

/-! ## Upgrading: a file written before the K1 repair

The old code wrote the entries under the decimal text of the 32-bit hash (`map[uint32]Data`).  Such a file is still
valid input: `json.Unmarshal` binds the decimal strings as map keys, `valid()` accepts the document, the entries sit in
the cache (and are written back by every later `Dump`) — but no lookup ever asks for them: a key text built by
`getShard` for an address of 4 or more octets has at least 12 characters, the decimal text of a 32-bit number at most
10.  So after the upgrade every lookup answers as on a fresh cache and templates are learnt again from the exporters. -/

theorem natDigits_length_le : ∀ (k n : Nat), n < 10 ^ (k + 1) → (natDigits n).length ≤ k + 1
  | 0, n, h => by
    rw [natDigits]; simp only [Nat.zero_add, Nat.pow_one] at h; simp [h]
  | k+1, n, h => by
    rw [natDigits]
    split
    · simp
    · have : n / 10 < 10 ^ (k + 1) := by
        rw [Nat.div_lt_iff_lt_mul (by decide)]; rw [Nat.pow_succ] at h; exact h
      have := natDigits_length_le k (n / 10) this
      simp only [List.length_append, List.length_cons, List.length_nil]; omega

theorem hexBytes_length : ∀ (b : Bytes), (hexBytes b).length = 2 * b.length
  | [] => rfl
  | _ :: t => by simp only [hexBytes, List.length_cons, hexBytes_length t]; omega

/-- the decimal text of a 32-bit hash is never the key text of an (address, id) pair with an address of ≥ 4 octets -/
theorem old_key_never_cache_key (n : Nat) (hn : n < 4294967296) (i : Nat) (a : Bytes) (ha : 4 ≤ a.length) (id : Nat) :
    (i, natDigits n) ≠ cacheKey a id := by
  intro h
  have h2 := congrArg (fun k : CKey => k.2.length) h
  simp only [cacheKey, keyText, keyOctets, hexBytes_length, List.length_append, encBE_length] at h2
  have := natDigits_length_le 9 n (by omega)
  omega

/-- a document all of whose keys are decimal texts of 32-bit numbers (what the code before the repair wrote) -/
def OldFormat (d : Doc) : Prop := ∀ e ∈ docEntries d, ∃ n, n < 4294967296 ∧ e.1.2 = natDigits n

/-- **C11 (upgrade)**: loading a file of the old format gives a usable cache (`load_usable`) in which every lookup —
any exporter address of 4 or more octets (IPv4 and IPv6 addresses have 4 or 16), any template id — finds nothing: the
old entries are never used to decode, templates are learnt again -/
theorem load_old_format_lookup (d : Doc) (hold : OldFormat d) (a : Bytes) (ha : 4 ≤ a.length) (id : Nat) :
    (loadDoc (some d)).lookup a id = none := by
  simp only [Cache.lookup, Option.map_eq_none_iff, List.find?_eq_none]
  intro e he hk
  obtain ⟨n, hn, hkey⟩ := hold e (load_subset d e he)
  have hk' : e.1 = cacheKey a id := by simpa using hk
  apply old_key_never_cache_key n hn e.1.1 a ha id
  rw [← hkey, ← hk']

/-! Unreadable / rejected file ⇒ fresh cache; inconsistent document ⇒ fresh cache. -/

theorem load_rejected : loadDoc none = [] := rfl
theorem load_inconsistent (d : Doc) (h : docUsable d = false) : loadDoc (some d) = [] := by
  simp [loadDoc, h]

/-- **C11 (crash points, given rejection)**: if `encoding/json` rejects a file content, the result is the fresh
cache — for any file and any binding function.  *Partial* in that "rejected" is a premise; for the prefixes of
a dumped file `load_prefix` below proves it (`dump_prefix_rejected` + `bindFile`). -/
theorem load_prefix_partial (bind : Bytes → Option Doc) (file : Bytes) (n : Nat)
    (hrej : bind (file.take n) = none) : loadDoc (bind (file.take n)) = [] := by
  rw [hrej]; rfl

/-! ## Crash points: every proper prefix of the dumped file is rejected -/

/-- **RFC 8259 trees are accepted**: for every well-formed tree `j` (`Spec.WF`: numbers satisfy `isNumber`, string
bodies and keys `isStrBody`) whose brackets nest at most `maxNestingDepth` = 10000 deep — the limit of Go's
scanner, which `jsonValid` mirrors; beyond it Go rejects the text — the compact rendering is accepted by
`jsonValid` (the port of `json.Valid`) -/
theorem json_render_valid (j : Json) (hwf : WF j) (hd : JsonScan.depth j ≤ maxNestingDepth) :
    jsonValid (render j) = true :=
  JsonScan.render_valid j hwf hd

/-- **no proper prefix of a rendered object or array is accepted** (for scalars it is false: `1` is a prefix of `12`) -/
theorem json_render_prefix_rejected (j : Json) (hwf : WF j) (hd : JsonScan.depth j ≤ maxNestingDepth)
    (hc : JsonScan.isContainer j = true) (n : Nat) (hn : n < (render j).length) :
    jsonValid ((render j).take n) = false :=
  JsonScan.render_prefix_rejected j hwf hd hc n hn

/-- the scanner fact behind it, for any text: an accepted text that begins with `{` or `[` and does not end in
whitespace has no accepted proper prefix -/
theorem json_valid_prefix_rejected (d : Bytes) (c0 : UInt8) (t : Bytes) (hd : d = c0 :: t) (hc0 : c0 = 123 ∨ c0 = 91)
    (l : Bytes) (z : UInt8) (hlast : d = l ++ [z]) (hz : isSpace z = false) (hv : jsonValid d = true)
    (n : Nat) (hn : n < d.length) : jsonValid (d.take n) = false :=
  JsonScan.valid_prefix_rejected d c0 t hd hc0 l z hlast hz hv n hn

/-- the file with real timestamps is the rendering of a well-formed object tree (`JsonPrefix.dumpTree`), 8 deep at most -/
theorem dump_is_render (ipfix : Bool) (ts : CKey → Int) (c : Cache) :
    dumpJsonTs ipfix ts c = render (JsonPrefix.dumpTree ipfix ts c) ∧ WF (JsonPrefix.dumpTree ipfix ts c) ∧
      JsonScan.isContainer (JsonPrefix.dumpTree ipfix ts c) = true ∧ JsonScan.depth (JsonPrefix.dumpTree ipfix ts c) ≤ 8 :=
  ⟨JsonPrefix.dumpJsonTs_eq_render ipfix ts c, JsonPrefix.dumpTree_wf ipfix ts c, rfl, JsonPrefix.dumpTree_depth ipfix ts c⟩

/-- `dumpJson`, the file with every timestamp 0 (what the harness compares with the real `Dump`, timestamps zeroed on
both sides), is `dumpJsonTs` at the constant 0 -/
theorem dump_zero (ipfix : Bool) (c : Cache) : dumpJson ipfix c = dumpJsonTs ipfix (fun _ => 0) c :=
  JsonPrefix.dumpJsonTs_zero ipfix c

/-- **the file `Dump` writes is valid JSON**, for every cache and every timestamps (both protocols) -/
theorem dump_valid (ipfix : Bool) (ts : CKey → Int) (c : Cache) : jsonValid (dumpJsonTs ipfix ts c) = true :=
  JsonPrefix.dump_valid ipfix ts c

/-- **C11 (crash points)**: every proper prefix of the file `Dump` writes — whatever was written when the
collector was killed — is rejected by the JSON scanner -/
theorem dump_prefix_rejected (ipfix : Bool) (ts : CKey → Int) (c : Cache) (n : Nat)
    (h : n < (dumpJsonTs ipfix ts c).length) : jsonValid ((dumpJsonTs ipfix ts c).take n) = false :=
  JsonPrefix.dump_prefix_rejected ipfix ts c n h

/-- `GetCache` reads the file: `json.Unmarshal(b, &mem)` first runs the scanner over the WHOLE input and returns its
error without touching `mem` (`encoding/json/decode.go`, Go 1.23, `func Unmarshal`, lines 97–105:
`err := checkValid(data, &d.scan); if err != nil { return err }` — `checkValid` is also all that `json.Valid`
does, `scanner.go` lines 16–20 and 26–41); only an accepted text reaches the reflection-driven binding
`bindValid` (library code, not modelled: any function). -/
def bindFile (bindValid : Bytes → Option Doc) (bs : Bytes) : Option Doc :=
  if jsonValid bs then bindValid bs else none

/-- **C11 (crash points, restart)**: the collector killed at ANY point of writing the cache file comes up with a
fresh, usable cache at the next start — for every cache, every timestamps, every prefix length, both protocols,
and whatever the library's binding would make of a text -/
theorem load_prefix (bindValid : Bytes → Option Doc) (ipfix : Bool) (ts : CKey → Int) (c : Cache) (n : Nat)
    (h : n < (dumpJsonTs ipfix ts c).length) :
    loadDoc (bindFile bindValid ((dumpJsonTs ipfix ts c).take n)) = [] := by
  simp only [bindFile, dump_prefix_rejected ipfix ts c n h]
  rfl

/-- the complete file does reach the binding (so `load_save` applies to it when the binding yields `docOf c`) -/
theorem load_whole (bindValid : Bytes → Option Doc) (ipfix : Bool) (ts : CKey → Int) (c : Cache) :
    bindFile bindValid (dumpJsonTs ipfix ts c) = bindValid (dumpJsonTs ipfix ts c) := by
  simp only [bindFile, dump_valid ipfix ts c, if_true]

/-- the F9 witnesses load as fresh caches: `{"Cache":[],"ShardNo":32}`, a null shard, a shard without a map -/
example : loadDoc (some ⟨32, []⟩) = [] := by decide +kernel
example : loadDoc (some ⟨32, List.replicate 31 (some (some [])) ++ [none]⟩) = [] := by decide +kernel
example : loadDoc (some ⟨32, List.replicate 31 (some (some [])) ++ [some none]⟩) = [] := by decide +kernel
/-- non-vacuity of `load_save`: a two-template cache -/
def exCache : Cache :=
  Cache.insert (Cache.insert [] [10,0,0,1] 256 ⟨256, 1, 0, [], [⟨8, 4, 0⟩]⟩) [10,0,0,2] 300 ⟨300, 1, 0, [], [⟨1, 8, 0⟩]⟩
example : (exCache.map (·.1)).Nodup := by decide +kernel
example : (loadDoc (some (docOf exCache))).lookup [10,0,0,1] 256 = some ⟨256, 1, 0, [], [⟨8, 4, 0⟩]⟩ := by decide +kernel
/-- non-vacuity of the crash-point theorems on the same two-template cache (IPFIX, timestamps 1700000000 + key):
the recogniser, evaluated by the kernel, accepts the 960-octet file and rejects the file without its last octet,
the file cut inside the first template, and the empty file -/
def exTs : CKey → Int := fun k => 1700000000 + k.1
/-- one evaluation for the four facts about the file: the kernel computes the file once -/
theorem exFile_evaluated : (dumpJsonTs true exTs exCache).length = 960 ∧ jsonValid (dumpJsonTs true exTs exCache) = true ∧
    jsonValid ((dumpJsonTs true exTs exCache).take 959) = false ∧
    jsonValid ((dumpJsonTs true exTs exCache).take 300) = false := by decide +kernel
example : (dumpJsonTs true exTs exCache).length = 960 := exFile_evaluated.1
example : jsonValid (dumpJsonTs true exTs exCache) = true := exFile_evaluated.2.1
example : jsonValid ((dumpJsonTs true exTs exCache).take 959) = false := exFile_evaluated.2.2.1
example : jsonValid ((dumpJsonTs true exTs exCache).take 300) = false := exFile_evaluated.2.2.2
example : jsonValid ((dumpJsonTs false exTs exCache).take 0) = false := by decide +kernel
/-- non-vacuity of the upgrade theorem: the file the old code wrote for exporter 10.118.203.99 / template 1039 (hash
2885243512, shard 24) is of the old format, loads to a one-entry cache, and the lookup for that very exporter and id
finds nothing (`corpus/C11/*-cachefile--F26-old-format.txt` loads such files with the real `GetCache`) -/
def exOldDoc : Doc :=
  ⟨32, List.replicate 24 (some (some [])) ++ [some (some [(natDigits 2885243512, ⟨1039, 1, 0, [], [⟨8, 4, 0⟩]⟩)])] ++
    List.replicate 7 (some (some []))⟩
example : docEntries exOldDoc = [((24, natDigits 2885243512), ⟨1039, 1, 0, [], [⟨8, 4, 0⟩]⟩)] := by decide +kernel
example : OldFormat exOldDoc := by
  intro e he
  have : docEntries exOldDoc = [((24, natDigits 2885243512), ⟨1039, 1, 0, [], [⟨8, 4, 0⟩]⟩)] := by decide +kernel
  rw [this, List.mem_singleton] at he
  exact ⟨2885243512, by decide, by rw [he]⟩
example : loadDoc (some exOldDoc) = [((24, natDigits 2885243512), ⟨1039, 1, 0, [], [⟨8, 4, 0⟩]⟩)] := by decide +kernel
example : oldCacheKey [10, 118, 203, 99] 1039 = 2885243512 ∧ 2885243512 % 32 = 24 := by decide
example : (loadDoc (some exOldDoc)).lookup [10, 118, 203, 99] 1039 = none := by decide +kernel
/-- the scanner is not trivial: it accepts a text with whitespace, rejects a trailing comma and a second value -/
example : jsonValid (str " {\"a\" : [1.5e+3, null]}\n") = true := by rw [str_eq]; decide +kernel
example : jsonValid (str "{\"a\":[1,]}") = false := by rw [str_eq]; decide +kernel
example : jsonValid (str "{} {}") = false := by rw [str_eq]; decide +kernel

end Vflow.C11
