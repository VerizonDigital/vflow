import Vflow.Proofs.SflowSpec2
import Vflow.Gen.OptionsTbl
import Vflow.Gen.SflowFilter
/-!
# C18 — the sFlow type filter removes exactly the listed sample types

`decode f bs` is `SFDecoder{filter: f}.SFDecode()`.  A sample whose format is in `f` is skipped by its
*declared length* without being decoded, whereas the unfiltered decoder decodes it by its contents.
The two therefore agree exactly when every sample the filter skips is *framed* (`Framed`): decoding its
body succeeds and ends where its declared length says — which is what "well-formed" means for a sample.
Under that hypothesis the theorem holds for **every** filter list and **every** octet string, errors
included; without it the statement is false (`framing_needed`).  When the filter lists neither flow (1)
nor counter (2) samples no hypothesis is needed at all.

What the hypothesis asks: that the declared length of a skipped sample is its real length and that the
records in it can be *read* (no EOF inside a record, no sampled header longer than 1500 octets).  It asks
nothing of the sampled headers themselves, nor of the lengths of extended-router records (F19: a header the
dissector rejects — truncated, not IP, … — and a router record of another length do not fail the decode):
such a sample decodes, ends where its length says, and is framed (`filter_undissectable`, and `filter_encode` /
`filter_encode'` over the well-formed datagrams).  `framing_needed`: a wrong declared length separates the
two decoders.
-/
namespace Vflow.C18
open Vflow Vflow.Sflow

/-- every sample of `bs` that the filter `f` would skip is framed by its declared length -/
def FramedDatagram (f : List Nat) (bs : Bytes) : Prop :=
  ∀ h r, decodeHeader bs = .ok (h, r) → Framed f (bs.length + 1) h.samplesNo r

/-- **C18**: for every filter list and every octet string whose filtered samples are framed, decoding
with the filter gives exactly what decoding without it gives — the same error, or the same datagram
minus the samples of the listed types, every other sample and counter unchanged and in the same order.
By induction over the sample loop (`loopN_filter`). -/
theorem filter_spec (f : List Nat) (bs : Bytes) (hfr : FramedDatagram f bs) :
    decode f bs = (decode [] bs).map (dropTypes f) := by
  unfold decode
  split
  · rename_i h r hx
    rw [loopN_filter f _ _ _ (hfr h r hx)]
    cases loopN (sampleStep []) (bs.length + 1) h.samplesNo r with
    | ok q => simp only [Res.mapFst, Res.map, mkDatagram_keep]
    | _ => rfl
  all_goals rfl

/-- **C18 (unsupported types)**: a filter that lists neither flow nor counter samples changes nothing,
for every octet string, with no hypothesis -/
theorem filter_unsupported (f : List Nat) (h1 : 1 ∉ f) (h2 : 2 ∉ f) (bs : Bytes) :
    decode f bs = decode [] bs := by
  rw [filter_spec f bs (fun h r _ => framed_of_unlisted f h1 h2 _ _ _), map_dropTypes_unlisted h1 h2]

/-- the empty filter is the unfiltered decoder's own specification (sanity of `dropTypes`) -/
theorem filter_nil (bs : Bytes) : (decode [] bs).map (dropTypes []) = decode [] bs :=
  map_dropTypes_unlisted List.not_mem_nil List.not_mem_nil _

/-- the kept samples are decoded exactly as without the filter: membership form of `filter_spec` -/
theorem filter_spec_ok (f : List Nat) (bs : Bytes) (hfr : FramedDatagram f bs) (d : Datagram)
    (h : decode [] bs = .ok d) :
    decode f bs = .ok { d with samples := if 1 ∈ f then [] else d.samples,
                               counters := if 2 ∈ f then [] else d.counters } := by
  rw [filter_spec f bs hfr, h]; rfl

/-- **C18 (well-formed datagrams)**: for every filter list and every well-formed abstract datagram, the
filtered decode of its encoding is the expected datagram minus the listed types (C07 is the case `f = []`);
proved from the sample-level round trip (`decode_enc`), without the framing hypothesis -/
theorem filter_encode (f : List Nat) (d : ADatagram) (hwf : d.WF) :
    decode f (encodeSflow d) = .ok (dropTypes f (expected d)) := decode_enc f d hwf

/-- **C18 (well-formed datagrams, abstract headers)**: the same over `ADatagram'`, whose raw-header records
are abstract headers — representable or undissectable (`ABad`) -/
theorem filter_encode' (f : List Nat) (d : ADatagram') (hwf : d.WF) :
    decode f (encodeSflow' d) = .ok (dropTypes f (expected' d)) := decode_enc' f d hwf

/-- a datagram: flow sample (extended switch record) followed by a counter sample (processor record) -/
def witness : Bytes :=
  [0,0,0,5, 0,0,0,1, 10,0,0,1, 0,0,0,0, 0,0,0,1, 0,0,0,2, 0,0,0,2,
   0,0,0,1, 0,0,0,56, 0,0,0,7, 0,0,0,0, 0,0,0,1, 0,0,0,2, 0,0,0,0, 0,0,0,3, 0,0,0,4, 0,0,0,1,
     0,0,3,233, 0,0,0,16, 0,0,0,1, 0,0,0,2, 0,0,0,3, 0,0,0,4,
   0,0,0,2, 0,0,0,48, 0,0,0,9, 2,0,0,17, 0,0,0,1,
     0,0,3,233, 0,0,0,28, 0,0,0,1, 0,0,0,2, 0,0,0,3, 0,0,0,0,0,0,0,4, 0,0,0,0,0,0,0,5]

set_option maxRecDepth 20000 in
/-- non-vacuity: on the witness the filtered flow sample precedes the counter sample, which is decoded
exactly as without the filter -/
example : decode [1] witness = (decode [] witness).map (dropTypes [1]) ∧
    (decode [] witness).map (fun d => (d.samples.length, d.counters.length)) = .ok (1, 1) ∧
    (decode [1] witness).map (fun d => (d.samples.length, d.counters.length)) = .ok (0, 1) := by
  decide +kernel

/-- a datagram: a flow sample whose only record is a raw header of 14 octets (Ethernet only — the
dissector's `errShortIPv4HeaderLength`) followed by a counter sample (processor record) -/
def witnessUndissectable : Bytes :=
  [0,0,0,5, 0,0,0,1, 10,0,0,1, 0,0,0,0, 0,0,0,1, 0,0,0,2, 0,0,0,2,
   0,0,0,1, 0,0,0,72, 0,0,0,7, 0,0,0,0, 0,0,0,1, 0,0,0,2, 0,0,0,0, 0,0,0,3, 0,0,0,4, 0,0,0,1,
     0,0,0,1, 0,0,0,32, 0,0,0,1, 0,0,0,64, 0,0,0,4, 0,0,0,14, 2,0,0,0,0,1, 2,0,0,0,0,2, 8,0, 0,0,
   0,0,0,2, 0,0,0,48, 0,0,0,9, 2,0,0,17, 0,0,0,1,
     0,0,3,233, 0,0,0,28, 0,0,0,1, 0,0,0,2, 0,0,0,3, 0,0,0,0,0,0,0,4, 0,0,0,0,0,0,0,5]

/-- **C18 (undissectable header in a filtered sample — F19a)**: the filtered and the unfiltered decoder
agree on the witness, and the unfiltered one reports the flow sample (its `RawHeader` the record's four words —
protocol 1, frame length 64, stripped 4, 14 octets — without a packet: F33) and the counter sample; before the F19a
repair the unfiltered decoder returned the dissector's `ip4Short` where the filtered one returned the counter sample -/
theorem filter_undissectable :
    decode [1] witnessUndissectable = (decode [] witnessUndissectable).map (dropTypes [1]) ∧
    (decode [] witnessUndissectable).map (fun d => (d.samples.map (·.recs.raw), d.counters.length)) =
      .ok ([some ⟨1, 64, 4, 14, none⟩], 1) ∧
    (decode [1] witnessUndissectable).map (fun d => (d.samples.length, d.counters.length)) = .ok (0, 1) := by
  decide +kernel

/-- the framing hypothesis is necessary: a flow sample whose declared length (0) is not its real length
is skipped differently by the two decoders -/
theorem framing_needed : ∃ f bs, decode f bs ≠ (decode [] bs).map (dropTypes f) :=
  ⟨[1], [0,0,0,5, 0,0,0,1, 10,0,0,1, 0,0,0,0, 0,0,0,1, 0,0,0,2, 0,0,0,2,
         0,0,0,1, 0,0,0,0, 0,0,0,7, 0,0,0,0, 0,0,0,1, 0,0,0,2, 0,0,0,0, 0,0,0,3, 0,0,0,4, 0,0,0,0,
         0,0,0,2, 0,0,0,12, 0,0,0,9, 0,0,0,0, 0,0,0,0], by decide +kernel⟩

/-- one loop iteration looks at the filter list only to ask whether it lists the format of the sample at
hand, and for every format other than 1 (flow) and 2 (counter) a listed and an unlisted sample are skipped
alike — by the declared length -/
theorem sampleStep_depends (f g : List Nat) (h1 : 1 ∈ f ↔ 1 ∈ g) (h2 : 2 ∈ f ↔ 2 ∈ g) :
    sampleStep f = sampleStep g := by
  funext bs
  unfold sampleStep
  split
  · rename_i ent fmt len r _
    by_cases he : ent ≠ 0
    · rw [if_pos he, if_pos he]
    rw [if_neg he, if_neg he]
    by_cases f1 : fmt = 1
    · subst f1; simp only [h1]
    by_cases f2 : fmt = 2
    · subst f2; simp only [h2]
    · simp only [if_neg f1, if_neg f2, ite_self]
  all_goals rfl

/-- **C18 (all filter lists: "empty, flow, counter, unknown types, several")**: the decoded datagram depends on
the filter list only through whether it lists 1 and whether it lists 2 — for **every** octet string, framed or
not, errors included, with no hypothesis on the datagram.  Order, repetition and unknown types in the list are
immaterial, so the four lists `[]`, `[1]`, `[2]`, `[1, 2]` stand for all of them. -/
theorem filter_depends (f g : List Nat) (h1 : 1 ∈ f ↔ 1 ∈ g) (h2 : 2 ∈ f ↔ 2 ∈ g) (bs : Bytes) :
    decode f bs = decode g bs := by
  unfold decode; rw [sampleStep_depends f g h1 h2]

/-- two lists with the same members (a permutation, a list with repetitions, …) filter alike -/
theorem filter_same_members (f g : List Nat) (h : ∀ t, t ∈ f ↔ t ∈ g) (bs : Bytes) :
    decode f bs = decode g bs := filter_depends f g (h 1) (h 2) bs

/-- every filter list behaves as one of the four canonical ones -/
theorem filter_canonical (f : List Nat) (bs : Bytes) :
    decode f bs = decode ((if 1 ∈ f then [1] else []) ++ (if 2 ∈ f then [2] else [])) bs := by
  apply filter_depends <;> simp

/-- **C18 (several occurrences of the option)**: the list built by two occurrences of `-sflow-type-filter`
(`gen_filter_flag_appends`: the second appends to the first) removes what either removes -/
theorem filter_append (f g : List Nat) (bs : Bytes) (hfr : FramedDatagram (f ++ g) bs) :
    decode (f ++ g) bs = (decode [] bs).map (dropTypes f ∘ dropTypes g) := by
  rw [filter_spec _ bs hfr]
  exact congrArg (Res.map · _) (funext (dropTypes_append f g))

/-- non-vacuity of `filter_depends`: a list with unknown types, repetitions and another order, on the witness -/
example : decode [7, 1, 4096, 1] witness = decode [1] witness := filter_depends _ _ (by decide) (by decide) _

/-- **Tie (what "listed" means)**: `isFilterMatch`, regenerated: `true` exactly when some element of the decoder's list
equals the sample's format — the model's `fmt ∈ f`; nothing else of the list is looked at (hence `filter_depends`) -/
theorem gen_filter_match :
    Gen.SflowFilter.filterMatch =
      ["func(f uint32) bool",
       "for _, v := range d.filter { if v == f { return true } }",
       "return false"] := rfl

/-- **Tie (where the filter is consulted)**: the sample loop of `SFDecode`, regenerated — per sample: read type and
length; a non-standard enterprise is skipped first (`sampleStep`: `ent ≠ 0`); then the filter: a match seeks forward by
the DECLARED length and goes to the next sample (`sampleStep`: `fmt ∈ f → r.drop len`); only then the dispatch on the
type, whose default also skips by the declared length.  The order of the three tests and the skip distance are the
model's; a filter test after the dispatch, or a skip by anything but `sfDataLength`, changes this list. -/
theorem gen_filter_loop :
    Gen.SflowFilter.sampleLoop =
      ["for i := uint32(0); i < datagram.SamplesNo; i++",
       "sfTypeFormat, sfDataLength, err := d.getSampleInfo()",
       "if err == errNoneEnterpriseStandard { continue }",
       "if err != nil { return nil, err }",
       "if m := d.isFilterMatch(sfTypeFormat); m { d.reader.Seek(int64(sfDataLength), 1) continue }",
       "switch sfTypeFormat",
       "default: d.reader.Seek(int64(sfDataLength), 1)"] := rfl

/-- **Tie (the configured list reaches every decoder unchanged)**: the `filter` field is written in one place — the
composite literal of `NewSFDecoder`, from its parameter — and read in one place, `isFilterMatch`; package `vflow`
constructs decoders in one place, `sFlowWorker`, with `opts.SFlowTypeFilter` (the anchor "filter passed to every
decoder instance") -/
theorem gen_filter_handover :
    Gen.SflowFilter.newDecoder =
      ["func(r io.ReadSeeker, f []uint32) SFDecoder", "return SFDecoder{ reader: r, filter: f, }"] ∧
    Gen.SflowFilter.filterUses =
      ["sflow/decoder.go NewSFDecoder: filter: f", "sflow/decoder.go isFilterMatch: d.filter"] ∧
    Gen.SflowFilter.decoderCalls =
      ["vflow/sflow.go sFlowWorker: sflow.NewSFDecoder(reader, opts.SFlowTypeFilter)"] := ⟨rfl, rfl, rfl⟩

/-- **Tie (how the filter list is configured)**: the property quantifies over filter LISTS; how the option builds its
list is package `vflow`'s `arrUInt32Flags.Set`, regenerated here: every occurrence of `-sflow-type-filter` (and the
configuration file's entry before them) APPENDS its comma-separated types, so a type listed anywhere is in the list the
decoder gets.  (A `Set` that replaced the list would silently un-list the types given earlier; the configuration of a
list key is outside C17, which covers integer / string / boolean settings.) -/
theorem gen_filter_flag_appends :
    Gen.OptionsTbl.filterFlagSet =
      ["arr := strings.Split(value, \",\")",
       "for _, v := range arr { v64, err := strconv.ParseUint(v, 10, 32) if err != nil { return err } *a = append(*a, uint32(v64)) }",
       "return nil"] := rfl

end Vflow.C18
