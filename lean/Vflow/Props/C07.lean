import Vflow.Proofs.SflowSpec2
import Vflow.Proofs.SflowTie
import Vflow.Model.SflowJson
import Vflow.Gen.SflowLayouts
import Vflow.Gen.Sites
import Vflow.Spec.Sites
/-!
# C07 — sFlow samples and counters are decoded field for field

`encodeSflow : ADatagram → Bytes` (`Vflow.Proofs.SflowSpec`) is the sFlow v5 wire encoder of the
specification side; `expected d` is the decoded datagram the abstract datagram stands for.  The main
theorem is the round trip `decode [] (encodeSflow d) = ok (expected d)` for every well-formed abstract
datagram — any number and order of flow / counter / unknown samples, any combination of supported and
unknown records, any field values that fit their fields, IPv4 and IPv6 agents — built from the leaves
upward: field list → record → sample → datagram.  The sampled packet header enters the sFlow layer as
its octets — *any* octets, 0 … 1500 of them, under any header protocol (`AFlowRec.raw proto … hdr`): the
record is reported iff the dissector can break the header down (`raw_record_dissectable` /
`raw_record_undissectable`), and in either case the record is consumed exactly and everything around it is
decoded.  The dissector theorems below state, per layer, that each output field is the value at its RFC
position, `dissect_encodeHeader` composes them for every layer combination, `undissectable_header` is the
other half (cut short at any layer, not IP, an IP protocol without a struct, another header protocol: an
error), and `decode_encode'` is the datagram theorem with raw-header records given by an abstract header of
either kind (no dissection hypothesis, no reference to the dissector in the expected datagram).

The theorems are about the code after the `fix:` commits F5, F6, F7, F8, F14, F15, F17, F19 (the model
mirrors it).  F17: before the repair `decodeIPv4Header` skipped a fixed 20 octets; `encIPv4` carries the
options and every IPv4 statement below is quantified over them (`OptsWF`: 0 … 40 octets, a multiple of four,
any content).  F19: a raw-header record is well-formed with any header length 0 … 1500 and any frame, the flow
sample's source-id index and the TCP reserved bits take any value, an extended-router record has any length; on
the code before the repair each of these was a lost datagram or a lost value (F19a–d).
-/
namespace Vflow.C07
open Vflow Vflow.Sflow Vflow.Packet Vflow.DissectIR

/-- **C07 (datagram)**: every well-formed datagram decodes to exactly the header fields, the agent
address and, in wire order, every flow sample and counter sample with all fields equal to the wire
values; samples and records of unsupported types are skipped by their declared length. -/
theorem decode_encode (d : ADatagram) (hwf : d.WF) : decode [] (encodeSflow d) = .ok (expected d) := by
  rw [decode_enc [] d hwf, dropTypes_unlisted List.not_mem_nil List.not_mem_nil]

/-- **C07 (generic field list)**: reading a list of big-endian fields of widths `ws` from the encoding
of values `vs` returns exactly `vs` and consumes exactly the encoding -/
theorem readFields_roundtrip (ws vs : List Nat) (t : Bytes) (h : Fits ws vs) :
    readFields ws (encFields ws vs ++ t) = some (vs, t) := readFields_enc ws vs t h

/-- **C07 (counter records)**: each of the six counter layouts is read field by field in layout order,
whatever follows; the instantiation of `readFields_roundtrip` for the layout that `counterLayout fmt` selects -/
theorem counter_record_roundtrip (fmt : Nat) (l : Layout) (vals : List Nat) (t : Bytes)
    (hl : counterLayout fmt = some l) (hv : Fits (widths l) vals) :
    counterRecord (be32 fmt ++ be32 (widths l).sum ++ encFields (widths l) vals ++ t) = .ok (some (fmt, vals), t) := by
  have := counterRecord_enc (.known fmt vals) t ⟨l, hl, hv⟩
  simpa [encCounterRec, hl, expCounterRec] using this

/-- the six layouts and their sizes on the wire: 88 / 52 / 72 / 80 / 28 / 28 octets -/
theorem counter_layout_sizes :
    (counterLayout 1 = some genIntLayout ∧ (widths genIntLayout).sum = 88) ∧
    (counterLayout 2 = some ethIntLayout ∧ (widths ethIntLayout).sum = 52) ∧
    (counterLayout 3 = some trIntLayout ∧ (widths trIntLayout).sum = 72) ∧
    (counterLayout 4 = some vgIntLayout ∧ (widths vgIntLayout).sum = 80) ∧
    (counterLayout 5 = some vlanLayout ∧ (widths vlanLayout).sum = 28) ∧
    (counterLayout 1001 = some procLayout ∧ (widths procLayout).sum = 28) :=
  ⟨⟨rfl, rfl⟩, ⟨rfl, rfl⟩, ⟨rfl, rfl⟩, ⟨rfl, rfl⟩, ⟨rfl, rfl⟩, ⟨rfl, rfl⟩⟩

/-- **C07 (flow records)**: raw header of any content with XDR padding, extended switch, extended router
(IPv4 / IPv6 next hop), unknown formats and extended-router records of any other length skipped by their
declared length.  `AFlowRec.WF` asks only that the values fit their fields and the sampled header has at
most 1500 octets. -/
theorem flow_record_roundtrip (a : AFlowRec) (t : Bytes) (hwf : a.WF) :
    flowRecord (encFlowRec a ++ t) = .ok (expFlowRec a, t) := flowRecord_enc a t hwf

/-- a raw-header record of any content: its four words, and the packet iff the octets dissect -/
theorem raw_record (proto fl st : Nat) (hdr : Bytes) (t : Bytes) (hwf : (AFlowRec.raw proto fl st hdr).WF) :
    flowRecord (encFlowRec (.raw proto fl st hdr) ++ t) =
      .ok (some (.raw ⟨proto, fl, st, hdr.length, dissected hdr proto⟩), t) :=
  flowRecord_enc (.raw proto fl st hdr) t hwf

/-- **C07 (raw header, its own fields — F33)**: whatever the sampled octets are — any octets, 0 … 1500 of them,
under any header protocol — the record's `RawHeader` entry carries the header protocol, the frame length, the
stripped count and the header length exactly as they are on the wire (before the repair all four were read and
dropped), with the packet iff the dissector can break the octets down; the record is consumed exactly -/
theorem raw_record_fields (proto fl st : Nat) (hdr : Bytes) (t : Bytes) (hwf : (AFlowRec.raw proto fl st hdr).WF) :
    ∃ pk, flowRecord (encFlowRec (.raw proto fl st hdr) ++ t) = .ok (some (.raw ⟨proto, fl, st, hdr.length, pk⟩), t) ∧
      (∀ p, pk = some p ↔ dissect hdr proto = .ok p) ∧ (pk = none ↔ ∃ e, dissect hdr proto = .err e) := by
  refine ⟨dissected hdr proto, raw_record proto fl st hdr t hwf, ?_, ?_⟩
  · intro p
    unfold dissected
    cases hx : dissect hdr proto <;> simp
  · have hs := dissect_safe hdr proto
    unfold dissected
    cases hx : dissect hdr proto with
    | ok p => simp
    | err e => simp
    | panic => exact absurd hx hs.1
    | fuel => exact absurd hx hs.2

/-- **C07 (raw header, dissectable)**: when the sampled octets dissect to `p`, the record yields the
`RawHeader` entry with the record's four words (F33) and `p` (all its fields: the dissector theorems below) and
leaves exactly what follows -/
theorem raw_record_dissectable (proto fl st : Nat) (hdr : Bytes) (p : Pkt) (t : Bytes)
    (hwf : (AFlowRec.raw proto fl st hdr).WF) (hd : dissect hdr proto = .ok p) :
    flowRecord (encFlowRec (.raw proto fl st hdr) ++ t) = .ok (some (.raw ⟨proto, fl, st, hdr.length, some p⟩), t) := by
  rw [raw_record proto fl st hdr t hwf, dissected_ok hd]

/-- **C07 (raw header, undissectable — F19a, F33)**: when the dissector rejects the sampled octets, the record
is consumed exactly (four words, octets, padding), yields the `RawHeader` entry with its four words and no packet
(until F33: no entry), and the loop goes on with what follows; before the F19a repair this was the dissector's
error for the whole datagram -/
theorem raw_record_undissectable (proto fl st : Nat) (hdr : Bytes) (e : Sflow.Err) (t : Bytes)
    (hwf : (AFlowRec.raw proto fl st hdr).WF) (hd : dissect hdr proto = .err e) :
    flowRecord (encFlowRec (.raw proto fl st hdr) ++ t) = .ok (some (.raw ⟨proto, fl, st, hdr.length, none⟩), t) := by
  rw [raw_record proto fl st hdr t hwf, dissected_err hd]

/-- there is no third case: the dissector returns a packet or an error on every octet string -/
theorem dissect_total (hdr : Bytes) (proto : Nat) :
    (∃ p, dissect hdr proto = .ok p) ∨ (∃ e, dissect hdr proto = .err e) := by
  have hs := dissect_safe hdr proto
  cases hx : dissect hdr proto with
  | ok p => exact .inl ⟨p, rfl⟩
  | err e => exact .inr ⟨e, rfl⟩
  | panic => exact absurd hx hs.1
  | fuel => exact absurd hx hs.2

/-- the empty octet string is rejected under every header protocol -/
theorem dissect_nil (proto : Nat) : ∃ e, dissect [] proto = .err e := by
  unfold dissect
  split
  · exact ⟨.ethShort, rfl⟩
  · split
    · exact ⟨.ip4Short, rfl⟩
    · split
      · exact ⟨.ip6Short, rfl⟩
      · exact ⟨.hdrProto, rfl⟩

/-- **C07 (empty sampled header)**: header length 0 — also as the very last record of the datagram
(`t = []`), where `bytes.Reader.Read` would report `io.EOF` for the empty buffer — yields the entry with its
three words, header length 0 and no packet, and leaves what follows -/
theorem raw_record_empty (proto fl st : Nat) (t : Bytes) (h : proto < 256 ^ 4 ∧ fl < 256 ^ 4 ∧ st < 256 ^ 4) :
    flowRecord (encFlowRec (.raw proto fl st []) ++ t) = .ok (some (.raw ⟨proto, fl, st, 0, none⟩), t) := by
  obtain ⟨e, he⟩ := dissect_nil proto
  exact raw_record_undissectable proto fl st [] e t ⟨⟨h.1, h.2.1, h.2.2, by decide, trivial⟩, by decide⟩ he

/-- **C07 (extended router, other lengths — F19d)**: an extended-router record whose length is not that of
an IPv4 / IPv6 next hop — address type 0 (unknown) has no address octets: 12; or any other length — is
skipped by its declared length: no entry, what follows is left exactly -/
theorem ext_router_other_length (body t : Bytes) (h : body.length ≠ 16 ∧ body.length ≠ 28) (hl : body.length < 256 ^ 4) :
    flowRecord (be32 1002 ++ be32 body.length ++ body ++ t) = .ok (none, t) := by
  have := flowRecord_enc (.unknown 1002 body) t ⟨by decide, by decide, fun _ => h, by decide, hl⟩
  simpa [encFlowRec, expFlowRec] using this

/-- **C07 (extended switch)**: the four words land in `SrcVlan, SrcPriority, DstVlan, DstPriority` in that
order (F6 was the fourth landing in `SrcPriority`) -/
theorem ext_switch_roundtrip (a b c d : Nat) (t : Bytes) (h : Fits [4, 4, 4, 4] [a, b, c, d]) :
    decodeExtSwitch (be32 a ++ be32 b ++ be32 c ++ be32 d ++ t) = .ok (⟨a, b, c, d⟩, t) := by
  have := decodeExtSwitch_enc ⟨a, b, c, d⟩ t h
  simpa [encFields, be32] using this

/-- **C07 (samples)**: one iteration of the sample loop on an encoded sample yields the expected sample
and leaves exactly what follows it -/
theorem sample_roundtrip (s : ASample) (t : Bytes) (hwf : s.WF) :
    sampleStep [] (encSample s ++ t) = .ok (expSample s, t) := by
  have := sampleStep_enc [] s t hwf
  have hk : keep [] (expSample s) = expSample s := by
    cases h : expSample s <;> simp [keep]
  rw [hk] at this
  exact this

/-- **C07 (IPv4, every header length IHL = 5 … 15)**: RFC 791 positions; whatever the option octets
are, the fields are the wire values and the transport layer is handed exactly what follows the options -/
theorem ipv4_fields (h : IPv4Hdr) (opts rest : Bytes) (hwf : h.WF) (ho : OptsWF opts) :
    decodeIPv4 (encIPv4 h opts ++ rest) = .ok (h, rest) :=
  decodeIPv4_enc h opts rest hwf ho

/-- the guard the F17 repair added: a sampled header that holds the 20 fixed octets but fewer than the
header length field announces is `errShortIPv4HeaderLength`, not a packet with fields from elsewhere -/
theorem ipv4_options_cut (d : Bytes) (h : 20 ≤ d.length) (h2 : d.length < ihlOctets (oct d 0)) :
    decodeIPv4 d = .err .ip4Short := by
  rw [decodeIPv4_eq, if_pos h2]

/-- **C07 (IPv6)**: RFC 8200 positions -/
theorem ipv6_fields (h : IPv6Hdr) (rest : Bytes) (hwf : h.WF) : decodeIPv6 (encIPv6 h ++ rest) = .ok (h, rest) :=
  decodeIPv6_enc h rest hwf

/-- **C07 (TCP)**: RFC 793 / 3540 positions: ports, data offset, the three reserved bits (any value 0 … 7 —
F19c: they were reported as 0), the nine flag bits; the twelve bits after the data offset are split without
overlap -/
theorem tcp_fields (sp dp seq ack off res fl win cs urg : Nat) (rest : Bytes)
    (hwf : sp < 65536 ∧ dp < 65536 ∧ off < 16 ∧ res < 8 ∧ fl < 512) :
    decodeTCP (encTCP sp dp seq ack off res fl win cs urg ++ rest) = .ok (.tcp sp dp off res fl) :=
  decodeTCP_enc sp dp seq ack off res fl win cs urg rest hwf

/-- **C07 (UDP)**: RFC 768 positions -/
theorem udp_fields (sp dp len cs : Nat) (rest : Bytes) (hwf : sp < 65536 ∧ dp < 65536) :
    decodeUDP (encUDP sp dp len cs ++ rest) = .ok (.udp sp dp) := decodeUDP_enc sp dp len cs rest hwf

/-- **C07 (ICMP)**: RFC 792 positions; `RestHeader` is everything after the checksum -/
theorem icmp_fields (ty code cs : Nat) (rest : Bytes) (hwf : ty < 256 ∧ code < 256) (hr : 1 ≤ rest.length) :
    decodeICMP (encICMP ty code cs ++ rest) = .ok (.icmp ty code rest) := decodeICMP_enc ty code cs rest hwf hr

/-- **C07 (Ethernet)**: destination, source, ethertype; the octets after the header are handed on -/
theorem ethernet_fields (dst src : Bytes) (et : Nat) (rest : Bytes)
    (hwf : dst.length = 6 ∧ src.length = 6 ∧ et < 65536 ∧ et ≠ 0x8100) :
    decodeEthernet (encEth dst src et ++ rest) = .ok (⟨src, dst, 0, et⟩, rest) := decodeEthernet_enc dst src et rest hwf

/-- **C07 (802.1Q)**: the VLAN identifier is the low 12 bits of the tag, the inner ethertype replaces the
tag, and the octets after the 18-octet header are handed on -/
theorem vlan_fields (dst src : Bytes) (tci et : Nat) (rest : Bytes)
    (hwf : dst.length = 6 ∧ src.length = 6 ∧ tci < 65536 ∧ et < 65536 ∧ et ≠ 0x8100) :
    decodeEthernet (encEthVlan dst src tci et ++ rest) = .ok (⟨src, dst, tci % 4096, et⟩, rest) :=
  decodeEthernet_vlan_enc dst src tci et rest hwf

/-- **C07 (whole header)**: an Ethernet / IPv4 (any options) / TCP header dissects into exactly its three
layers: the TCP fields are those after the options -/
theorem dissect_eth_ipv4_tcp (dst src : Bytes) (h : IPv4Hdr) (opts : Bytes) (sp dp seq ack off res fl win cs urg : Nat)
    (payload : Bytes) (hm : dst.length = 6 ∧ src.length = 6) (hwf : h.WF) (ho : OptsWF opts) (hp : h.protocol = 6)
    (ht : sp < 65536 ∧ dp < 65536 ∧ off < 16 ∧ res < 8 ∧ fl < 512) :
    dissect (encEth dst src 0x0800 ++ (encIPv4 h opts ++ (encTCP sp dp seq ack off res fl win cs urg ++ payload))) 1 =
      .ok ⟨⟨src, dst, 0, 0x0800⟩, .v4 h, .tcp sp dp off res fl⟩ := by
  -- `Packet.`: this namespace has a `dissect_encodeHeader` of its own below
  have := Packet.dissect_encodeHeader ⟨some ⟨dst, src, none⟩, .v4 h opts, .tcp sp dp seq ack off res fl win cs urg⟩
    payload ⟨⟨hm.1, hm.2, trivial⟩, ⟨hwf, ho⟩, ht, hp⟩
  simp only [encodeHeader, encEthL, encNet, encTrans, List.append_assoc] at this
  exact this

/-- **C07 (whole header, tagged, IPv6/UDP)** -/
theorem dissect_vlan_ipv6_udp (dst src : Bytes) (tci : Nat) (h : IPv6Hdr) (sp dp len cs : Nat) (payload : Bytes)
    (hm : dst.length = 6 ∧ src.length = 6 ∧ tci < 65536) (hwf : h.WF) (hp : h.nextHeader = 17)
    (ht : sp < 65536 ∧ dp < 65536) :
    dissect (encEthVlan dst src tci 0x86DD ++ (encIPv6 h ++ (encUDP sp dp len cs ++ payload))) 1 =
      .ok ⟨⟨src, dst, tci % 4096, 0x86DD⟩, .v6 h, .udp sp dp⟩ := by
  have := Packet.dissect_encodeHeader ⟨some ⟨dst, src, some (tci / 4096, tci % 4096)⟩, .v6 h, .udp sp dp len cs⟩
    payload ⟨⟨hm.1, hm.2.1, by omega, Nat.mod_lt _ (by decide)⟩, hwf, ht, hp⟩
  simp only [encodeHeader, encEthL, encNet, encTrans, List.append_assoc, Nat.div_add_mod'] at this
  exact this

/-- a well-formed abstract datagram: IPv4 agent; a flow sample (source id type 2, index 17) with a raw
header that is only an Ethernet header (14 octets: undissectable), an extended switch record, an unknown
record, an extended router record with address type 0 (length 12: skipped), an extended router record with
an IPv4 next hop, and an empty raw header as its last record; an enterprise-specific sample; a counter
sample with a processor record -/
def sample : ADatagram :=
  { agent := [10, 0, 0, 1], subID := 0, seqNo := 1, upTime := 2,
    samples := [
      .flow 7 2 17 1 2 0 3 4 [.raw 1 64 4 [2, 0, 0, 0, 0, 1, 2, 0, 0, 0, 0, 2, 8, 0], .sw ⟨100, 5, 200, 6⟩,
        .unknown 1003 [1, 2, 3, 4], .unknown 1002 [0, 0, 0, 0, 0, 0, 0, 24, 0, 0, 0, 16], .rtr ⟨[192, 0, 2, 9], 24, 16⟩,
        .raw 1 0 0 []],
      .unknown (4413 * 4096 + 1) [0, 0, 0, 0, 0, 0, 0, 0],
      .counter 9 2 17 [.known 1001 [1, 2, 3, 4, 5]]] }

theorem sample_wf : sample.WF := by
  refine ⟨.inl rfl, by simp [Fits, sample], ?_⟩
  intro s hs
  simp only [sample, List.mem_cons, List.not_mem_nil, or_false] at hs
  rcases hs with rfl | rfl | rfl
  · refine ⟨by simp [Fits], by decide +kernel, by simp [Fits], ?_, by decide +kernel⟩
    intro r hr
    simp only [List.mem_cons, List.not_mem_nil, or_false] at hr
    rcases hr with rfl | rfl | rfl | rfl | rfl | rfl <;> simp [AFlowRec.WF, Fits]
  · exact ⟨by decide +kernel, by decide +kernel, by decide +kernel⟩
  · refine ⟨by simp [Fits], ?_, by decide +kernel⟩
    intro r hr
    simp only [List.mem_cons, List.not_mem_nil, or_false] at hr
    subst hr
    exact ⟨procLayout, rfl, by simp [Fits, widths, procLayout]⟩

set_option maxRecDepth 20000 in
/-- the concrete datagram is well-formed and decodes to its expected value (by evaluation): the
extended-router record of length 12 leaves no entry, the undissectable raw headers (Ethernet only; empty, at the
very end of the sample) disturb nothing around them — the source id index 17, the switch and router records and the
counter sample after them are all there — and the `RawHeader` entry is the last of them with its own four words
(protocol 1, frame length 0, stripped 0, header length 0) and no packet -/
example : sample.WF ∧ decode [] (encodeSflow sample) = .ok (expected sample) ∧
    (expected sample).samples.length = 1 ∧ (expected sample).counters.length = 1 ∧
    ((expected sample).samples.map (fun s => (s.sourceID, s.sourceIDIdx, s.recordsNo))) = [(2, 17, 6)] ∧
    ((expected sample).samples.map (·.recs)) = [⟨some ⟨1, 0, 0, 0, none⟩, some ⟨100, 5, 200, 6⟩, some ⟨[192, 0, 2, 9], 24, 16⟩⟩] :=
  ⟨sample_wf, by decide +kernel, by decide +kernel, by decide +kernel, by decide +kernel, by decide +kernel⟩

/-! ## every header combination, and the datagram theorem over abstract headers

`AHeader` (`Vflow.Proofs.HeaderSpec`) = optional Ethernet layer (MAC addresses, optional 802.1Q tag with
4 priority bits and a 12-bit VLAN id; the ethertype is the one of the network layer, any other value is
rejected by the code with `errUnknownEtherType`) × IPv4 with options (IHL = 5 … 15: 0 … 40 option octets of
any content, a multiple of four) | IPv6 × TCP | UDP | ICMP/ICMPv6.
`eth = none` is sFlow header protocol 11 / 12.  No combination is excluded: the code accepts protocol
numbers 1 and 58 as ICMP after either network layer.  The only place where the expected packet depends
on the trailing payload is ICMP: the struct's `RestHeader` is `b[4:]`, i.e. the 4-octet rest of the
header *followed by everything up to the end of the sampled header* — hence `expectedPacket h payload`. -/

/-- **C07 (dissector, every combination)**: for every well-formed abstract sampled header — with or
without Ethernet layer, with or without 802.1Q tag, IPv4 (with or without options, every header length
5 … 15 words) or IPv6, TCP, UDP or ICMP — and every trailing payload, `packet.Decoder` on the encoded header
under its header protocol returns exactly the expected packet: every output field equals the abstract field laid
out at its RFC position. -/
theorem dissect_encodeHeader (h : AHeader) (payload : Bytes) (hwf : wfHeader h) :
    dissect (encodeHeader h ++ payload) (protoOf h) = .ok (expectedPacket h payload) :=
  Packet.dissect_encodeHeader h payload hwf

/-- **C07 (undissectable headers — the other half of the dissector's specification)**: every abstract
undissectable header (`ABad`: a well-formed header cut before the end of its transport header — inside the
Ethernet header or tag, the fixed IP header, the IPv4 options, the TCP / UDP header, or empty; an ether type
that is not IP, a second 802.1Q tag included; an IP protocol without a struct, IPv6 extension headers
included; another sFlow header protocol) is an *error* of `packet.Decoder` — never a panic, never a packet -/
theorem undissectable_header (b : ABad) (hwf : b.WF) : ∃ e, dissect b.octets b.proto = .err e :=
  dissect_bad b hwf

/-- the cut at every offset: of a well-formed header followed by payload, any prefix shorter than the three
layers need (`needLen`: 14 / 18 + network header with options + 20 / 8 / 5) is an error -/
theorem header_cut (h : AHeader) (payload : Bytes) (k : Nat) (hwf : wfHeader h) (hk : k < needLen h) :
    ∃ e, dissect ((encodeHeader h ++ payload).take k) (protoOf h) = .err e :=
  dissect_cut h payload k hwf hk

/-- the record is a raw packet header (of either kind) -/
def isRaw : AFlowRec' → Bool
  | .raw .. => true
  | .rawBad .. => true
  | _ => false

/-- a component of `Records` that `put` computes from the same component alone is not affected by what else differs -/
theorem put_congr {β : Type} (π : FlowRecs → β)
    (hπ : ∀ m m' o, π m = π m' → π (m.put o) = π (m'.put o)) (m m' : FlowRecs) (h : π m = π m')
    (l : List (Option FlowRec)) : π (l.foldl FlowRecs.put m) = π (l.foldl FlowRecs.put m') := by
  induction l generalizing m m' with
  | nil => exact h
  | cons o l ih => exact ih _ _ (hπ m m' o h)

theorem put_raw_keep (m : FlowRecs) (l : List AFlowRec') (h : ∀ r ∈ l, isRaw r = false) :
    ((l.map expFlowRec').foldl FlowRecs.put m).raw = m.raw := by
  induction l generalizing m with
  | nil => rfl
  | cons r l ih =>
    simp only [List.map_cons, List.foldl_cons]
    rw [ih _ (fun x hx => h x (List.mem_cons_of_mem _ hx))]
    have hr := h r List.mem_cons_self
    cases r <;> simp [isRaw] at hr <;> simp [expFlowRec', FlowRecs.put]

/-- `Records` is a map: a raw-header record followed only by records of other kinds is the `RawHeader` entry -/
theorem raw_last (a b : List AFlowRec') (r : AFlowRec') (h : RawHeader) (hr : expFlowRec' r = some (.raw h))
    (hb : ∀ r ∈ b, isRaw r = false) : (FlowRecs.ofList ((a ++ r :: b).map expFlowRec')).raw = some h := by
  simp only [FlowRecs.ofList, List.map_append, List.map_cons, List.foldl_append, List.foldl_cons, hr]
  rw [put_raw_keep _ b hb]
  rfl

/-- **C07 (undissectable record and the rest — F33)**: in the expected sample, the `ExtSwitch` and `ExtRouter`
entries are those of the records around an undissectable raw header, as if it were not there; the `RawHeader`
entry is the record's own four words without a packet, unless another raw-header record follows it (`Records` is a
map: the last record of a key is the entry).  Until F33 an undissectable header left no entry at all. -/
theorem undissectable_record_and_rest (a b : List AFlowRec') (fl st : Nat) (x : ABad) :
    (FlowRecs.ofList ((a ++ AFlowRec'.rawBad fl st x :: b).map expFlowRec')).sw =
      (FlowRecs.ofList ((a ++ b).map expFlowRec')).sw ∧
    (FlowRecs.ofList ((a ++ AFlowRec'.rawBad fl st x :: b).map expFlowRec')).rtr =
      (FlowRecs.ofList ((a ++ b).map expFlowRec')).rtr ∧
    ((∀ r ∈ b, isRaw r = false) →
      (FlowRecs.ofList ((a ++ AFlowRec'.rawBad fl st x :: b).map expFlowRec')).raw =
        some ⟨x.proto, fl, st, x.octets.length, none⟩) := by
  refine ⟨?_, ?_, raw_last a b _ _ rfl⟩
  all_goals simp only [FlowRecs.ofList, List.map_append, List.map_cons, List.foldl_append, List.foldl_cons, expFlowRec']
  · refine put_congr (·.sw) ?_ _ _ ?_ _
    · intro m m' o h; rcases o with _ | (_ | _ | _) <;> simp [FlowRecs.put, h]
    · rfl
  · refine put_congr (·.rtr) ?_ _ _ ?_ _
    · intro m m' o h; rcases o with _ | (_ | _ | _) <;> simp [FlowRecs.put, h]
    · rfl

/-- **C07 (the last raw-header record is the entry)**: of either kind — after it only records that are not raw
headers — with all its four words -/
theorem last_raw_record_is_entry (a b : List AFlowRec') (fl st : Nat) (h : AHeader) (payload : Bytes)
    (hb : ∀ r ∈ b, isRaw r = false) :
    (FlowRecs.ofList ((a ++ AFlowRec'.raw fl st h payload :: b).map expFlowRec')).raw =
      some ⟨protoOf h, fl, st, (encodeHeader h ++ payload).length, some (expectedPacket h payload)⟩ :=
  raw_last a b _ _ rfl hb

/-- **C07 (datagram, abstract headers)**: the round trip with raw-header records given by an abstract
header — representable (with payload) or undissectable — and XDR padding; it needs only the
well-formedness of the abstract datagram (field ranges, sampled header at most 1500 octets, protocol
numbers consistent with the layers).  `expected' d` does not mention the dissector: a raw-header record stands for
its four words (header protocol, frame length, stripped, number of sampled octets — F33) together with
`expectedPacket h payload` for a representable header and with no packet for an undissectable one. -/
theorem decode_encode' (d : ADatagram') (hwf : d.WF) : decode [] (encodeSflow' d) = .ok (expected' d) := by
  rw [decode_enc' [] d hwf, dropTypes_unlisted List.not_mem_nil List.not_mem_nil]

/-- 802.1Q tag (priority bits 0b1010, VLAN 100) + IPv4 + ICMP echo request -/
def hdrVlanV4Icmp : AHeader :=
  { eth := some ⟨[2, 0, 0, 0, 0, 1], [2, 0, 0, 0, 0, 2], some (10, 100)⟩,
    net := .v4 ⟨4, 0, 34, 1, 2, 185, 64, 1, 0xabcd, [192, 0, 2, 1], [192, 0, 2, 2]⟩ [],
    trans := .icmp 8 0 0x1234 [0, 1, 0, 2] }

/-- plain Ethernet + IPv6 + TCP (data offset 5, reserved bits 0b101, NS|SYN|ACK: octet 12 = 0x5b) -/
def hdrEthV6Tcp : AHeader :=
  { eth := some ⟨[2, 0, 0, 0, 0, 1], [2, 0, 0, 0, 0, 2], none⟩,
    net := .v6 ⟨6, 0xb8, 0xabcde, 20, 6, 64, [0x20, 1, 0xd, 0xb8, 0, 0, 0, 0, 0, 0, 0, 0, 0, 0, 0, 1],
                [0x20, 1, 0xd, 0xb8, 0, 0, 0, 0, 0, 0, 0, 0, 0, 0, 0, 2]⟩,
    trans := .tcp 443 51000 1 2 5 5 0x112 1024 0 0 }

/-- header protocol 11: the sampled header starts at the IPv4 header; UDP -/
def hdrV4Udp : AHeader :=
  { eth := none,
    net := .v4 ⟨4, 0, 28, 7, 0, 0, 64, 17, 0, [192, 0, 2, 1], [192, 0, 2, 2]⟩ [],
    trans := .udp 53 54 8 0 }

/-- header protocol 11, IPv4 with a record-route option (IHL 7: eight option octets whose first four read
as "ports 1799 → 1216") + UDP 53 → 4660: the F17 witness `corpus/C07/dissect--F17-ipv4-options.txt` -/
def hdrV4OptsUdp : AHeader :=
  { eth := none,
    net := .v4 ⟨4, 0, 36, 4660, 2, 185, 64, 17, 0xabcd, [192, 0, 2, 1], [192, 0, 2, 2]⟩ [7, 7, 4, 192, 0, 2, 3, 0],
    trans := .udp 53 4660 20 0 }

/-- Ethernet + IPv4 with the longest header the length field can announce (IHL 15: forty option octets,
here no-operation options) + TCP -/
def hdrEthV4MaxOptsTcp : AHeader :=
  { eth := some ⟨[2, 0, 0, 0, 0, 1], [2, 0, 0, 0, 0, 2], none⟩,
    net := .v4 ⟨4, 0, 80, 1, 0, 0, 64, 6, 0, [192, 0, 2, 1], [192, 0, 2, 2]⟩ (List.replicate 40 1),
    trans := .tcp 443 51000 1 2 5 0 0x12 1024 0 0 }

theorem hdrVlanV4Icmp_wf : wfHeader hdrVlanV4Icmp := by
  simp [wfHeader, hdrVlanV4Icmp, AEth.WF, ANet.WF, IPv4Hdr.WF, OptsWF, ATrans.WF, ATrans.protoOK, ANet.proto]
theorem hdrEthV6Tcp_wf : wfHeader hdrEthV6Tcp := by
  simp [wfHeader, hdrEthV6Tcp, AEth.WF, ANet.WF, IPv6Hdr.WF, ATrans.WF, ATrans.protoOK, ANet.proto]
theorem hdrV4Udp_wf : wfHeader hdrV4Udp := by
  simp [wfHeader, hdrV4Udp, ANet.WF, IPv4Hdr.WF, OptsWF, ATrans.WF, ATrans.protoOK, ANet.proto]
theorem hdrV4OptsUdp_wf : wfHeader hdrV4OptsUdp := by
  simp [wfHeader, hdrV4OptsUdp, ANet.WF, IPv4Hdr.WF, OptsWF, ATrans.WF, ATrans.protoOK, ANet.proto]
theorem hdrEthV4MaxOptsTcp_wf : wfHeader hdrEthV4MaxOptsTcp := by
  simp [wfHeader, hdrEthV4MaxOptsTcp, AEth.WF, ANet.WF, IPv4Hdr.WF, OptsWF, ATrans.WF, ATrans.protoOK, ANet.proto]

set_option maxRecDepth 20000 in
/-- non-vacuity (VLAN + IPv4 + ICMP): the hypotheses hold, and by evaluation the octets dissect to the
VLAN id 100 (not the whole tag 0xa064), flags 2 / fragment offset 185, and an ICMP `RestHeader` that is
the rest of the header followed by the payload -/
example : wfHeader hdrVlanV4Icmp ∧ protoOf hdrVlanV4Icmp = 1 ∧
    dissect (encodeHeader hdrVlanV4Icmp ++ [9, 9]) 1 =
      .ok ⟨⟨[2, 0, 0, 0, 0, 2], [2, 0, 0, 0, 0, 1], 100, 0x0800⟩,
           .v4 ⟨4, 0, 34, 1, 2, 185, 64, 1, 0xabcd, [192, 0, 2, 1], [192, 0, 2, 2]⟩,
           .icmp 8 0 [0, 1, 0, 2, 9, 9]⟩ :=
  ⟨hdrVlanV4Icmp_wf, rfl, by decide +kernel⟩

set_option maxRecDepth 20000 in
/-- non-vacuity (Ethernet + IPv6 + TCP) -/
example : wfHeader hdrEthV6Tcp ∧ protoOf hdrEthV6Tcp = 1 ∧
    dissect (encodeHeader hdrEthV6Tcp ++ []) 1 = .ok (expectedPacket hdrEthV6Tcp []) ∧
    (expectedPacket hdrEthV6Tcp []).l4 = .tcp 443 51000 5 5 0x112 ∧
    oct (encodeHeader hdrEthV6Tcp) (14 + 40 + 12) = 0x5b ∧
    (expectedPacket hdrEthV6Tcp []).l2 = ⟨[2, 0, 0, 0, 0, 2], [2, 0, 0, 0, 0, 1], 0, 0x86DD⟩ :=
  ⟨hdrEthV6Tcp_wf, rfl, by decide +kernel, rfl, by decide +kernel, rfl⟩

set_option maxRecDepth 20000 in
/-- non-vacuity (header protocol 11, IPv4 + UDP): the datalink part is the zero value -/
example : wfHeader hdrV4Udp ∧ protoOf hdrV4Udp = 11 ∧
    dissect (encodeHeader hdrV4Udp ++ [1, 2, 3]) 11 = .ok (expectedPacket hdrV4Udp [1, 2, 3]) ∧
    expectedPacket hdrV4Udp [1, 2, 3] =
      ⟨{}, .v4 ⟨4, 0, 28, 7, 0, 0, 64, 17, 0, [192, 0, 2, 1], [192, 0, 2, 2]⟩, .udp 53 54⟩ :=
  ⟨hdrV4Udp_wf, rfl, by decide +kernel, rfl⟩

set_option maxRecDepth 20000 in
/-- non-vacuity with IPv4 options (IHL 7, header protocol 11): the hypotheses hold; the encoded header is
octet for octet the F17 witness (first octet 0x47); by evaluation it dissects to the ports *after* the
options, 53 → 4660, not to 1799 → 1216 which the option octets spell at offset 20 -/
example : wfHeader hdrV4OptsUdp ∧ protoOf hdrV4OptsUdp = 11 ∧
    encodeHeader hdrV4OptsUdp =
      [0x47, 0, 0, 36, 0x12, 0x34, 0x40, 0xb9, 64, 17, 0xab, 0xcd, 192, 0, 2, 1, 192, 0, 2, 2,
       7, 7, 4, 192, 0, 2, 3, 0, 0, 53, 0x12, 0x34, 0, 20, 0, 0] ∧
    dissect (encodeHeader hdrV4OptsUdp ++ []) 11 =
      .ok ⟨{}, .v4 ⟨4, 0, 36, 4660, 2, 185, 64, 17, 0xabcd, [192, 0, 2, 1], [192, 0, 2, 2]⟩, .udp 53 4660⟩ ∧
    (7 * 256 + 7, 4 * 256 + 192) = (1799, 1216) :=
  ⟨hdrV4OptsUdp_wf, rfl, by decide +kernel, by decide +kernel, rfl⟩

set_option maxRecDepth 20000 in
/-- non-vacuity at the upper end (IHL 15, Ethernet + IPv4 + TCP): 14 + 60 + 20 octets, TCP fields found
after forty option octets; and a header cut inside the options is an error, not a packet -/
example : wfHeader hdrEthV4MaxOptsTcp ∧ (encodeHeader hdrEthV4MaxOptsTcp).length = 94 ∧
    dissect (encodeHeader hdrEthV4MaxOptsTcp ++ [1]) 1 = .ok (expectedPacket hdrEthV4MaxOptsTcp [1]) ∧
    (expectedPacket hdrEthV4MaxOptsTcp [1]).l4 = .tcp 443 51000 5 0 0x12 ∧
    dissect ((encodeHeader hdrEthV4MaxOptsTcp).take 73) 1 = .err .ip4Short :=
  ⟨hdrEthV4MaxOptsTcp_wf, by decide +kernel, by decide +kernel, rfl, by decide +kernel⟩

/-- an ARP request (ether type 0x0806) -/
def badArp : ABad := .etherType ⟨[255, 255, 255, 255, 255, 255], [2, 0, 0, 0, 0, 2], none⟩ 0x0806 [0, 1, 8, 0, 6, 4, 0, 1]
/-- QinQ: a second 802.1Q tag behind the first -/
def badQinQ : ABad := .etherType ⟨[2, 0, 0, 0, 0, 1], [2, 0, 0, 0, 0, 2], some (0, 100)⟩ 0x8100 [0, 200, 8, 0]
/-- IPv6 with a hop-by-hop extension header (next header 0), header protocol 12 -/
def badV6Ext : ABad :=
  .ipProto none (.v6 ⟨6, 0, 0, 16, 0, 64, [0x20, 1, 0xd, 0xb8, 0, 0, 0, 0, 0, 0, 0, 0, 0, 0, 0, 1],
                      [0x20, 1, 0xd, 0xb8, 0, 0, 0, 0, 0, 0, 0, 0, 0, 0, 0, 2]⟩) [17, 0, 1, 4, 0, 0, 0, 0]
/-- Ethernet + IPv4 carrying GRE (protocol 47) -/
def badGre : ABad :=
  .ipProto (some ⟨[2, 0, 0, 0, 0, 1], [2, 0, 0, 0, 0, 2], none⟩)
    (.v4 ⟨4, 0, 28, 7, 0, 0, 64, 47, 0, [192, 0, 2, 1], [192, 0, 2, 2]⟩ []) [0, 0, 8, 0]
/-- sFlow header protocol 7 (PPP) -/
def badPpp : ABad := .hdrProto 7 [0xff, 3, 0, 0x21, 0x45]

theorem badArp_wf : badArp.WF := by simp [badArp, ABad.WF, AEth.WF]
theorem badQinQ_wf : badQinQ.WF := by simp [badQinQ, ABad.WF, AEth.WF]
theorem badV6Ext_wf : badV6Ext.WF := by simp [badV6Ext, ABad.WF, ANet.WF, IPv6Hdr.WF, ANet.proto]
theorem badGre_wf : badGre.WF := by simp [badGre, ABad.WF, AEth.WF, ANet.WF, IPv4Hdr.WF, OptsWF, ANet.proto]
theorem badPpp_wf : badPpp.WF := by simp [badPpp, ABad.WF]

set_option maxRecDepth 20000 in
/-- non-vacuity of `undissectable_header`: the hypotheses hold of the five examples and of cuts of the
Ethernet / IPv4 (40 option octets) / TCP header at offset 0 (empty), inside the Ethernet header, inside the
fixed IPv4 header, inside the options, and one octet before the end of the TCP header (`needLen` = 94);
by evaluation each is the error of the layer where it stops, and the uncut header is a packet -/
example : badArp.WF ∧ badQinQ.WF ∧ badV6Ext.WF ∧ badGre.WF ∧ badPpp.WF ∧ needLen hdrEthV4MaxOptsTcp = 94 ∧
    [badArp, badQinQ, badV6Ext, badGre, badPpp].map (fun b => dissect b.octets b.proto) =
      [.err .etherType, .err .etherType, .err .l4Unknown, .err .l4Unknown, .err .hdrProto] ∧
    [0, 13, 33, 73, 93].map (fun k => dissect (ABad.cut hdrEthV4MaxOptsTcp [1] k).octets 1) =
      [.err .ethShort, .err .ethShort, .err .ip4Short, .err .ip4Short, .err .tcpShort] ∧
    dissect ((encodeHeader hdrEthV4MaxOptsTcp ++ [1]).take 94) 1 = .ok (expectedPacket hdrEthV4MaxOptsTcp []) :=
  ⟨badArp_wf, badQinQ_wf, badV6Ext_wf, badGre_wf, badPpp_wf, by decide +kernel, by decide +kernel, by decide +kernel, by decide +kernel⟩

/-- a well-formed abstract datagram whose first flow sample carries three of the headers above as raw-header
records (44 + 2, 74 and 28 + 3 sampled octets: padding 2, 2 and 1) between undissectable ones (an ARP frame
first, the IPv6 / TCP header cut after 20 octets and an empty header in the middle); whose second carries
the header with IPv4 options (36 sampled octets) followed by a GRE packet, an extended-router record with
address type 0 and a QinQ frame; whose third has nothing but undissectable headers; then a counter sample -/
def sample' : ADatagram' :=
  { agent := [10, 0, 0, 1], subID := 0, seqNo := 1, upTime := 2,
    samples := [
      .flow 7 0 5 1 2 0 3 4 [.rawBad 60 4 badArp, .raw 1500 4 hdrVlanV4Icmp [9, 9], .raw 90 4 hdrEthV6Tcp [],
        .rawBad 90 4 (.cut hdrEthV6Tcp [] 20), .rawBad 0 0 (.cut hdrV4Udp [] 0), .raw 31 0 hdrV4Udp [1, 2, 3]],
      .flow 8 2 17 1 2 0 3 4 [.raw 40 4 hdrV4OptsUdp [], .rawBad 64 4 badGre,
        .unknown 1002 [0, 0, 0, 0, 0, 0, 0, 24, 0, 0, 0, 16], .rawBad 64 4 badQinQ],
      .flow 9 0 1 1 2 0 3 4 [.rawBad 64 0 badV6Ext, .rawBad 64 0 badPpp],
      .counter 9 2 17 [.known 1001 [1, 2, 3, 4, 5]]] }

set_option maxRecDepth 100000 in
/-- non-vacuity of `decode_encode'`: by evaluation, the concrete datagram decodes to its expected value;
the last raw-header record is the `RawHeader` entry of the sample (a Go map) with its own four words (F33): header
protocol 11, frame length 31, stripped 0, 31 sampled octets and the packet in the first sample; in the second the
QinQ frame behind the dissectable header — protocol 1, frame length 64, stripped 4, 22 octets, no packet; in the
third, which has only undissectable headers, the PPP one — protocol 7, 5 octets, no packet; the counter sample
behind them is there -/
example : decode [] (encodeSflow' sample') = .ok (expected' sample') ∧
    ((expected' sample').samples.map (·.recs.raw)) =
      [some ⟨11, 31, 0, 31, some (expectedPacket hdrV4Udp [1, 2, 3])⟩, some ⟨1, 64, 4, 22, none⟩,
       some ⟨7, 64, 0, 5, none⟩] ∧
    ((expected' sample').samples.map (fun s => (s.sourceID, s.sourceIDIdx, s.recordsNo))) = [(0, 5, 6), (2, 17, 4), (0, 1, 2)] ∧
    (expected' sample').counters.length = 1 := by decide +kernel

/-! ## Obligations over regenerated facts

The read sequences of the six counter records and of the extended switch record, re-extracted from
`sflow/flow_counter.go` / `sflow/flow_sample.go` on every run (field names and widths from the struct
declarations), are the layouts the model decodes with.  A swapped, dropped or duplicated read (the F6
defect was `[SrcVlan, SrcPriority, DstVlan, SrcPriority]`) is a failed obligation. -/

theorem gen_counter_layouts :
    Gen.SflowLayouts.genericIf = Sflow.genIntLayout ∧ Gen.SflowLayouts.ethernetIf = Sflow.ethIntLayout ∧
    Gen.SflowLayouts.tokenRing = Sflow.trIntLayout ∧ Gen.SflowLayouts.vg = Sflow.vgIntLayout ∧
    Gen.SflowLayouts.vlan = Sflow.vlanLayout ∧ Gen.SflowLayouts.processor = Sflow.procLayout :=
  ⟨rfl, rfl, rfl, rfl, rfl, rfl⟩

theorem gen_ext_switch_layout :
    Gen.SflowLayouts.extSwitch = [("SrcVlan", 4), ("SrcPriority", 4), ("DstVlan", 4), ("DstPriority", 4)] := rfl

/-- **Tie (control-flow skeleton)**: every branch / loop condition, switch case and `break` / `continue` of the
sources this model mirrors, re-extracted on every run, is exactly the reviewed inventory in `Spec/Sites.lean`
(which names the model clause of each).  A changed bound, a new or dropped branch breaks this obligation. -/
theorem guards_reviewed : Gen.Sites.guardsSflow = Spec.Sites.guardsSflow := rfl

/-! ## Obligations over the regenerated extraction code (the translator: `Gen.DissectIR`, `Gen.SflowLayouts` rows)

Five of the defects found in this code were wrong field extractions — an offset, a shift, a mask, a width
(F8, F15, F17, F19b, F19c).  `factgen` therefore translates the extraction code itself: every right-hand side with
which `packet/*.go` fills a header struct is an `Expr` (`Model/DissectIR.lean`: octets, shifts, masks, `|`, `+`, `*`,
conversions with their wrap-around, the header-length clamp, slices and the text function applied to them), and the
sFlow readers that are more than a chain of fixed-width reads are `Row` lists.  The theorems below say that the
hand-written model computes, for EVERY octet string, what the regenerated terms denote.  They are proved by
unfolding the evaluator on the generated term (`Proofs/DissectTie.lean`, `Proofs/SflowTie.lean`), so a changed
offset / shift / mask / width / read order in the source breaks the proof of the struct or reader concerned. -/

/-- **Tie (IPv4 fields)**: every field of the model's IPv4 header is the value of the expression the current
`decodeIPv4Header` assigns to it; the addresses are the octets it slices, rendered by `net.IP.String` -/
theorem gen_dissect_ipv4 (d : Bytes) :
    (ipv4At d).version = (field Gen.DissectIR.ipv4 "Version").eval d ∧
    (ipv4At d).tos = (field Gen.DissectIR.ipv4 "TOS").eval d ∧
    (ipv4At d).totalLen = (field Gen.DissectIR.ipv4 "TotalLen").eval d ∧
    (ipv4At d).id = (field Gen.DissectIR.ipv4 "ID").eval d ∧
    (ipv4At d).flags = (field Gen.DissectIR.ipv4 "Flags").eval d ∧
    (ipv4At d).fragOff = (field Gen.DissectIR.ipv4 "FragOff").eval d ∧
    (ipv4At d).ttl = (field Gen.DissectIR.ipv4 "TTL").eval d ∧
    (ipv4At d).protocol = (field Gen.DissectIR.ipv4 "Protocol").eval d ∧
    (ipv4At d).checksum = (field Gen.DissectIR.ipv4 "Checksum").eval d ∧
    (ipv4At d).src = (field Gen.DissectIR.ipv4 "Src").octets d ∧
    (ipv4At d).dst = (field Gen.DissectIR.ipv4 "Dst").octets d ∧
    (field Gen.DissectIR.ipv4 "Src").isIpText = true ∧ (field Gen.DissectIR.ipv4 "Dst").isIpText = true := by
  rw [DissectTie.ipv4At_eq, DissectTie.irIPv4]
  exact ⟨rfl, rfl, rfl, rfl, rfl, rfl, rfl, rfl, rfl, rfl, rfl, DissectTie.ipv4_addr_text⟩

/-- **Tie (IPv4 header length, F17)**: the two length guards of `decodeIPv4Header` are 20 and the model's
`ihlOctets` of the first octet (`hlen := int(p.data[0]&0x0f) * 4; if hlen < IPv4HLen { hlen = IPv4HLen }`), and the
transport layer gets `p.data[hlen:]` with the same `hlen` -/
theorem gen_dissect_ipv4_hlen (d : Bytes) :
    Gen.DissectIR.ipv4Guards.map (fun g => g.eval d) = [20, ihlOctets (oct d 0)] ∧
    Gen.DissectIR.ipv4Rest.octets d = d.drop (ihlOctets (oct d 0)) :=
  ⟨DissectTie.ipv4_guards d, DissectTie.ipv4_rest d⟩

/-- **Tie (IPv4 decoder)**: the model's `decodeIPv4` is: the regenerated guards, then the struct of the regenerated
expressions and the regenerated hand-over -/
theorem gen_dissect_ipv4_decoder (d : Bytes) :
    decodeIPv4 d = if DissectTie.pass d Gen.DissectIR.ipv4Guards then
        .ok (DissectTie.irIPv4 d, Gen.DissectIR.ipv4Rest.octets d) else .err .ip4Short :=
  DissectTie.decodeIPv4_ir d

theorem gen_dissect_ipv6 (d : Bytes) :
    (ipv6At d).version = (field Gen.DissectIR.ipv6 "Version").eval d ∧
    (ipv6At d).trafficClass = (field Gen.DissectIR.ipv6 "TrafficClass").eval d ∧
    (ipv6At d).flowLabel = (field Gen.DissectIR.ipv6 "FlowLabel").eval d ∧
    (ipv6At d).payloadLen = (field Gen.DissectIR.ipv6 "PayloadLen").eval d ∧
    (ipv6At d).nextHeader = (field Gen.DissectIR.ipv6 "NextHeader").eval d ∧
    (ipv6At d).hopLimit = (field Gen.DissectIR.ipv6 "HopLimit").eval d ∧
    (ipv6At d).src = (field Gen.DissectIR.ipv6 "Src").octets d ∧
    (ipv6At d).dst = (field Gen.DissectIR.ipv6 "Dst").octets d ∧
    (field Gen.DissectIR.ipv6 "Src").isIpText = true ∧ (field Gen.DissectIR.ipv6 "Dst").isIpText = true := by
  rw [DissectTie.ipv6At_eq, DissectTie.irIPv6]
  exact ⟨rfl, rfl, rfl, rfl, rfl, rfl, rfl, rfl, DissectTie.ipv6_addr_text⟩

theorem gen_dissect_ipv6_decoder (d : Bytes) :
    decodeIPv6 d = if DissectTie.pass d Gen.DissectIR.ipv6Guards then
        .ok (DissectTie.irIPv6 d, Gen.DissectIR.ipv6Rest.octets d) else .err .ip6Short :=
  DissectTie.decodeIPv6_ir d

/-- **Tie (TCP fields)**: ports, data offset, the three reserved bits (F19c), the nine flag bits, as the closed form
of the model's `decodeTCP` (`decodeTCP_eq`) has them -/
theorem gen_dissect_tcp (d : Bytes) :
    oct d 0 * 256 + oct d 1 = (field Gen.DissectIR.tcp "SrcPort").eval d ∧
    oct d 2 * 256 + oct d 3 = (field Gen.DissectIR.tcp "DstPort").eval d ∧
    oct d 12 / 16 = (field Gen.DissectIR.tcp "DataOffset").eval d ∧
    oct d 12 / 2 % 8 = (field Gen.DissectIR.tcp "Reserved").eval d ∧
    (oct d 12 * 256 + oct d 13) % 512 = (field Gen.DissectIR.tcp "Flags").eval d :=
  L4.tcp.inj (DissectTie.tcpAt_eq d)

theorem gen_dissect_tcp_decoder (d : Bytes) :
    decodeTCP d = if DissectTie.pass d Gen.DissectIR.tcpGuards then .ok (DissectTie.irTCP d) else .err .tcpShort :=
  DissectTie.decodeTCP_ir d

theorem gen_dissect_udp (d : Bytes) :
    oct d 0 * 256 + oct d 1 = (field Gen.DissectIR.udp "SrcPort").eval d ∧
    oct d 2 * 256 + oct d 3 = (field Gen.DissectIR.udp "DstPort").eval d :=
  L4.udp.inj (DissectTie.udpAt_eq d)

theorem gen_dissect_udp_decoder (d : Bytes) :
    decodeUDP d = if DissectTie.pass d Gen.DissectIR.udpGuards then .ok (DissectTie.irUDP d) else .err .udpShort :=
  DissectTie.decodeUDP_ir d

/-- **Tie (ICMP fields)**: type, code, `RestHeader = b[4:]` -/
theorem gen_dissect_icmp (d : Bytes) :
    oct d 0 = (field Gen.DissectIR.icmp "Type").eval d ∧ oct d 1 = (field Gen.DissectIR.icmp "Code").eval d ∧
    d.drop 4 = (field Gen.DissectIR.icmp "RestHeader").octets d :=
  L4.icmp.inj (DissectTie.icmpAt_eq d)

theorem gen_dissect_icmp_decoder (d : Bytes) :
    decodeICMP d = if DissectTie.pass d Gen.DissectIR.icmpGuards then .ok (DissectTie.irICMP d) else .err .icmpShort :=
  DissectTie.decodeICMP_ir d

/-- **Tie (Ethernet fields, `decodeIEEE802`)**: ethertype from octets 12 / 13; the MAC texts of octets 0..6 and
6..12, set only when the ethertype just computed is not 0x8100 -/
theorem gen_dissect_ethernet (d : Bytes) :
    (l2At d).etherType = (field Gen.DissectIR.ieee802 "EtherType").eval d ∧
    (l2At d).dstMAC = (field Gen.DissectIR.ieee802 "DstMAC").octets d ∧
    (l2At d).srcMAC = (field Gen.DissectIR.ieee802 "SrcMAC").octets d ∧
    (field Gen.DissectIR.ieee802 "DstMAC").isHwText = true ∧ (field Gen.DissectIR.ieee802 "SrcMAC").isHwText = true := by
  rw [DissectTie.l2At_eq, DissectTie.irL2]
  exact ⟨rfl, rfl, rfl, DissectTie.ieee802_mac_text⟩

theorem gen_dissect_ieee802_decoder (d : Bytes) :
    decodeIEEE802 d = if DissectTie.pass d Gen.DissectIR.ieee802Guards then .ok (DissectTie.irL2 d) else .err .ieeeShort :=
  DissectTie.decodeIEEE802_ir d

/-- **Tie (802.1Q, F15)**: the VLAN identifier is the value of the regenerated expression (low 12 bits of octets
14 / 15), and the buffer the source builds with `p.data[12], p.data[13] = p.data[16], p.data[17]` and
`append(p.data[:14], p.data[18:]...)` — followed symbolically by the translator — is the model's `untag` -/
theorem gen_dissect_vlan (d : Bytes) :
    (oct d 14 * 256 + oct d 15) % 4096 = (field Gen.DissectIR.vlan "Vlan").eval d ∧
    untag d = Gen.DissectIR.vlanData.octets d :=
  ⟨DissectTie.vlan_id d, DissectTie.vlan_data d⟩

theorem gen_dissect_vlan_decoder (d : Bytes) :
    decodeVlan d =
      if DissectTie.pass d Gen.DissectIR.vlanGuards then
        .ok ({ DissectTie.irL2 (Gen.DissectIR.vlanData.octets d) with vlan := (field Gen.DissectIR.vlan "Vlan").eval d },
             Gen.DissectIR.ethRest.octets (Gen.DissectIR.vlanData.octets d))
      else .err .ethShort :=
  DissectTie.decodeVlan_ir d

/-- **Tie (`Packet.decodeEthernet`)**: guard, `decodeIEEE802`, the 802.1Q branch iff the regenerated condition holds
of the ethertype it returned, else the regenerated hand-over -/
theorem gen_dissect_ethernet_decoder (d : Bytes) :
    decodeEthernet d =
      if DissectTie.pass d Gen.DissectIR.ethGuards then
        if Gen.DissectIR.ethTagged.evalWith (fun _ => (DissectTie.irL2 d).etherType) d ≠ 0 then decodeVlan d
        else .ok (DissectTie.irL2 d, Gen.DissectIR.ethRest.octets d)
      else .err .ethShort :=
  DissectTie.decodeEthernet_ir d

/-- **Tie (nothing unrecognised, nothing else set, nothing read beyond the guards)**: every field expression is
translated; the lists hold exactly the fields of the Go structs; every constant index / slice bound lies below the
bound of the length guard in front of it -/
theorem gen_dissect_complete :
    (allKnown Gen.DissectIR.ieee802 = true ∧ allKnown Gen.DissectIR.vlan = true ∧ allKnown Gen.DissectIR.ipv4 = true ∧
     allKnown Gen.DissectIR.ipv6 = true ∧ allKnown Gen.DissectIR.tcp = true ∧ allKnown Gen.DissectIR.udp = true ∧
     allKnown Gen.DissectIR.icmp = true ∧ Gen.DissectIR.eth = [] ∧ Gen.DissectIR.ethCalls = (1, 1)) ∧
    (Gen.DissectIR.ieee802.map (·.1) = ["EtherType", "DstMAC", "SrcMAC"] ∧ Gen.DissectIR.vlan.map (·.1) = ["Vlan"] ∧
     Gen.DissectIR.ipv4.map (·.1) =
       ["Version", "TOS", "TotalLen", "ID", "Flags", "FragOff", "TTL", "Protocol", "Checksum", "Src", "Dst"] ∧
     Gen.DissectIR.ipv6.map (·.1) =
       ["Version", "TrafficClass", "FlowLabel", "PayloadLen", "NextHeader", "HopLimit", "Src", "Dst"] ∧
     Gen.DissectIR.tcp.map (·.1) = ["SrcPort", "DstPort", "DataOffset", "Reserved", "Flags"] ∧
     Gen.DissectIR.udp.map (·.1) = ["SrcPort", "DstPort"] ∧
     Gen.DissectIR.icmp.map (·.1) = ["Type", "Code", "RestHeader"]) ∧
    (needOf Gen.DissectIR.ieee802 ≤ 14 ∧ needOf Gen.DissectIR.vlan ≤ 18 ∧ Gen.DissectIR.vlanData.need ≤ 18 ∧
     needOf Gen.DissectIR.ipv4 ≤ 20 ∧ needOf Gen.DissectIR.ipv6 ≤ 40 ∧ needOf Gen.DissectIR.tcp ≤ 20 ∧
     needOf Gen.DissectIR.udp ≤ 8 ∧ needOf Gen.DissectIR.icmp ≤ 5 ∧
     Gen.DissectIR.ethRest.need ≤ 14 ∧ Gen.DissectIR.ipv6Rest.need ≤ 40 ∧ Gen.DissectIR.ipv4Rest.need ≤ 20) :=
  ⟨DissectTie.all_known, DissectTie.field_names, DissectTie.within_guards⟩

/-! ### the historical extraction bugs, as the translator would have rendered them

Each `example` writes the expression of the source BEFORE the `fix:` commit as an `Expr` (from the commit's diff) and
shows on a concrete header that it does not evaluate to the model's field: with that source the obligation above
could not have been proved. -/

/-- an IPv4 header (IHL 7: eight option octets), DF set, fragment offset 185 -/
def hdrF8 : Bytes :=
  [0x47, 0, 0, 36, 0x12, 0x34, 0x40, 0xb9, 64, 17, 0xab, 0xcd, 192, 0, 2, 1, 192, 0, 2, 2, 7, 7, 4, 192, 0, 2, 3, 0]

/-- **F8** (`fix:` 785a914): `Flags: int(p.data[6] & 0x07)` and no `FragOff` at all — on a header with DF set and
offset 185 the old expression gives 0, the model 2; the missing field is `unrecognised` (value 0), the model 185 -/
example :
    (Expr.band (.byte 6) (.lit 7)).eval hdrF8 = 0 ∧ (ipv4At hdrF8).flags = 2 ∧
    (field [("Version", Expr.shr (.band (.byte 0) (.lit 240)) 4), ("Flags", .band (.byte 6) (.lit 7))] "FragOff").eval hdrF8 = 0 ∧
    (ipv4At hdrF8).fragOff = 185 ∧ (field Gen.DissectIR.ipv4 "Flags").eval hdrF8 = 2 ∧
    (field Gen.DissectIR.ipv4 "FragOff").eval hdrF8 = 185 := by decide +kernel

/-- **F17** (`fix:` 4d10a36): the header length was the constant `IPv4HLen`: `p.data = p.data[IPv4HLen:]`, no second
guard — on a header with IHL 7 the old expression gives 20, the model (and the regenerated clamp) 28 -/
example :
    (Expr.lit 20).eval hdrF8 = 20 ∧ ihlOctets (oct hdrF8 0) = 28 ∧
    Gen.DissectIR.ipv4Guards.map (fun g => g.eval hdrF8) = [20, 28] ∧
    (Expr.octsFrom (.lit 20)).octets hdrF8 ≠ Gen.DissectIR.ipv4Rest.octets hdrF8 := by decide +kernel

/-- an Ethernet header with an 802.1Q tag: priority bits 0b101, VLAN 100 (tag control information 0xa064) -/
def hdrF15 : Bytes := [2, 0, 0, 0, 0, 1, 2, 0, 0, 0, 0, 2, 0x81, 0x00, 0xa0, 0x64, 0x08, 0x00]

/-- **F15** (`fix:` 3455198): `vlan := int(p.data[14])<<8 | int(p.data[15])`, the whole tag — 41060 where the model
(and the regenerated expression) has the VLAN identifier 100 -/
example :
    (Expr.bor (.shl (.byte 14) 8) (.byte 15)).eval hdrF15 = 41060 ∧ (oct hdrF15 14 * 256 + oct hdrF15 15) % 4096 = 100 ∧
    (field Gen.DissectIR.vlan "Vlan").eval hdrF15 = 100 := by decide +kernel

/-- a TCP header whose octet 12 is 0x5b: data offset 5, reserved bits 0b101, NS set -/
def hdrF19c : Bytes := [1, 187, 199, 56, 0, 0, 0, 1, 0, 0, 0, 2, 0x5b, 0x12, 4, 0, 0, 0, 0, 0]

/-- **F19c** (`fix:` b4acc7b): `Reserved: 0` — the model has the three bits, 5 -/
example :
    (Expr.lit 0).eval hdrF19c = 0 ∧ oct hdrF19c 12 / 2 % 8 = 5 ∧ (field Gen.DissectIR.tcp "Reserved").eval hdrF19c = 5 := by
  decide +kernel

/-- **Tie (datagram header)**: the model's `decodeHeader` is the interpretation of the regenerated statements of
`sfHeaderDecode`: version (≠ 5: `errSFVersionNotSupport`), address type, agent address of 4 octets — 16 iff the type
is 2 — read with `Reader.Read`, sub-agent id, sequence number, uptime, sample count; the `Header` is built from the
values by field name -/
theorem gen_sflow_datagram_header (bs : Bytes) :
    decodeHeader bs = SflowTie.outcomeAs SflowTie.headerOf (run Gen.SflowLayouts.datagramHeader {} bs) :=
  SflowTie.decodeHeader_ir bs

/-- **Tie (sample tag and dispatch)**: one iteration of the sample loop is the interpretation of the regenerated
`getSampleInfo` — enterprise = tag >> 12, format = tag & 0xfff, `errDataLengthUnknown` when the length word is
missing, an enterprise-specific sample skipped by its length — then the filter and the regenerated `switch` -/
theorem gen_sflow_sample (f : List Nat) (bs : Bytes) :
    sampleStep f bs =
      match run Gen.SflowLayouts.sampleInfo {} bs with
      | .done ρ r =>
        if ρ.num "sfTypeFormat" ∈ f then .ok (none, r.drop (ρ.num "sfDataLength"))
        else if SflowTie.callee Gen.SflowLayouts.sampleDispatch (ρ.num "sfTypeFormat") = some "decodeFlowSample" then
          (decodeFlowSample r).mapFst (fun s => some (.flow s))
        else if SflowTie.callee Gen.SflowLayouts.sampleDispatch (ρ.num "sfTypeFormat") = some "decodeFlowCounter" then
          (decodeCounterSample r).mapFst (fun c => some (.counter c))
        else .ok (none, r.drop (ρ.num "sfDataLength"))
      | .fail e => failAs e
      | .skip _ r => .ok (none, r)
      | .stuck => .panic :=
  SflowTie.sampleStep_ir f bs

/-- **Tie (flow sample header, F19b)**: sequence number, source id type (one octet), three octets assembled into
`SourceIDIdx` by the regenerated expression, sampling rate, pool, drops, input, output, record count -/
theorem gen_sflow_flow_sample (bs : Bytes) :
    decodeFlowSample bs =
      match run Gen.SflowLayouts.flowSample {} bs with
      | .done ρ r1 =>
        (match loopN flowRecord (r1.length + 1) (ρ.num "RecordsNo") r1 with
         | .ok (items, r2) => .ok (SflowTie.flowSampleOf ρ (FlowRecs.ofList items), r2)
         | .err e => .err e
         | .panic => .panic
         | .fuel => .fuel)
      | .fail e => failAs e
      | _ => .panic :=
  SflowTie.decodeFlowSample_ir bs

theorem gen_sflow_counter_sample (bs : Bytes) :
    decodeCounterSample bs =
      match run Gen.SflowLayouts.counterSample {} bs with
      | .done ρ r1 =>
        (match loopN counterRecord (r1.length + 1) (ρ.num "RecordsNo") r1 with
         | .ok (items, r2) => .ok (SflowTie.counterSampleOf ρ (CounterRecs.ofList items), r2)
         | .err e => .err e
         | .panic => .panic
         | .fuel => .fuel)
      | .fail e => failAs e
      | _ => .panic :=
  SflowTie.decodeCounterSample_ir bs

/-- **Tie (the 24-bit index, F19b)**: whatever expression the flow / counter sample header assigns to `SourceIDIdx`
over the three octets read, its value is their big-endian number (what the model's `readFields [.., 3, ..]` reads) -/
theorem gen_sflow_source_index (buf : Bytes) (h : buf.length = 3) (ρ : String → Nat) (e : Expr)
    (he : Row.set "SourceIDIdx" "buf" e ∈ Gen.SflowLayouts.flowSample ∨
          Row.set "SourceIDIdx" "buf" e ∈ Gen.SflowLayouts.counterSample) :
    e.evalWith ρ buf = beN buf := by
  have key : e = .bor (.bor (.byte 2) (.wrap 32 (.shl (.byte 1) 8))) (.wrap 32 (.shl (.byte 0) 16)) := by
    rcases he with he | he
    · simp [Gen.SflowLayouts.flowSample] at he; exact he
    · simp [Gen.SflowLayouts.counterSample] at he; exact he
  subst key
  simp only [Expr.evalWith]
  exact SflowTie.idx24 buf h

/-- **Tie (raw-packet-header record)**: protocol, frame length, stripped, header length (more than 1500:
`errMaxOutEthernetLength`), then header length plus XDR padding — `(4 - HeaderLength) % 4` in `uint32` — octets
read with `Reader.Read` unless there are none, cut back to the header length; the record reported is built from the
four words BY FIELD NAME through the regenerated composite literal of `decodeSampledHeader` (`SflowTie.rawHeaderOf`:
field `F` of `sflow.RawHeader` is the value read into the `SampledHeader` field the literal names for it — F33: until
the repair there was no such literal and the words were dropped; a literal that crossed two fields breaks this proof);
the dissector runs on these octets, its packet is kept when it succeeds -/
theorem gen_sflow_raw_header (bs : Bytes) :
    decodeSampledHeader bs =
      match run Gen.SflowLayouts.sampledHeader {} bs with
      | .done ρ r =>
        (match dissect (ρ.octets "Header") (ρ.num "Protocol") with
         | .ok p => .ok (SflowTie.rawHeaderOf ρ (some p), r)
         | .err _ => .ok (SflowTie.rawHeaderOf ρ none, r)
         | .panic => .panic
         | .fuel => .fuel)
      | .fail e => failAs e
      | _ => .panic :=
  SflowTie.decodeSampledHeader_ir bs

/-- a Go identifier is exported (what `encoding/json` renders) iff it starts with an upper-case letter -/
def exported (n : String) : Bool := n.front.isUpper

/-- **Tie (the published shape of the raw-header record, F33)**: the members the model renders for a raw-header record
are, in order, the named fields of the regenerated declaration of `sflow.RawHeader` — all `uint32` — followed by the
exported fields of `packet.Packet`, which the declaration embeds by pointer as its last field (`encoding/json` promotes
the members of an embedded struct and leaves them out when the pointer is nil: the correspondence shows that; the
member names and their order are fixed here).  No field carries a tag (`structDecl` would emit `!unrecognised`). -/
theorem gen_sflow_raw_header_struct (h : RawHeader) (p : Pkt) :
    (Gen.SflowLayouts.rawHeaderStruct.filter (fun f => f.1 != "")).map (·.1) = (Sflow.Json.rawHeaderWords h).map (·.1) ∧
    (Gen.SflowLayouts.rawHeaderStruct.filter (fun f => f.1 != "")).map (·.2) = ["uint32", "uint32", "uint32", "uint32"] ∧
    Gen.SflowLayouts.rawHeaderStruct.getLast? = some ("", "*packet.Packet") ∧
    (Gen.SflowLayouts.rawHeaderStruct.filter (fun f => f.1 == "")).length = 1 ∧
    ((Gen.SflowLayouts.packetStruct.map (·.1)).filter exported) = (Sflow.Json.pktMembers p).map (·.1) ∧
    (Sflow.Json.rawHeaderTree ⟨h.protocol, h.frameLength, h.stripped, h.headerLength, some p⟩ =
      Sflow.Json.obj (Sflow.Json.rawHeaderWords h ++ Sflow.Json.pktMembers p)) ∧
    (Sflow.Json.rawHeaderTree ⟨h.protocol, h.frameLength, h.stripped, h.headerLength, none⟩ =
      Sflow.Json.obj (Sflow.Json.rawHeaderWords h)) := by
  refine ⟨?_, by decide +kernel, by decide +kernel, by decide +kernel, ?_, rfl, ?_⟩
  · simp only [Sflow.Json.rawHeaderWords, List.map]; decide +kernel
  · simp only [Sflow.Json.pktMembers, List.map]; decide +kernel
  · simp [Sflow.Json.rawHeaderTree, Sflow.Json.rawHeaderWords]

/-- **Tie (extended router record)**: the length rule (16 or 28, else `errExtRouterDataLength`), `l - 8` octets of
address type and next hop read at once, `NextHop = buff[4:]`, the two masks -/
theorem gen_sflow_ext_router (l : Nat) (bs : Bytes) :
    decodeExtRouter l bs =
      SflowTie.outcomeAs SflowTie.extRouterOf (run Gen.SflowLayouts.extRouter { nums := [("l", l)] } bs) :=
  SflowTie.decodeExtRouter_ir l bs

/-- **Tie (extended switch record)**: the four words by field name -/
theorem gen_sflow_ext_switch (bs : Bytes) :
    decodeExtSwitch bs =
      match readFields (widths Gen.SflowLayouts.extSwitch) bs with
      | some (vs, r) =>
        .ok (⟨SflowTie.namedVal Gen.SflowLayouts.extSwitch vs "SrcVlan", SflowTie.namedVal Gen.SflowLayouts.extSwitch vs "SrcPriority",
              SflowTie.namedVal Gen.SflowLayouts.extSwitch vs "DstVlan", SflowTie.namedVal Gen.SflowLayouts.extSwitch vs "DstPriority"⟩, r)
      | none => .err .eof :=
  SflowTie.decodeExtSwitch_ir bs

/-- **Tie (flow record dispatch)**: the record loop's `switch rTypeFormat` is the regenerated table — raw header
(since F33 always stored: its key in `gen_sflow_tables` is `RawHeader`, unconditional), extended switch, extended
router under the regenerated length rule, anything else skipped by its declared length -/
theorem gen_sflow_flow_dispatch (bs : Bytes) :
    flowRecord bs =
      match u32 bs with
      | none => .err .eof
      | some (fmt, r1) =>
        match u32 r1 with
        | none => .err .eof
        | some (len, r2) =>
          if SflowTie.callee Gen.SflowLayouts.flowRecordDispatch fmt = some "decodeSampledHeader" then
            (decodeSampledHeader r2).mapFst (fun h => some (.raw h))
          else if SflowTie.callee Gen.SflowLayouts.flowRecordDispatch fmt = some "decodeExtSwitchData" then
            (decodeExtSwitch r2).mapFst (fun s => some (.sw s))
          else if SflowTie.callee Gen.SflowLayouts.flowRecordDispatch fmt = some "decodeExtRouterData" then
            if ((Gen.SflowLayouts.flowRecordSkips.lookup fmt).getD (.unrecognised "")).evalWith (fun _ => len) [] ≠ 0 then
              .ok (none, r2.drop len)
            else (decodeExtRouter len r2).mapFst (fun x => some (.rtr x))
          else .ok (none, r2.drop len) :=
  SflowTie.flowRecord_ir bs

/-- **Tie (counter record dispatch)**: the layout the model decodes a counter record of format `fmt` with is the one
the regenerated tables select: `switch rTypeFormat` → decoder function → the struct whose `unmarshal` it runs → that
struct's regenerated read sequence (`gen_counter_layouts`) -/
theorem gen_sflow_counter_dispatch (fmt : Nat) : counterLayout fmt = SflowTie.genCounterLayout fmt :=
  SflowTie.counterLayout_ir fmt

/-- **Tie (constants, keys, defaults)**: the dispatch constants by name, the `Records` keys, the default clauses (skip
by the declared length), what `getSampleInfo` hands back, which struct's `unmarshal` the two plain flow-record
decoders run, the statements of `decodeSampledHeader` (`SampledHeader.unmarshal`, the `RawHeader` literal over the
four words, then `packet.Decoder(h.Header, h.Protocol)`, its packet stored on success and its error swallowed: what
`gen_sflow_raw_header` composes), the literal's (field, source field) pairs, and no unrecognised statement in any of
the six readers -/
theorem gen_sflow_tables :
    Gen.SflowLayouts.consts.lookup "DataFlowSample" = some 1 ∧ Gen.SflowLayouts.consts.lookup "DataCounterSample" = some 2 ∧
    Gen.SflowLayouts.consts.lookup "SFDataRawHeader" = some 1 ∧ Gen.SflowLayouts.consts.lookup "SFDataExtSwitch" = some 1001 ∧
    Gen.SflowLayouts.consts.lookup "SFDataExtRouter" = some 1002 ∧
    Gen.SflowLayouts.consts.lookup "SFGenericInterfaceCounters" = some 1 ∧
    Gen.SflowLayouts.consts.lookup "SFEthernetInterfaceCounters" = some 2 ∧
    Gen.SflowLayouts.consts.lookup "SFTokenRingInterfaceCounters" = some 3 ∧
    Gen.SflowLayouts.consts.lookup "SF100BaseVGInterfaceCounters" = some 4 ∧
    Gen.SflowLayouts.consts.lookup "SFVLANCounters" = some 5 ∧ Gen.SflowLayouts.consts.lookup "SFProcessorCounters" = some 1001 ∧
    Gen.SflowLayouts.flowRecordDispatch.map (fun p => (p.1, p.2.2)) = [(1, "RawHeader"), (1001, "ExtSwitch"), (1002, "ExtRouter")] ∧
    Gen.SflowLayouts.counterDispatch.map (fun p => (p.1, p.2.2)) =
      [(1, "GenInt"), (2, "EthInt"), (3, "TRInt"), (4, "VGInt"), (5, "Vlan"), (1001, "Proc")] ∧
    Gen.SflowLayouts.sampleDispatchDefault = "d.reader.Seek(int64(sfDataLength), 1)" ∧
    Gen.SflowLayouts.flowRecordDispatchDefault = "r.Seek(int64(rTypeLength), 1)" ∧
    Gen.SflowLayouts.counterDispatchDefault = "r.Seek(int64(rTypeLength), 1)" ∧
    Gen.SflowLayouts.sampleInfoReturns = ["sfTypeFormat", "sfDataLength"] ∧
    Gen.SflowLayouts.flowDecoders = [("decodeExtSwitchData", "ExtSwitchData"), ("decodeExtRouterData", "ExtRouterData")] ∧
    Gen.SflowLayouts.sampledHeaderDecoder =
      ["var ( h = new(SampledHeader) err error )", "if err = h.unmarshal(r); err != nil { return nil, err }",
       "rh := &RawHeader{ Protocol: h.Protocol, FrameLength: h.FrameLength, Stripped: h.Stripped, HeaderLength: h.HeaderLength, }",
       "p := packet.NewPacket()", "if d, err := p.Decoder(h.Header, h.Protocol); err == nil { rh.Packet = d }",
       "return rh, nil"] ∧
    Gen.SflowLayouts.rawHeaderLiteral =
      [("Protocol", "Protocol"), ("FrameLength", "FrameLength"), ("Stripped", "Stripped"), ("HeaderLength", "HeaderLength")] ∧
    (Gen.SflowLayouts.datagramHeader ++ Gen.SflowLayouts.sampleInfo ++ Gen.SflowLayouts.flowSample ++
      Gen.SflowLayouts.counterSample ++ Gen.SflowLayouts.sampledHeader ++ Gen.SflowLayouts.extRouter).all Row.known = true :=
  SflowTie.tables

/-- a flow sample header: sequence 7, source id type 2, index 17, rate 1, pool 2, drops 0, input 3, output 4, no records -/
def fsF19b : Bytes :=
  [0, 0, 0, 7, 2, 0, 0, 17, 0, 0, 0, 1, 0, 0, 0, 2, 0, 0, 0, 0, 0, 0, 0, 3, 0, 0, 0, 4, 0, 0, 0, 0]

/-- **F19b** (`fix:` b4acc7b): the three octets were skipped (`r.Seek(3, 1)`) and `SourceIDIdx` did not exist: the
statement is none of the row shapes, so the translator emits `unrecognised` and the row list is stuck — where the
model, and the interpretation of the regenerated rows, has the index 17 -/
example :
    run [.num "SequenceNo" 4 "err", .num "SourceID" 1 "err", .unrecognised "r.Seek(3, 1)", .num "SamplingRate" 4 "err"]
      {} fsF19b = .stuck ∧
    (match decodeFlowSample fsF19b with | .ok (s, _) => s.sourceIDIdx | _ => 0) = 17 ∧
    (match run Gen.SflowLayouts.flowSample {} fsF19b with | .done ρ _ => ρ.num "SourceIDIdx" | _ => 0) = 17 := by
  decide +kernel

end Vflow.C07
