import Vflow.Proofs.PipelineWork
import Vflow.Gen.WorkerIR
/-!
# C12 — a published message depends only on its own datagram

Model: `Vflow.Pipeline` (`Model/Pipeline.lean`): receive buffers with identities, the `sync.Pool`, the
read loop, the bounded UDP / mirror / MQ channels, any number of workers (started at any time, each
interpreting the worker-loop IR that `factgen` extracts from `vflow/*.go`), the mirror consumer and the
MQ consumer. A schedule is a `Reach` derivation; every theorem below is for ANY number of workers, ANY
datagram sequence (the `rxRead` action carries arbitrary octets and source address) and EVERY schedule,
and for every worker program accepted by the decidable predicate `Canonical`.

The obligations at the end (`*_canonical`, `readloops_canonical`) tie the theorems to the current source: the
extracted programs are `Canonical`, the extracted read loops are the read loop the model implements.
-/
namespace Vflow.C12
open Vflow Vflow.Pipeline

variable {K : Codec} {cfg : Cfg} {spec : CountSpec}

/-- who holds a reference to buffer `b` in state `s` (pool excluded) -/
def Held (s : State K) (b : BufId) : Prop :=
  (∃ d, (b, d) ∈ s.udpq) ∨ (∃ d, (b, d) ∈ s.mirq) ∨ (∃ d, s.rx = .read b d ∨ s.rx = .counted b d) ∨
  (∃ (i : Nat) (w : Worker K), s.workers[i]? = some w ∧ w.owns = true ∧ w.msg = some b)

/-- **C12 (ownership)**: in every reachable state every buffer id is in at most one place — pool,
read loop, UDP channel, one worker, mirror channel — (`refs` counts the references with
multiplicity), and only allocated buffers are referenced. -/
theorem ownership (hc : Canonical spec cfg.prog) {c : K.Cache} {mem0 : BufId → Bytes} {s : State K}
    (hr : Reach cfg (init K c mem0) s) (b : BufId) :
    refs s b ≤ 1 ∧ (1 ≤ refs s b → b < s.next) :=
  ⟨(reach_inv (spec := spec) hc hr).uniq b, (reach_inv (spec := spec) hc hr).fresh b⟩

/-- **C12 (writes)**: a step changes the content of buffer `b` only if `b` is the buffer the read
loop currently owns (`ReadFromUDP` into it), or a buffer that the writing worker takes from the pool /
allocates in the same atomic step (the mirror copy) -/
theorem write_only_by_owner {s s' : State K} (hs : Step cfg s s') (b : BufId) (hne : s'.mem b ≠ s.mem b) :
    s.rx = .got b ∨ b ∈ s.pool ∨ b = s.next := by
  obtain ⟨_, hm⟩ := hs.move
  cases hm with
  | rxRead hrx => exact .inl (mem_upd_ne hne ▸ hrx)
  | work _ _ hw =>
    cases hw with
    | mirrorCopy _ _ _ hget =>
      cases mem_upd_ne hne
      exact .inr (hget.imp And.left And.left)
    | _ => exact absurd rfl hne
  | _ => exact absurd rfl hne

/-- **C12 (no interference)**: a buffer that is in the UDP channel, in the mirror channel, read but
not yet enqueued, or owned by a worker is never written by any step, under any schedule — its holder
sees exactly the octets of the datagram that was received into it -/
theorem held_unchanged (hc : Canonical spec cfg.prog) {c : K.Cache} {mem0 : BufId → Bytes} {s s' : State K}
    (hr : Reach cfg (init K c mem0) s) (hs : Step cfg s s') (b : BufId) (hb : Held s b) :
    s'.mem b = s.mem b := by
  refine (reach_inv (spec := spec) hc hr).kept (fun x hx => ?_) ?_
  · rcases write_only_by_owner hs x hx with h | h | h
    · exact .inr (.inr h)
    · exact .inl (List.count_pos_iff.mpr h)
    · exact .inr (.inl (Nat.le_of_eq h.symm))
  · rcases hb with ⟨d, hq⟩ | ⟨d, hq⟩ | hrx | ⟨i, w, hi, ho, hm⟩
    · have := qcount_pos hq; exact .inl (by omega)
    · have := qcount_pos hq; exact .inl (by omega)
    · exact .inr hrx
    · have := wsum_pos hi ho hm; exact .inl (by omega)

/-- **C12 (the octets a worker decodes are its datagram's)**: whenever a worker is about to decode
or to marshal (the decoded message may alias the receive buffer), the buffer it reads still holds
exactly the octets of the datagram it dequeued -/
theorem worker_reads_own_datagram (hc : Canonical spec cfg.prog) {c : K.Cache} {mem0 : BufId → Bytes}
    {s : State K} (hr : Reach cfg (init K c mem0) s) {i : Nat} {w : Worker K}
    (hi : s.workers[i]? = some w) (hh : w.halted = false) {rest : List Instr} {own : Bool}
    (hpc : w.pc = .decode :: rest ∨ w.pc = .marshal own :: rest ∨ w.pc = .mirrorCopy :: rest) :
    ∃ b d, w.msg = some b ∧ w.cur = some d ∧ s.mem b = d.bytes ∧ Event.received d ∈ s.log := by
  obtain ⟨a, hsim, hchk⟩ := ((reach_inv (spec := spec) hc hr).wk i w hi).sim hh
  have key : a.owns = true ∧ a.cur = true := by
    rcases hpc with e | e | e <;> rw [e] at hchk
    · exact ⟨(check_decode.mp hchk).1.1, (check_decode.mp hchk).1.2.1⟩
    · exact ⟨(check_marshal.mp hchk).1.1, (check_marshal.mp hchk).1.2.1⟩
    · exact (check_mirrorCopy.mp hchk).1
  have ho := hsim.owns key.1
  obtain ⟨b, hb⟩ := hsim.owns_msg ho
  obtain ⟨d, hd⟩ := Option.isSome_iff_exists.mp (hsim.cur_eq.trans key.2)
  exact ⟨b, d, hb, hd, hsim.buf_ok b d ho hb hd, hsim.cur_recv d hd⟩

/-- **C12 (solo result)**: everything on the MQ channel, everything the MQ consumer has read and every
`published` event carries, byte for byte, `marshal (decode cache addr octets)` of ONE received
datagram's own octets, `cache` being the template cache in force when that datagram was decoded
(`Sol`); and every element of the MQ channel is a private copy (`MQItem.val`): the reusable encode
buffer never escapes. -/
theorem published_is_solo (hc : Canonical spec cfg.prog) {c : K.Cache} {mem0 : BufId → Bytes} {s : State K}
    (hr : Reach cfg (init K c mem0) s) :
    (∀ it, it ∈ s.mq → ∃ id p, it = .val id p ∧ Sol s.log id p) ∧
    (∀ id p, (id, p) ∈ s.delivered → Sol s.log id p) ∧
    (∀ id p, Event.published id p ∈ s.log → Sol s.log id p) :=
  let h := reach_inv (spec := spec) hc hr
  ⟨h.mqOk, h.delOk, h.pubOk⟩

/-- **C12 (encode buffer)**: whenever a worker is about to marshal into its reusable encode buffer,
the buffer is empty (it was reset after its previous use) -/
theorem enc_reset_before_use (hc : Canonical spec cfg.prog) {c : K.Cache} {mem0 : BufId → Bytes}
    {s : State K} (hr : Reach cfg (init K c mem0) s) {i : Nat} {w : Worker K}
    (hi : s.workers[i]? = some w) (hh : w.halted = false) {rest : List Instr}
    (hpc : w.pc = .marshal true :: rest) : w.enc = [] := by
  obtain ⟨a, hsim, hchk⟩ := ((reach_inv (spec := spec) hc hr).wk i w hi).sim hh
  exact hsim.clean ((check_marshal.mp (hpc ▸ hchk)).1.2.2.2.2 rfl)

/-- the mirror is handed a private copy that still holds the datagram's octets -/
theorem mirrored_is_datagram (hc : Canonical spec cfg.prog) {c : K.Cache} {mem0 : BufId → Bytes} {s : State K}
    (hr : Reach cfg (init K c mem0) s) (id : Nat) (p : Bytes) (hm : Event.mirrored id p ∈ s.log) :
    ∃ d, Event.received d ∈ s.log ∧ d.id = id ∧ p = d.bytes :=
  (reach_inv (spec := spec) hc hr).mirOk id p hm

/-- every run of the executable model is a schedule -/
theorem reach_run (cfg : Cfg) (s : State K) (acts : List Action) : Reach cfg s (run cfg s acts) := by
  induction acts generalizing s with
  | nil => exact .refl s
  | cons a as ih =>
    simp only [run]
    split
    · rename_i s' hs
      have : ∀ t, Reach cfg s' t → Reach cfg s t := by
        intro t ht
        induction ht with
        | refl => exact .step (.refl s) ⟨a, hs⟩
        | step _ st ih' => exact .step ih' st
      exact this _ (ih s')
    · exact ih s

/-! ## the tie to the current source (regenerated facts) -/

/-- obligation: `ipfixWorker` of vflow/ipfix.go is canonical (put-back-at-loop-head shape) -/
theorem ipfixWorker_canonical : Canonical .onMsg Gen.ipfixWorker := by decide +kernel
/-- obligation: `netflowV9Worker` of vflow/netflow_v9.go is canonical -/
theorem netflowV9Worker_canonical : Canonical .onMsg Gen.netflowV9Worker := by decide +kernel
/-- obligation: `netflowV5Worker` of vflow/netflow_v5.go is canonical -/
theorem netflowV5Worker_canonical : Canonical .onMsg Gen.netflowV5Worker := by decide +kernel
/-- obligation: `sFlowWorker` of vflow/sflow.go is canonical (put-back-at-loop-end shape) -/
theorem sFlowWorker_canonical : Canonical .onYield Gen.sFlowWorker := by decide +kernel
/-- obligation: the four read loops are the read loop the model implements, and all that follows the loop in
`run()` is the reader closing its own UDP channel (`canonicalRxTail`: nothing is received or enqueued after the loop) -/
theorem readloops_canonical :
    Gen.ipfixRun = canonicalRx ∧ Gen.netflowV9Run = canonicalRx ∧ Gen.netflowV5Run = canonicalRx ∧
    Gen.sFlowRun = canonicalRx ∧
    Gen.ipfixRunTail = canonicalRxTail ∧ Gen.netflowV9RunTail = canonicalRxTail ∧
    Gen.netflowV5RunTail = canonicalRxTail ∧ Gen.sFlowRunTail = canonicalRxTail := by decide +kernel

/-! ## non-vacuity and the mutants -/

/-- a toy codec: a datagram decodes iff it is non-empty, has data iff longer than one octet, and
marshals to its reversal -/
def toy : Codec where
  Cache := Unit
  Msg := Bytes
  decode := fun _ _ bs => (if bs.isEmpty then none else some bs, ())
  hasData := fun m => decide (1 < m.length)
  marshal := fun m => some m.reverse

/-- one read-loop iteration delivering `bytes` from `addr` -/
def feed (addr bytes : Bytes) : List Action := [.rxGetNew, .rxRead (some (addr, bytes)), .rxCount, .rxEnqueue]

/-- `n` steps of worker `i` (no quit, mirror off) -/
def works (i n : Nat) : List Action := List.replicate n (.work i false none)

/-- non-vacuity: the real `ipfixWorker` program, two workers, two datagrams interleaved: both are
published, each payload is its own datagram's solo result -/
example :
    let s := run (K := toy) { prog := Gen.ipfixWorker } (init toy () (fun _ => []))
      ([.spawn none, .spawn none] ++ feed [1] [10, 11, 12] ++ feed [2] [20, 21] ++
       works 0 6 ++ works 1 6 ++ works 0 10 ++ works 1 10 ++ [.mqConsume, .mqConsume])
    s.delivered = [(1, [21, 20]), (0, [12, 11, 10])] ∧ s.udpCount = 2 ∧ s.decCount = 2 := by decide +kernel

/-- non-vacuity for the sFlow shape -/
example :
    let s := run (K := toy) { prog := Gen.sFlowWorker } (init toy () (fun _ => []))
      ([.spawn none, .spawn none] ++ feed [1] [10, 11, 12] ++ feed [2] [20] ++ feed [2] [] ++
       works 0 12 ++ works 1 12 ++ works 0 12 ++ [.mqConsume, .mqConsume])
    s.delivered = [(0, [12, 11, 10])] ∧ s.udpCount = 3 ∧ s.decCount = 1 ∧ s.pool.length = 3 := by decide +kernel

/-- the ipfix worker with the copy replaced by the alias (`ipfixMQCh <- b`) -/
def aliasMutant : Prog := { Gen.ipfixWorker with loop := Gen.ipfixWorker.loop.map fun i =>
  if i = .publishCopy then .publishAlias else i }

/-- the ipfix worker returning the receive buffer to the pool right after the receive -/
def earlyPutMutant : Prog := { initGet := false, loop :=
  [.resetEnc, .recvOrQuit, .putBack, .decode, .contIf .noMsg false, .countDecoded, .contIf .noData false,
   .marshal true, .contIf .marshalErr false, .publishCopy] }

theorem aliasMutant_not_canonical : ¬ Canonical .onMsg aliasMutant := by decide +kernel
theorem earlyPutMutant_not_canonical : ¬ Canonical .onMsg earlyPutMutant := by decide +kernel

/-- the alias mutant violates C12 in the model: one worker, two datagrams, the consumer reads the
first message only after the worker has re-used its encode buffer — datagram 0 is delivered with
datagram 1's payload -/
theorem aliasMutant_counterexample :
    (run (K := toy) { prog := aliasMutant } (init toy () (fun _ => []))
      ([.spawn none] ++ feed [1] [10, 11, 12] ++ feed [2] [20, 21] ++ works 0 30 ++ [.mqConsume])).delivered
    = [(0, [21, 20])] := by decide +kernel

/-- the early-put mutant violates C12 in the model: the read loop re-uses the buffer while the worker
still decodes from it — datagram 0 is published with datagram 1's octets -/
theorem earlyPutMutant_counterexample :
    (run (K := toy) { prog := earlyPutMutant } (init toy () (fun _ => []))
      ([.spawn none] ++ feed [1] [10, 11, 12] ++ works 0 3 ++
       [.rxGetPool 0, .rxRead (some ([2], [20, 21])), .rxCount, .rxEnqueue] ++ works 0 8 ++ [.mqConsume])).delivered
    = [(0, [21, 20])] := by decide +kernel

end Vflow.C12
