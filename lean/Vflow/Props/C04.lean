import Vflow.Proofs.CacheLemmas
import Vflow.Model.Ipfix
import Vflow.Model.V9
import Vflow.Props.C03
import Vflow.Props.C06
import Vflow.Gen.CacheKey
import Vflow.Props.C05
import Vflow.Proofs.PipelineSeq
import Vflow.Proofs.StrOctets
/-!
# C04 — data is decoded only with the same exporter's latest template

The concrete cache (`ipfix/memcache.go`, `netflow/v9/memcache.go`; the same `Cache` serves both decoder models) is 32
shard maps keyed by the hex text of `addr ‖ be16 id`, the shard chosen by the 32-bit FNV-1 hash of the same octets
(`cacheKey = (shardOf, keyText)`).  The abstract specification is a map keyed by `(addr, id)`: `latest h a id`.

Since the K1 repair (F26) the full-strength statement holds: for every history of announcements — any exporters, any
16-bit template ids, colliding under the hash or not — `lookup (run h) a id = latest h a id` (`refinement`), and an
announcement by another exporter never changes a lookup (`other_exporter_no_influence`, no hypothesis at all on the
ids).  Both rest on `cacheKey_inj`: the key determines the pair.  Before the repair the maps were keyed by the hash
alone (`oldCacheKey`), for which the statement is false (`hash_collision_counterexample`, about that key
function), and `colliding_pair_separate` shows the same pair holding two entries under the new one (the pair is the
corpus witness `corpus/C04/*-hist--K1-hash-collision.txt`, replayed on the real caches of both protocols; the `*-hist`
kinds search fresh colliding pairs in every run, which must now decode correctly).
-/
namespace Vflow.C04
open Vflow

/-- an announcement: exporter address, template id, definition -/
abbrev Ann := Bytes × Nat × Template

/-- the cache after a history of announcements (templates are inserted as soon as they are parsed) -/
def runAnn (c : Cache) (h : List Ann) : Cache := h.foldl (fun c e => c.insert e.1 e.2.1 e.2.2) c

/-- the abstract spec: the template most recently announced under `id` by exporter `a` -/
def latest : List Ann → Bytes → Nat → Option Template
  | [], _, _ => none
  | e :: h, a, id =>
    match latest h a id with
    | some t => some t
    | none => if e.1 = a ∧ e.2.1 = id then some e.2.2 else none

/-- no announcement of the history has the cache key of `(a, id)` without being an announcement of `(a, id)` -/
def NoCollision (h : List Ann) (a : Bytes) (id : Nat) : Prop :=
  ∀ e ∈ h, cacheKey e.1 e.2.1 = cacheKey a id → e.1 = a ∧ e.2.1 = id

/-- template ids are 16-bit: `uint16` in `TemplateRecord.TemplateID`, `SetHeader.SetID`, `RPCRequest.ID` and in the
signatures of `insert` / `retrieve` (a typing condition of the code, not an assumption about the input) -/
def Ids16 (h : List Ann) : Prop := ∀ e ∈ h, e.2.1 < 65536

/-- the refinement for arbitrary natural-number ids, under the hypothesis that no other pair has the key of `(a, id)`
(`no_collision` below discharges it for everything the code can represent) -/
theorem refinement_of_no_collision (h : List Ann) (a : Bytes) (id : Nat) :
    ∀ c : Cache, NoCollision h a id →
      (runAnn c h).lookup a id = (match latest h a id with | some t => some t | none => c.lookup a id) := by
  induction h with
  | nil => intro c _; rfl
  | cons e h ih =>
    intro c hnc
    show (runAnn (c.insert e.1 e.2.1 e.2.2) h).lookup a id = _
    rw [ih _ fun x hx => hnc x (List.mem_cons_of_mem _ hx), Cache.lookup_insert, latest]
    cases latest h a id with
    | some t => rfl
    | none =>
      -- without a collision the head has the key of `(a, id)` exactly when it announces `(a, id)`
      have hk : cacheKey a id = cacheKey e.1 e.2.1 ↔ e.1 = a ∧ e.2.1 = id :=
        ⟨fun hk => hnc e (List.mem_cons_self ..) hk.symm, fun hh => by rw [hh.1, hh.2]⟩
      simp only [hk]
      split <;> rfl

/-- **no two pairs share a key**: with 16-bit ids the hypothesis `NoCollision` holds of every history (false of the
hash-only key: `hash_collision_counterexample`) -/
theorem no_collision (h : List Ann) (a : Bytes) (id : Nat) (hh : Ids16 h) (hid : id < 65536) : NoCollision h a id :=
  fun e he hk => cacheKey_inj (hh e he) hid hk

/-- **C04 (refinement)**: for every starting cache and every history of announcements — any number of exporters, any
addresses (4-octet, 16-octet, any length), any 16-bit template ids, re-announcements, pairs that collide under FNV-1
included — the concrete lookup returns exactly the latest template announced by that exporter under that id, or what
the starting cache held if there is none.  No hypothesis about the hash. -/
theorem refinement (h : List Ann) (a : Bytes) (id : Nat) (hh : Ids16 h) (hid : id < 65536) (c : Cache) :
    (runAnn c h).lookup a id = (match latest h a id with | some t => some t | none => c.lookup a id) :=
  refinement_of_no_collision h a id c (no_collision h a id hh hid)

/-- from the empty cache: the lookup IS the specification -/
theorem refinement_empty (h : List Ann) (a : Bytes) (id : Nat) (hh : Ids16 h) (hid : id < 65536) :
    (runAnn [] h).lookup a id = latest h a id := by
  rw [refinement h a id hh hid]
  cases latest h a id <;> rfl

/-- **C04 (no interference)**: an announcement by ANOTHER exporter — whatever its template id, whatever the hash of the
two keys — never changes what a lookup for `(a, id)` returns -/
theorem other_exporter_no_influence (c : Cache) (a a' : Bytes) (id id' : Nat) (t : Template) (h : a ≠ a') :
    (c.insert a' id' t).lookup a id = c.lookup a id := by
  rw [Cache.lookup_insert, if_neg fun hk => h (cacheKey_addr hk)]

/-- the same exporter announcing under another id does not change the lookup either -/
theorem other_id_no_influence (c : Cache) (a : Bytes) (id id' : Nat) (t : Template)
    (hid : id < 65536) (hid' : id' < 65536) (h : id ≠ id') :
    (c.insert a id' t).lookup a id = c.lookup a id := by
  rw [Cache.lookup_insert, if_neg fun hk => h (cacheKey_inj hid hid' hk).2]

/-- a re-announcement replaces the earlier definition for the same exporter and id -/
theorem reannounce_replaces (c : Cache) (a : Bytes) (id : Nat) (t₁ t₂ : Template) :
    ((c.insert a id t₁).insert a id t₂).lookup a id = some t₂ := by
  rw [Cache.lookup_insert, if_pos rfl]

/-! ## The old key function, and the pair that collided under it -/

/-- the caches before the repair: one association list keyed by `oldCacheKey` (the hash alone) -/
def oldInsert (c : List (Nat × Template)) (a : Bytes) (id : Nat) (t : Template) : List (Nat × Template) :=
  (oldCacheKey a id, t) :: c.filter (fun e => e.1 ≠ oldCacheKey a id)
def oldLookup (c : List (Nat × Template)) (a : Bytes) (id : Nat) : Option Template :=
  (c.find? (fun e => e.1 = oldCacheKey a id)).map (·.2)

/-- the negation of the full-strength statement **for the OLD key function**, on a concrete witness: exporters
10.118.203.99 (template 1039) and 10.109.201.102 (template 3119) have the same hash, so with maps keyed by the hash
alone a lookup for A's key returned B's template after B announced (K1, repaired by F26; the pair was found by the
harness's birthday search) -/
theorem hash_collision_counterexample :
    oldCacheKey [10, 118, 203, 99] 1039 = oldCacheKey [10, 109, 201, 102] 3119 ∧
    ([10, 118, 203, 99], 1039) ≠ (([10, 109, 201, 102] : Bytes), 3119) ∧
    ∀ (tA tB : Template),
      oldLookup (oldInsert (oldInsert [] [10, 118, 203, 99] 1039 tA) [10, 109, 201, 102] 3119 tB)
        [10, 118, 203, 99] 1039 = some tB := by
  have hk : oldCacheKey [10, 118, 203, 99] 1039 = oldCacheKey [10, 109, 201, 102] 3119 := by decide +kernel
  exact ⟨hk, by decide, fun tA tB => by simp [oldLookup, oldInsert, hk]⟩

/-- **the colliding pair now keeps two separate entries**: the two keys fall into the same shard (their hashes are
equal) but have different key texts, `0a76cb63040f` and `0a6dc9660c2f`; after both exporters announced, each lookup
returns its own exporter's template, in either order of the announcements -/
theorem colliding_pair_separate :
    shardOf [10, 118, 203, 99] 1039 = shardOf [10, 109, 201, 102] 3119 ∧
    keyText [10, 118, 203, 99] 1039 = str "0a76cb63040f" ∧ keyText [10, 109, 201, 102] 3119 = str "0a6dc9660c2f" ∧
    ∀ (tA tB : Template),
      Cache.lookup (Cache.insert (Cache.insert [] [10, 118, 203, 99] 1039 tA) [10, 109, 201, 102] 3119 tB)
        [10, 118, 203, 99] 1039 = some tA ∧
      Cache.lookup (Cache.insert (Cache.insert [] [10, 118, 203, 99] 1039 tA) [10, 109, 201, 102] 3119 tB)
        [10, 109, 201, 102] 3119 = some tB ∧
      Cache.lookup (Cache.insert (Cache.insert [] [10, 109, 201, 102] 3119 tB) [10, 118, 203, 99] 1039 tA)
        [10, 109, 201, 102] 3119 = some tB := by
  refine ⟨by decide +kernel, by rw [str_eq]; decide +kernel, by rw [str_eq]; decide +kernel, ?_⟩
  intro tA tB
  have hne : cacheKey [10, 118, 203, 99] 1039 ≠ cacheKey [10, 109, 201, 102] 3119 :=
    fun hk => absurd (cacheKey_addr hk) (by decide)
  refine ⟨?_, ?_, ?_⟩
  · rw [Cache.lookup_insert, if_neg hne, Cache.lookup_insert, if_pos rfl]
  · rw [Cache.lookup_insert, if_pos rfl]
  · rw [Cache.lookup_insert, if_neg hne.symm, Cache.lookup_insert, if_pos rfl]

/-! ## The decoders use exactly this lookup, and unknown templates yield no records -/

/-- IPFIX: data whose template the exporter has not announced is reported as unknown and yields no record -/
theorem ipfix_unknown_template_no_records (addr : Bytes) (sid len start fuel : Nat) (st : Ipfix.St)
    (hs : sid > 255) (hl : st.cache.lookup addr sid = none) :
    (Ipfix.setBody addr sid len start fuel st).1.recs = st.recs ∧
    (Ipfix.setBody addr sid len start fuel st).1.cache = st.cache ∧
    ((Ipfix.setBody addr sid len start fuel st).2 = some .unknownTpl ∨
     (Ipfix.setBody addr sid len start fuel st).2 = some .short) := by
  simp only [Ipfix.setBody, Ipfix.lookupTpl, hs, if_true, hl, Ipfix.skipRest]
  split
  · split <;> simp
  · simp

/-- NetFlow v9: the same -/
theorem v9_unknown_template_no_records (addr : Bytes) (sid len start fuel : Nat) (st : V9.St)
    (hs : sid > 255) (hl : st.cache.lookup addr sid = none) :
    (V9.setBody addr sid len start fuel st).1.recs = st.recs ∧
    (V9.setBody addr sid len start fuel st).1.cache = st.cache ∧
    ((V9.setBody addr sid len start fuel st).2 = some .unknownTpl ∨
     (V9.setBody addr sid len start fuel st).2 = some .short) := by
  simp only [V9.setBody, V9.lookupTpl, hs, if_true, hl, V9.skipRest, Option.some.injEq, reduceCtorEq, if_false]
  split
  · split <;> simp
  · simp

/-- IPFIX: a data set is decoded with exactly the template the cache holds for (this exporter, this id)
at the moment the set starts — including templates inserted by earlier sets of the same message -/
theorem ipfix_data_uses_lookup (addr : Bytes) (sid len start fuel : Nat) (st : Ipfix.St) (t : Template)
    (hs : sid > 255) (hl : st.cache.lookup addr sid = some t) :
    Ipfix.setBody addr sid len start fuel st =
      (let res := Ipfix.setLoop ⟨addr, sid, len, start, t⟩ fuel st
       if res.2.2 then (res.1, res.2.1) else Ipfix.skipRest ⟨addr, sid, len, start, t⟩ res.1 res.2.1) := by
  simp [Ipfix.setBody, Ipfix.lookupTpl, hs, hl]

theorem v9_data_uses_lookup (addr : Bytes) (sid len start fuel : Nat) (st : V9.St) (t : Template)
    (hs : sid > 255) (hl : st.cache.lookup addr sid = some t) :
    V9.setBody addr sid len start fuel st =
      (let res := V9.setLoop ⟨addr, sid, len, start, t⟩ fuel st
       V9.skipRest ⟨addr, sid, len, start, t⟩ res.1 res.2) := by
  simp [V9.setBody, V9.lookupTpl, hs, hl]

/-! ## Obligations over regenerated facts: how the code keys and consults the cache

`cacheKey addr id = (fnv1 (addr ++ be16 id) % 32, hex (addr ++ be16 id))` in the model is what `getShard` computes
(32-bit FNV-1 over the exporter address followed by the big-endian template id; shard = hash mod shardNo; the key
inside the shard's map is `hex.EncodeToString` of the same octets), in both cache files; the maps are
`map[string]Data`, and `insert` / `retrieve` use the shard and the key `getShard` returned and nothing else; the decoders look templates up and store them under
(set id / template id, the datagram's source address), and the peer-RPC path asks for and stores the
template under exactly the requesting (id, address). A change to any of these statements is a failed
obligation. -/

def expectedGetShard : List String :=
  ["b := make([]byte, 2)", "binary.BigEndian.PutUint16(b, id)", "key := append(addr, b...)",
   "hash := fnv.New32()", "hash.Write(key)", "hSum32 := hash.Sum32()",
   "return m[uint(hSum32)%uint(shardNo)], hex.EncodeToString(key)"]

theorem gen_cache_key :
    Gen.CacheKey.ipfixGetShard = expectedGetShard ∧ Gen.CacheKey.nf9GetShard = expectedGetShard :=
  ⟨rfl, rfl⟩

def expectedInsert : List String :=
  ["shard, key := m.getShard(id, addr)", "shard.Lock()", "defer shard.Unlock()",
   "shard.Templates[key] = Data{tr, time.Now().Unix()}"]
def expectedRetrieve : List String :=
  ["shard, key := m.getShard(id, addr)", "shard.RLock()", "defer shard.RUnlock()",
   "v, ok := shard.Templates[key]", "return v.Template, ok"]

/-- the shard maps are keyed by the string `getShard` returns (`map[string]Data`, not the 32-bit hash: K1 / F26);
`insert` stores and `retrieve` reads under exactly (the shard, the key) of `getShard(id, addr)`; nothing else in the
two cache files indexes a `Templates` map or calls `getShard`; `hex`, `fnv`, `binary` are the standard packages -/
theorem gen_cache_key_use :
    Gen.CacheKey.ipfixGetShardSig = "func(id uint16, addr net.IP) (*TemplatesShard, string)" ∧
    Gen.CacheKey.nf9GetShardSig = "func(id uint16, addr net.IP) (*TemplatesShard, string)" ∧
    Gen.CacheKey.ipfixMapType = "map[string]Data" ∧ Gen.CacheKey.nf9MapType = "map[string]Data" ∧
    Gen.CacheKey.ipfixInsert = expectedInsert ∧ Gen.CacheKey.nf9Insert = expectedInsert ∧
    Gen.CacheKey.ipfixRetrieve = expectedRetrieve ∧ Gen.CacheKey.nf9Retrieve = expectedRetrieve ∧
    Gen.CacheKey.ipfixOtherKeyUses = [] ∧ Gen.CacheKey.nf9OtherKeyUses = [] ∧
    (∀ p ∈ ["\"encoding/hex\"", "\"hash/fnv\"", "\"encoding/binary\""],
      p ∈ Gen.CacheKey.ipfixImports ∧ p ∈ Gen.CacheKey.nf9Imports) :=
  ⟨rfl, rfl, rfl, rfl, rfl, rfl, rfl, rfl, rfl, rfl, by decide +kernel⟩

theorem gen_cache_calls :
    Gen.CacheKey.ipfixDecoderCalls = ["mem.retrieve(setHeader.SetID, d.raddr)", "mem.insert(tr.TemplateID, d.raddr, tr)"] ∧
    Gen.CacheKey.nf9DecoderCalls = ["mem.retrieve(setHeader.FlowSetID, d.raddr)", "mem.insert(tr.TemplateID, d.raddr, tr)"] ∧
    Gen.CacheKey.ipfixRpcCalls = ["r.mCache.retrieve(req.ID, req.IP)", "m.insert(req.ID, req.IP, *tr)"] :=
  ⟨rfl, rfl, rfl⟩

/-! ## Histories of whole messages, any number of exporters

`ipfixWfHistory` / `v9WfHistory` judge every message against the cache *as the decoder has left it* after the earlier
messages (`Wire.*.expected`), i.e. through the concrete lookup: a data set is well formed when the
template it was encoded with is what the cache returns for (this exporter, this id) at that point.
Under that premise every message of the history decodes to exactly its expected records — whatever
other exporters announced in between. (By `refinement` the concrete lookup is the latest announcement of
that exporter under that id, so the premise says: encoded with the exporter's latest template. Before the
K1 repair it failed for the victim's data set of a colliding pair.) -/

/-- decode a history of (exporter address, message) pairs in order -/
def ipfixRun (c : Cache) : List (Bytes × Wire.Ipfix.Msg) → List Ipfix.Result × Cache
  | [] => ([], c)
  | (a, m) :: h =>
    let r := Ipfix.decode c a (Wire.Ipfix.encodeMsg m)
    let rest := ipfixRun r.2 h
    (r.1 :: rest.1, rest.2)

def ipfixExpectedRun (c : Cache) : List (Bytes × Wire.Ipfix.Msg) → List Ipfix.Result × Cache
  | [] => ([], c)
  | (a, m) :: h =>
    let e := Wire.Ipfix.expected a c m
    let rest := ipfixExpectedRun e.2 h
    (.ok (Wire.Ipfix.expectedHdr m, e.1, []) :: rest.1, rest.2)

def ipfixWfHistory (c : Cache) : List (Bytes × Wire.Ipfix.Msg) → Bool
  | [] => true
  | (a, m) :: h => Wire.Ipfix.wfMsg a c m && ipfixWfHistory (Wire.Ipfix.expected a c m).2 h

/-- **C04 (histories, IPFIX)**: every message of a well-formed history — any exporters, any
interleaving of announcements, re-announcements and data — decodes to exactly its expected records,
and the cache evolves as the specification says -/
theorem ipfix_history_roundtrip (h : List (Bytes × Wire.Ipfix.Msg)) :
    ∀ c : Cache, ipfixWfHistory c h = true → ipfixRun c h = ipfixExpectedRun c h := by
  induction h with
  | nil => intro c _; rfl
  | cons x xs ih =>
    intro c hw
    obtain ⟨a, m⟩ := x
    simp only [ipfixWfHistory, Bool.and_eq_true] at hw
    have hm := C03.message_roundtrip c a m hw.1
    simp only [ipfixRun, ipfixExpectedRun, hm]
    rw [ih _ hw.2]

def v9Run (c : Cache) : List (Bytes × Wire.V9.Msg) → List V9.Result × Cache
  | [] => ([], c)
  | (a, m) :: h =>
    let r := V9.decode c a (Wire.V9.encodeMsg m)
    let rest := v9Run r.2 h
    (r.1 :: rest.1, rest.2)

def v9ExpectedRun (c : Cache) : List (Bytes × Wire.V9.Msg) → List V9.Result × Cache
  | [] => ([], c)
  | (a, m) :: h =>
    let e := Wire.V9.expected a c m
    let rest := v9ExpectedRun e.2 h
    (.ok (Wire.V9.expectedHdr m, e.1, []) :: rest.1, rest.2)

def v9WfHistory (c : Cache) : List (Bytes × Wire.V9.Msg) → Bool
  | [] => true
  | (a, m) :: h => Wire.V9.wfMsg a c m && v9WfHistory (Wire.V9.expected a c m).2 h

/-- **C04 (histories, NetFlow v9)** -/
theorem v9_history_roundtrip (h : List (Bytes × Wire.V9.Msg)) :
    ∀ c : Cache, v9WfHistory c h = true → v9Run c h = v9ExpectedRun c h := by
  induction h with
  | nil => intro c _; rfl
  | cons x xs ih =>
    intro c hw
    obtain ⟨a, m⟩ := x
    simp only [v9WfHistory, Bool.and_eq_true] at hw
    have hm := C06.packet_roundtrip c a m hw.1
    simp only [v9Run, v9ExpectedRun, hm]
    rw [ih _ hw.2]

/-- non-vacuity: a three-step history over two exporters, no collision, re-announcement wins -/
example :
    let tA : Template := ⟨256, 1, 0, [], [⟨8, 4, 0⟩]⟩
    let tA' : Template := ⟨256, 1, 0, [], [⟨12, 4, 0⟩]⟩
    let tB : Template := ⟨256, 1, 0, [], [⟨1, 8, 0⟩]⟩
    (runAnn [] [([10,0,0,1], 256, tA), ([10,0,0,2], 256, tB), ([10,0,0,1], 256, tA')]).lookup [10,0,0,1] 256 = some tA' ∧
    (runAnn [] [([10,0,0,1], 256, tA), ([10,0,0,2], 256, tB), ([10,0,0,1], 256, tA')]).lookup [10,0,0,2] 256 = some tB := by
  decide +kernel

/-! ## At the collector: the worker pool (finding K5) and the one-worker case

Everything above is about the sequential `Decode` API.  At the collector (`vflow/ipfix.go`, `run`) the datagrams are
taken from ONE UDP channel by N concurrent workers that share ONE template cache.  The pipeline model
(`Model/Pipeline.lean`, C12 / C13) has exactly this structure: a schedule is a list of `Action`s (`run`) resp. a `Reach`
derivation, the worker program is the regenerated `Gen.ipfixWorker`, and the ghost log records `received d`,
`decoded id cache result` and `published id payload` events.  Read oldest first: `arrivals log` (the datagrams in
arrival order) and `decodes log` (the decodes in the order in which they happened); the sequential semantics is
`decodeAll K c0 ds` (decode one after the other, threading the cache) with `cacheAfter K c0 ds` the cache it leaves.
With two workers the property fails in the model (the witness of finding K5); with at most one it holds. -/
section Collector
open Vflow.Pipeline Vflow.C12

variable {K : Codec} {cfg : Cfg} {spec : CountSpec}

/-- a toy template codec that makes the definition used visible: the cache maps (exporter, template id) to the
number of the definition announced last (an association list, newest first); the datagram `[0, id, df]` announces
definition `df` for `id` (a message without data, like an IPFIX message carrying only a template set); the datagram
`[1, id, v]` is data for `id`: it decodes to `[id, df, v]` — naming the definition `df` the cache holds for this
exporter and id at that moment — or to no message when there is none; the payload is the message itself -/
@[reducible] def tplToy : Codec where
  Cache := List ((Bytes × UInt8) × UInt8)
  Msg := Bytes
  decode := fun c addr bs =>
    match bs with
    | [0, id, df] => (some [], ((addr, id), df) :: c)
    | [1, id, v] =>
      match c.lookup (addr, id) with
      | some df => (some [id, df, v], c)
      | none => (none, c)
    | _ => (none, c)
  hasData := fun m => !m.isEmpty
  marshal := fun m => some m

instance : DecidableEq tplToy.Cache := inferInstanceAs (DecidableEq (List ((Bytes × UInt8) × UInt8)))
instance : DecidableEq tplToy.Msg := inferInstanceAs (DecidableEq Bytes)

/-- (0, id) for `received`, (1, id) for `decoded`: the skeleton of the log the K5 witness is about -/
def evTag : Event K → Option (Nat × Nat)
  | .received d => some (0, d.id)
  | .decoded id _ _ => some (1, id)
  | _ => none

/-- the schedule of the K5 witness: two workers are started; the read loop receives the three datagrams `dA`, `dB`,
`dD` of exporter `x` in this order (all three are in the UDP channel, in arrival order, before any worker runs); worker 0
handles `dA` completely (11 steps), takes `dB` from the channel and stops right in front of its `decode` (5 steps);
worker 1 takes `dD`, decodes and publishes it (15 steps); only then worker 0 goes on and decodes `dB`; the MQ consumer
reads the one published message -/
def k5Schedule (x dA dB dD : Bytes) : List Action :=
  [.spawn none, .spawn none] ++ feed x dA ++ feed x dB ++ feed x dD ++
    works 0 16 ++ works 1 15 ++ works 0 12 ++ [.mqConsume]

/-- the same three datagrams handled by ONE worker (three full iterations) -/
def oneWorkerSchedule (x dA dB dD : Bytes) : List Action :=
  [.spawn none] ++ feed x dA ++ feed x dB ++ feed x dD ++ works 0 45 ++ [.mqConsume]

/-- **finding K5, model-level witness** (a COUNTEREXAMPLE to C04 at the collector for the code as it is — not a property
of a repaired code): a kernel-checked run of the pipeline semantics with the worker program the current source has
(`Gen.ipfixWorker`), TWO workers, ONE exporter 192.0.2.1 and three datagrams — announce template 7 with definition
`0xA`, re-announce template 7 with definition `0xB`, data for template 7 — under `k5Schedule`.  All three datagrams are
received, in this order, before anything is decoded (log skeleton); the data datagram (id 2) is decoded BEFORE the
re-announcement (id 1), against a cache that holds definition `0xA`; what is published and delivered for it is
`[7, 0xA, 42]` — the payload the superseded definition gives — although `0xB` was received before it; the sequential
semantics of the same arrivals (`decodeAll`, what `refinement` / `ipfix_history_roundtrip` are about) decodes it against
the cache holding `0xB` and yields `[7, 0xB, 42]`.  Codec: `tplToy`. -/
theorem k5_two_workers_counterexample :
    let s := run (K := tplToy) { prog := Gen.ipfixWorker } (init tplToy [] (fun _ => []))
      (k5Schedule [192, 0, 2, 1] [0, 7, 0xA] [0, 7, 0xB] [1, 7, 42])
    s.workers.length = 2 ∧
    (arrivals s.log).map (fun d => (d.id, d.addr, d.bytes)) =
      [(0, [192, 0, 2, 1], [0, 7, 0xA]), (1, [192, 0, 2, 1], [0, 7, 0xB]), (2, [192, 0, 2, 1], [1, 7, 42])] ∧
    s.log.reverse.filterMap evTag = [(0, 0), (0, 1), (0, 2), (1, 0), (1, 2), (1, 1)] ∧
    decodes s.log =
      [(0, [], some []),
       (2, [(([192, 0, 2, 1], 7), 0xA)], some [7, 0xA, 42]),
       (1, [(([192, 0, 2, 1], 7), 0xA)], some [])] ∧
    s.delivered = [(2, [7, 0xA, 42])] ∧
    decodeAll tplToy [] (arrivals s.log) =
      [(0, [], some []),
       (1, [(([192, 0, 2, 1], 7), 0xA)], some []),
       (2, [(([192, 0, 2, 1], 7), 0xB), (([192, 0, 2, 1], 7), 0xA)], some [7, 0xB, 42])] ∧
    decodes s.log ≠ decodeAll tplToy [] (arrivals s.log) := by
  decide +kernel

/-- the state of the witness is reachable (every `run` is a `Reach` derivation), so it refutes the conclusion of
`one_worker_in_order` for two workers: no prefix of the sequential semantics is the list of decodes -/
theorem k5_two_workers_not_in_order :
    ∃ s : State tplToy, Reach { prog := Gen.ipfixWorker } (init tplToy [] (fun _ => [])) s ∧ s.workers.length = 2 ∧
      ¬ ∃ n, decodes s.log = (decodeAll tplToy [] (arrivals s.log)).take n := by
  obtain ⟨hw, _, _, hd, _, ha, _⟩ := k5_two_workers_counterexample
  refine ⟨_, reach_run _ _ (k5Schedule [192, 0, 2, 1] [0, 7, 0xA] [0, 7, 0xB] [1, 7, 42]), hw, ?_⟩
  rintro ⟨n, hn⟩
  -- the second decode is datagram 2; the second entry of any prefix of the sequential semantics is datagram 1
  rw [hd, ha] at hn
  match n, hn with
  | 0, h => simp at h
  | 1, h => simp at h
  | n+2, h => simp at h

/-- template 256, definition A: one field, sourceIPv4Address (element 8, 4 octets) -/
def k5TplA : Template := ⟨256, 1, 0, [], [⟨8, 4, 0⟩]⟩
/-- template 256, definition B: one field, destinationIPv4Address (element 12, 4 octets) -/
def k5TplB : Template := ⟨256, 1, 0, [], [⟨12, 4, 0⟩]⟩
/-- the three messages of the exporter: announce A; re-announce B; one data record, encoded with B (its latest) -/
def k5MsgA : Wire.Ipfix.Msg := ⟨1000, 0, 1, [.tpl [k5TplA] []]⟩
def k5MsgB : Wire.Ipfix.Msg := ⟨1001, 0, 1, [.tpl [k5TplB] []]⟩
def k5MsgD : Wire.Ipfix.Msg := ⟨1002, 0, 1, [.data k5TplB [[⟨[10, 0, 0, 9], false⟩]] []]⟩
/-- the float text is irrelevant here (no float field) -/
def k5Ft : Val → Bytes := fun _ => []

/-- **finding K5, model-level witness on real IPFIX octets** (a counterexample for the code as it is, see
`k5_two_workers_counterexample`): the pipeline's codec is the IPFIX decoder / marshal model (`C05.ipfixCodec`), the three
datagrams are the RFC 7011 encodings (`Wire.Ipfix.encodeMsg`) of: template 256 := sourceIPv4Address; template 256 :=
destinationIPv4Address; a data set of template 256 with the value 10.0.0.9, encoded with the exporter's latest definition.
Under `k5Schedule` (two workers) the collector publishes the value as element 8 (`"I":8`, sourceIPv4Address: the
superseded definition); decode order 0, 2, 1. -/
theorem k5_two_workers_counterexample_ipfix :
    let s := run (K := C05.ipfixCodec k5Ft) { prog := Gen.ipfixWorker } (init (C05.ipfixCodec k5Ft) [] (fun _ => []))
      (k5Schedule [192, 0, 2, 1] (Wire.Ipfix.encodeMsg k5MsgA) (Wire.Ipfix.encodeMsg k5MsgB) (Wire.Ipfix.encodeMsg k5MsgD))
    s.log.reverse.filterMap evTag = [(0, 0), (0, 1), (0, 2), (1, 0), (1, 2), (1, 1)] ∧
    s.delivered = [(2, str ("{\"AgentID\":\"192.0.2.1\",\"Header\":{\"Version\":10,\"Length\":24,\"ExportTime\":1002," ++
      "\"SequenceNo\":0,\"DomainID\":1},\"DataSets\":[[{\"I\":8,\"V\":\"10.0.0.9\"}]]}"))] := by
  rw [str_eq]; decide +kernel

/-- non-vacuity of the one-worker theorems, and the contrast: the same three datagrams, ONE worker
(`oneWorkerSchedule`): decode order 0, 1, 2 and the value is published as element 12 (destinationIPv4Address, the
latest definition) -/
example :
    let s := run (K := C05.ipfixCodec k5Ft) { prog := Gen.ipfixWorker } (init (C05.ipfixCodec k5Ft) [] (fun _ => []))
      (oneWorkerSchedule [192, 0, 2, 1] (Wire.Ipfix.encodeMsg k5MsgA) (Wire.Ipfix.encodeMsg k5MsgB) (Wire.Ipfix.encodeMsg k5MsgD))
    s.workers.length = 1 ∧
    s.log.reverse.filterMap evTag = [(0, 0), (0, 1), (0, 2), (1, 0), (1, 1), (1, 2)] ∧
    s.delivered = [(2, str ("{\"AgentID\":\"192.0.2.1\",\"Header\":{\"Version\":10,\"Length\":24,\"ExportTime\":1002," ++
      "\"SequenceNo\":0,\"DomainID\":1},\"DataSets\":[[{\"I\":12,\"V\":\"10.0.0.9\"}]]}"))] := by
  rw [str_eq]; decide +kernel

/-- the same with the toy codec: one worker, the data is decoded with definition `0xB`, and the decodes ARE the
sequential semantics -/
example :
    let s := run (K := tplToy) { prog := Gen.ipfixWorker } (init tplToy [] (fun _ => []))
      (oneWorkerSchedule [192, 0, 2, 1] [0, 7, 0xA] [0, 7, 0xB] [1, 7, 42])
    s.workers.length = 1 ∧ pending s = [] ∧
    s.delivered = [(2, [7, 0xB, 42])] ∧
    decodes s.log = decodeAll tplToy [] (arrivals s.log) := by
  decide +kernel

/-- **C04 at the collector, one worker (order)**: for EVERY codec, every `Canonical` worker program (in particular
`Gen.ipfixWorker`, `C12.ipfixWorker_canonical`), every datagram sequence (arbitrary octets and exporters: the `rxRead`
action), every initial cache, and EVERY schedule — every state `s` reachable from the initial state — in which at most
one worker was ever started (`s.workers.length ≤ 1`: workers are only ever appended to `s.workers`, one per
`Action.spawn`, and a worker that quits stays in the list as `halted`, see `Pipeline.step_workers_length`; so the
hypothesis says that the schedule contains at most one enabled `spawn`):

the datagrams are decoded in arrival order, and the cache against which the k-th received datagram is decoded is the
cache obtained by folding `K.decode` over the datagrams received before it, in arrival order, from the initial cache:
the list of `decoded id cache result` events (oldest first) is the prefix of length `n` of the sequential semantics
`decodeAll K c0 (arrivals s.log)`; the shared cache in `s` is the sequential cache after these `n` datagrams; and the
arrivals not decoded yet are exactly the pending ones (held by the worker in front of its `decode`, in the UDP channel,
in the read loop), in this order.

No hypothesis is needed on WHEN the worker is started (datagrams received earlier wait in the FIFO channel) nor on
quitting (the quit branch of the worker's `select`, `Action.work i true _` at `recvOrQuit`, is only taken between two
iterations: decoding stops, `n` stays); a worker that is started before the first datagram and never quits is a special
case.  With two workers the statement is false: `k5_two_workers_not_in_order`.
Proof: the invariant `Pipeline.Seq` over `Reach` (`Proofs/PipelineSeq.lean`). -/
theorem one_worker_in_order (hc : Canonical spec cfg.prog) {c0 : K.Cache} {mem0 : BufId → Bytes} {s : State K}
    (hr : Reach cfg (init K c0 mem0) s) (h1 : s.workers.length ≤ 1) :
    ∃ n, n ≤ (arrivals s.log).length ∧
      decodes s.log = (decodeAll K c0 (arrivals s.log)).take n ∧
      s.cache = cacheAfter K c0 ((arrivals s.log).take n) ∧
      (arrivals s.log).drop n = pending s :=
  (reach_seq hc hr h1).in_order

/-- the same over action lists: every schedule `acts` (any interleaving of read-loop steps with arbitrary datagrams,
worker steps with or without the quit flag, mirror and MQ consumer steps; disabled actions are skipped) that contains at
most one `spawn` — in particular `spawn` first, then anything without a `spawn` -/
theorem one_worker_in_order_schedule (hc : Canonical spec cfg.prog) (c0 : K.Cache) (mem0 : BufId → Bytes)
    (acts : List Action) (h1 : acts.countP Action.isSpawn ≤ 1) :
    ∃ n, n ≤ (arrivals (run cfg (init K c0 mem0) acts).log).length ∧
      decodes (run cfg (init K c0 mem0) acts).log =
        (decodeAll K c0 (arrivals (run cfg (init K c0 mem0) acts).log)).take n ∧
      (run cfg (init K c0 mem0) acts).cache =
        cacheAfter K c0 ((arrivals (run cfg (init K c0 mem0) acts).log).take n) ∧
      (arrivals (run cfg (init K c0 mem0) acts).log).drop n = pending (run cfg (init K c0 mem0) acts) := by
  refine one_worker_in_order hc (reach_run cfg _ acts) ?_
  have := run_workers_length cfg (init K c0 mem0) acts
  simp only [init, List.length_nil, Nat.zero_add] at this
  exact Nat.le_trans this h1

/-- once nothing is pending (UDP channel empty, read loop between two datagrams, the worker past its decode) every
received datagram has been decoded, in order -/
theorem one_worker_all_decoded (hc : Canonical spec cfg.prog) {c0 : K.Cache} {mem0 : BufId → Bytes} {s : State K}
    (hr : Reach cfg (init K c0 mem0) s) (h1 : s.workers.length ≤ 1) (hp : pending s = []) :
    decodes s.log = decodeAll K c0 (arrivals s.log) ∧ s.cache = cacheAfter K c0 (arrivals s.log) := by
  obtain ⟨n, hn, h2, h3, h4⟩ := one_worker_in_order hc hr h1
  rw [hp, List.drop_eq_nil_iff] at h4
  obtain rfl : n = (arrivals s.log).length := Nat.le_antisymm hn h4
  rw [h2, h3, List.take_length]
  exact ⟨List.take_of_length_le (Nat.le_of_eq (decodeAll_length ..)), rfl⟩

/-- **C04 at the collector, one worker (what is published)**: every published payload is the outcome (decode, has
data, marshal) of the k-th received datagram decoded against the cache the sequential semantics has after the first `k`
arrivals — `k` being the position of that datagram in the arrival order -/
theorem one_worker_published_sequential (hc : Canonical spec cfg.prog) {c0 : K.Cache} {mem0 : BufId → Bytes}
    {s : State K} (hr : Reach cfg (init K c0 mem0) s) (h1 : s.workers.length ≤ 1)
    (id : Nat) (p : Bytes) (hp : Event.published id p ∈ s.log) :
    ∃ k d, (arrivals s.log)[k]? = some d ∧ d.id = id ∧
      outcome K (K.decode (cacheAfter K c0 ((arrivals s.log).take k)) d.addr d.bytes).1 = some p :=
  published_sequential hc hr h1 hp

/-- the latest definition announced in `anns` by exporter `a` under `id`, else what the initial cache holds -/
def latestOr (c0 : Cache) (anns : List Ann) (a : Bytes) (id : Nat) : Option Template :=
  match latest anns a id with
  | some t => some t
  | none => c0.lookup a id

theorem latestOr_nil (anns : List Ann) (a : Bytes) (id : Nat) : latestOr [] anns a id = latest anns a id := by
  unfold latestOr; cases latest anns a id <;> rfl

theorem runAnn_append (c : Cache) (x y : List Ann) : runAnn c (x ++ y) = runAnn (runAnn c x) y := by
  simp [runAnn, List.foldl_append]

theorem insertAll_eq_runAnn (a : Bytes) (c : Cache) (ts : List Template) :
    Wire.insertAll a c ts = runAnn c (ts.map (fun t => (a, t.tid, t))) := by
  simp [Wire.insertAll, runAnn, List.foldl_map]

theorem ids16_nil : Ids16 [] := fun _ he => nomatch he

theorem ids16_append {x y : List Ann} (hx : Ids16 x) (hy : Ids16 y) : Ids16 (x ++ y) :=
  fun e he => (List.mem_append.mp he).elim (hx e) (hy e)

theorem ids16_templates (a : Bytes) {ts : List Template} (h : ∀ t ∈ ts, t.tid < 65536) :
    Ids16 (ts.map fun t => (a, t.tid, t)) := by
  intro e he
  obtain ⟨t, ht, rfl⟩ := List.mem_map.mp he
  exact h t ht

theorem lookup_runAnn {c0 : Cache} {anns : List Ann} {a : Bytes} {id : Nat} (hi : Ids16 anns) (hid : id < 65536) :
    (runAnn c0 anns).lookup a id = latestOr c0 anns a id :=
  refinement anns a id hi hid c0

/-- the records and the announcements of a list of sets, when each set adds its records and makes its announcements
(`Wire.Ipfix.applySet`, `Wire.V9.applySet`) -/
theorem foldl_applySet {S : Type} {apply : List Record × Cache → S → List Record × Cache} {recs : S → List Record}
    {an : S → List Ann} (h : ∀ acc x, apply acc x = (acc.1 ++ recs x, runAnn acc.2 (an x))) (xs : List S)
    (acc : List Record × Cache) :
    xs.foldl apply acc = (acc.1 ++ xs.flatMap recs, runAnn acc.2 (xs.flatMap an)) := by
  induction xs generalizing acc with
  | nil => simp [runAnn]
  | cons x xs ih => simp [ih, h, List.append_assoc, runAnn_append]

/-- `refinement` along a list judged element by element: `P`, which judges against the concrete cache, and `Q`, which
judges against the announcements made so far, agree when their judgements of one element do — provided an element makes
the announcements `an x`, 16-bit whenever `Q` accepts it -/
theorem threaded_runAnn {S : Type} {step : Cache → S → Cache} {an : S → List Ann} {p : Cache → S → Bool}
    {q : List Ann → S → Bool} {P : Cache → List S → Bool} {Q : List Ann → List S → Bool} (c0 : Cache)
    (TP : Threaded step p P) (TQ : Threaded (fun anns x => anns ++ an x) q Q)
    (hstep : ∀ c x, step c x = runAnn c (an x))
    (hpq : ∀ anns x, Ids16 anns → p (runAnn c0 anns) x = q anns x)
    (hids : ∀ anns x, q anns x = true → Ids16 (an x)) :
    ∀ (xs : List S) (anns : List Ann), Ids16 anns → P (runAnn c0 anns) xs = Q anns xs
  | [], _, _ => by rw [TP.nil, TQ.nil]
  | x :: xs, anns, hi => by
    rw [TP.cons, TQ.cons, hpq anns x hi, hstep, ← runAnn_append]
    cases hq : q anns x with
    | false => rfl
    | true => rw [threaded_runAnn c0 TP TQ hstep hpq hids xs _ (ids16_append hi (hids anns x hq))]

/-- … and the announcements of an accepted list are 16-bit -/
theorem threaded_ids16 {S : Type} {an : S → List Ann} {q : List Ann → S → Bool} {Q : List Ann → List S → Bool}
    (TQ : Threaded (fun anns x => anns ++ an x) q Q) (hids : ∀ anns x, q anns x = true → Ids16 (an x))
    {xs : List S} {anns : List Ann} (h : Q anns xs = true) : Ids16 (xs.flatMap an) := by
  intro e he
  obtain ⟨x, hx, he⟩ := List.mem_flatMap.mp he
  obtain ⟨k, hk⟩ := List.getElem?_of_mem hx
  exact hids _ x (TQ.index h hk).2 e he

/-! ### one worker, a template protocol: what is published for the messages of a well-formed history

The argument shared by IPFIX and NetFlow v9.  `M` is the type of messages and `enc` their encoding; `dec` and `mar` are the
decoder and the marshaller of the pipeline's codec (`C05.flowCodec`); `wf`, `exp`, `hdr` are the wire specification, of
which `rt` says that a well-formed message decodes to what is expected; `wfH` judges a history, each message against the
cache its predecessors leave. -/
section Protocol
variable {M : Type} {dec : Cache → Bytes → Bytes → Ipfix.Result × Cache}
  {mar : Bytes → Hdr → List (List JField) → Bytes} {ft : Val → Bytes} {enc : M → Bytes} {hdr : M → Hdr}
  {wf : Bytes → Cache → M → Bool} {exp : Bytes → Cache → M → List Record × Cache}
  {wfH : Cache → List (Bytes × M) → Bool}
  (T : Threaded (fun c x => (exp x.1 c x.2).2) (fun c x => wf x.1 c x.2) wfH)
  (rt : ∀ c a m, wf a c m = true → dec c a (enc m) = (.ok (hdr m, (exp a c m).1, []), (exp a c m).2))
include T rt

theorem cacheAfter_wfHistory : ∀ (h : List (Bytes × M)) (ds : List Dgram) (c : Cache), wfH c h = true →
    ds.map (fun d => (d.addr, d.bytes)) = h.map (fun x => (x.1, enc x.2)) →
    cacheAfter (C05.flowCodec dec mar ft) c ds = h.foldl (fun c x => (exp x.1 c x.2).2) c
  | [], [], _, _, _ => rfl
  | [], _ :: _, _, _, he => by simp at he
  | _ :: _, [], _, _, he => by simp at he
  | (a, m) :: h, d :: ds, c, hw, he => by
    rw [T.cons, Bool.and_eq_true] at hw
    simp only [List.map_cons, List.cons.injEq, Prod.mk.injEq] at he
    obtain ⟨⟨ha, hb⟩, hrest⟩ := he
    have hd : ((C05.flowCodec dec mar ft).decode c d.addr d.bytes).2 = (exp a c m).2 := by
      rw [C05.flowCodec_cache, ha, hb, rt c a m hw.1]
    rw [List.foldl_cons, ← cacheAfter_wfHistory h ds _ hw.2 hrest, ← hd]
    rfl

/-- at most one worker, the first datagrams received being the encodings of a well-formed history `h`: what is
published for the `k`-th datagram is the marshalling of `h[k]`'s header and expected records — expected against the cache
the first `k` messages leave, against which `h[k]` is well formed -/
theorem published_of_wfHistory (hc : Canonical spec cfg.prog) {c0 : Cache} {mem0 : BufId → Bytes}
    {s : State (C05.flowCodec dec mar ft)} (hr : Reach cfg (init (C05.flowCodec dec mar ft) c0 mem0) s)
    (h1 : s.workers.length ≤ 1) (h : List (Bytes × M))
    (hrecv : h.map (fun x => (x.1, enc x.2)) <+: (arrivals s.log).map (fun d => (d.addr, d.bytes)))
    (hwf : wfH c0 h = true) {id : Nat} {p : Bytes} (hp : Event.published id p ∈ s.log) :
    ∃ k d, (arrivals s.log)[k]? = some d ∧ d.id = id ∧
      ∀ a m, h[k]? = some (a, m) →
        d.addr = a ∧ d.bytes = enc m ∧
        wf a ((h.take k).foldl (fun c x => (exp x.1 c x.2).2) c0) m = true ∧
        p = mar (ipBytes a) (hdr m) (C05.toJRecs ft (exp a ((h.take k).foldl (fun c x => (exp x.1 c x.2).2) c0) m).1) := by
  obtain ⟨k, d, hk, hid, hout⟩ := published_sequential hc hr h1 hp
  refine ⟨k, d, hk, hid, fun a m hkm => ?_⟩
  obtain ⟨hpre, hm⟩ := T.index hwf hkm
  -- the k-th datagram is the encoding of `m` from `a`, and the first k datagrams are the encodings of the first k messages
  obtain ⟨rest, hrest⟩ := hrecv
  have hlt : k < (h.map fun x => (x.1, enc x.2)).length := by simpa using (List.getElem?_eq_some_iff.mp hkm).1
  have hd : ((arrivals s.log).map fun d => (d.addr, d.bytes))[k]? = some (a, enc m) := by
    rw [← hrest, List.getElem?_append_left hlt, List.getElem?_map, hkm]; rfl
  rw [List.getElem?_map, hk] at hd
  obtain ⟨haddr, hbytes⟩ := Prod.mk.inj (Option.some.inj hd)
  have htake : ((arrivals s.log).take k).map (fun d => (d.addr, d.bytes)) = (h.take k).map fun x => (x.1, enc x.2) := by
    rw [List.map_take, ← hrest, List.take_append_of_le_length (Nat.le_of_lt hlt), ← List.map_take]
  rw [cacheAfter_wfHistory T rt _ _ c0 hpre htake, C05.flowCodec_outcome, haddr, hbytes, rt _ a m hm] at hout
  obtain ⟨_, _, _, he, _, rfl⟩ := hout
  cases he
  exact ⟨haddr, hbytes, hm, rfl⟩

end Protocol

/-! ### one worker, IPFIX: data is decoded with the same exporter's latest template

The premise is stated without any cache: `wfHistoryLatest` judges a history of (exporter, message) pairs in arrival
order against the list of announcements made so far (`histAnns`, wire order) — every data set must have been encoded
with the definition `latest` gives for (this exporter, this id), announcements earlier in the same message included
(falling back on what the initial cache `c0` holds when the exporter has not announced the id in this history; `c0 = []`:
a collector started without a cache file). -/

open Wire.Ipfix in
/-- the announcements of one set, in wire order -/
def setAnns (a : Bytes) : FlowSet → List Ann
  | .tpl ts _ => ts.map (fun t => (a, t.tid, t))
  | .optTpl ts _ => ts.map (fun t => (a, t.tid, t))
  | .data _ _ _ => []

def setsAnns (a : Bytes) (sets : List Wire.Ipfix.FlowSet) : List Ann := sets.flatMap (setAnns a)

/-- the announcements of a history of (exporter, message) pairs, oldest first -/
def histAnns (h : List (Bytes × Wire.Ipfix.Msg)) : List Ann := h.flatMap (fun x => setsAnns x.1 x.2.sets)

open Wire.Ipfix in
/-- `Wire.Ipfix.wfSet` without its only reference to a cache (RFC 7011 shape of the set) -/
def wfSetShape : FlowSet → Bool
  | .tpl ts pad => !ts.isEmpty && ts.all wfTemplate && (wfTplPad pad && wfSetLen (ts.map encodeTemplate).flatten pad)
  | .optTpl ts pad => !ts.isEmpty && ts.all wfOptTemplate && (wfTplPad pad && wfSetLen (ts.map encodeOptTemplate).flatten pad)
  | .data t records pad =>
    decide (255 < t.tid) && decide (t.tid < 65536) &&
    !records.isEmpty && records.all (wfRecord t) &&
    (wfDataPad t pad && wfSetLen (records.map (encodeRecord t)).flatten pad)

/-- a data set is encoded with the latest definition its exporter announced under its id -/
def usesLatest (c0 : Cache) (anns : List Ann) (a : Bytes) : Wire.Ipfix.FlowSet → Bool
  | .data t _ _ => latestOr c0 anns a t.tid == some t
  | _ => true

def wfSetsLatest (c0 : Cache) (a : Bytes) : List Ann → List Wire.Ipfix.FlowSet → Bool
  | _, [] => true
  | anns, fs :: rest => wfSetShape fs && usesLatest c0 anns a fs && wfSetsLatest c0 a (anns ++ setAnns a fs) rest

def wfMsgLatest (c0 : Cache) (a : Bytes) (anns : List Ann) (m : Wire.Ipfix.Msg) : Bool :=
  decide (Wire.Ipfix.msgLen m < 65536) && decide (m.exportTime < 4294967296) &&
  decide (m.seq < 4294967296) && decide (m.domain < 4294967296) && wfSetsLatest c0 a anns m.sets

/-- **the cache-free premise**: every message has the RFC 7011 shape and every data set is encoded with the latest
definition announced before it, in arrival order, by the same exporter under the same id (`anns`: the announcements
made before the history starts) -/
def wfHistoryLatest (c0 : Cache) : List Ann → List (Bytes × Wire.Ipfix.Msg) → Bool
  | _, [] => true
  | anns, (a, m) :: h => wfMsgLatest c0 a anns m && wfHistoryLatest c0 (anns ++ setsAnns a m.sets) h

/-- the records of the data sets of a message, each read with the template the set was encoded with, in wire order -/
def dataRecs (m : Wire.Ipfix.Msg) : List Record :=
  m.sets.flatMap (fun
    | .data t records _ => records.map (Wire.Ipfix.expectedRecord t)
    | _ => [])

/-- the function `dataRecs` maps over the sets of a message, under a name (`dataRecs m = m.sets.flatMap setRecs` by `rfl`),
so that `applySet_eq` can speak of one set -/
def setRecs : Wire.Ipfix.FlowSet → List Record
  | .data t records _ => records.map (Wire.Ipfix.expectedRecord t)
  | _ => []

theorem applySet_eq (a : Bytes) (acc : List Record × Cache) (fs : Wire.Ipfix.FlowSet) :
    Wire.Ipfix.applySet a acc fs = (acc.1 ++ setRecs fs, runAnn acc.2 (setAnns a fs)) := by
  cases fs <;> simp [Wire.Ipfix.applySet, setRecs, setAnns, insertAll_eq_runAnn, runAnn]

/-- what the specification `Wire.Ipfix.expected` says, in terms of announcements: the records are those of the data
sets, the cache is the cache after the message's announcements -/
theorem expected_eq (a : Bytes) (c : Cache) (m : Wire.Ipfix.Msg) :
    Wire.Ipfix.expected a c m = (dataRecs m, runAnn c (setsAnns a m.sets)) := by
  rw [Wire.Ipfix.expected, foldl_applySet (applySet_eq a)]; rfl

theorem ids16_setAnns (a : Bytes) (fs : Wire.Ipfix.FlowSet) (h : wfSetShape fs = true) : Ids16 (setAnns a fs) := by
  cases fs with
  | data t records pad => exact ids16_nil
  | tpl ts pad | optTpl ts pad =>
    refine ids16_templates a fun t ht => ?_
    simp only [wfSetShape, Bool.and_eq_true, List.all_eq_true] at h
    have := h.1.2 t ht
    simp only [Wire.Ipfix.wfTemplate, Wire.Ipfix.wfOptTemplate, Bool.and_eq_true, decide_eq_true_eq] at this
    omega

/-- one set: judged against the concrete cache after the announcements `anns` = RFC shape ∧ encoded with the latest
definition (`refinement`) -/
theorem wfSet_eq (c0 : Cache) (a : Bytes) (anns : List Ann) (hi : Ids16 anns) (fs : Wire.Ipfix.FlowSet) :
    Wire.Ipfix.wfSet a (runAnn c0 anns) fs = (wfSetShape fs && usesLatest c0 anns a fs) := by
  cases fs with
  | tpl ts pad | optTpl ts pad => simp [Wire.Ipfix.wfSet, wfSetShape, usesLatest]
  | data t records pad =>
    simp only [Wire.Ipfix.wfSet, wfSetShape, usesLatest]
    by_cases hid : t.tid < 65536
    · -- the lookup is `latestOr`; the two sides are the same conjuncts in another order
      rw [lookup_runAnn hi hid]; ac_rfl
    · simp [hid]

theorem wfSets_threaded (a : Bytes) :
    Threaded (fun c fs => (Wire.Ipfix.applySet a ([], c) fs).2) (Wire.Ipfix.wfSet a) (Wire.Ipfix.wfSets a) :=
  ⟨fun _ => rfl, fun _ _ _ => rfl⟩

theorem wfSetsLatest_threaded (c0 : Cache) (a : Bytes) :
    Threaded (fun anns fs => anns ++ setAnns a fs) (fun anns fs => wfSetShape fs && usesLatest c0 anns a fs)
      (wfSetsLatest c0 a) :=
  ⟨fun _ => rfl, fun _ _ _ => rfl⟩

theorem ipfixWfHistory_threaded :
    Threaded (fun c x => (Wire.Ipfix.expected x.1 c x.2).2) (fun c x => Wire.Ipfix.wfMsg x.1 c x.2) ipfixWfHistory :=
  ⟨fun _ => rfl, fun _ ⟨_, _⟩ _ => rfl⟩

theorem wfHistoryLatest_threaded (c0 : Cache) :
    Threaded (fun anns x => anns ++ setsAnns x.1 x.2.sets) (fun anns x => wfMsgLatest c0 x.1 anns x.2)
      (wfHistoryLatest c0) :=
  ⟨fun _ => rfl, fun _ ⟨_, _⟩ _ => rfl⟩

theorem wfMsg_eq (c0 : Cache) (a : Bytes) (anns : List Ann) (hi : Ids16 anns) (m : Wire.Ipfix.Msg) :
    Wire.Ipfix.wfMsg a (runAnn c0 anns) m = wfMsgLatest c0 a anns m := by
  rw [Wire.Ipfix.wfMsg, wfMsgLatest, threaded_runAnn c0 (wfSets_threaded a) (wfSetsLatest_threaded c0 a)
    (fun _ _ => by rw [applySet_eq]) (fun anns fs hi => wfSet_eq c0 a anns hi fs)
    (fun _ fs hq => ids16_setAnns a fs (Bool.and_eq_true_iff.mp hq).1) m.sets anns hi]

theorem ids16_setsAnns {c0 : Cache} {a : Bytes} {anns : List Ann} {m : Wire.Ipfix.Msg}
    (h : wfMsgLatest c0 a anns m = true) : Ids16 (setsAnns a m.sets) := by
  rw [wfMsgLatest, Bool.and_eq_true] at h
  exact threaded_ids16 (wfSetsLatest_threaded c0 a)
    (fun _ fs hq => ids16_setAnns a fs (Bool.and_eq_true_iff.mp hq).1) h.2

/-- **the two premises are one** (`refinement` lifted to histories of whole messages): judged against the concrete
cache as the sequential decoder leaves it (`ipfixWfHistory`, the premise of `ipfix_history_roundtrip`) = RFC shape ∧
every data set encoded with the latest definition its exporter announced (`wfHistoryLatest`, no cache) -/
theorem wfHistory_eq_latest (c0 : Cache) (h : List (Bytes × Wire.Ipfix.Msg)) : ∀ (anns : List Ann), Ids16 anns →
    ipfixWfHistory (runAnn c0 anns) h = wfHistoryLatest c0 anns h :=
  threaded_runAnn c0 ipfixWfHistory_threaded (wfHistoryLatest_threaded c0) (fun _ _ => by rw [expected_eq])
    (fun anns x hi => wfMsg_eq c0 x.1 anns hi x.2) (fun _ _ hq => ids16_setsAnns hq) h

theorem ipfixExpectedRun_cache (h : List (Bytes × Wire.Ipfix.Msg)) : ∀ c : Cache,
    (ipfixExpectedRun c h).2 = runAnn c (histAnns h) := by
  induction h with
  | nil => intro c; rfl
  | cons x xs ih =>
    intro c
    obtain ⟨a, m⟩ := x
    simp only [ipfixExpectedRun, ih, expected_eq]
    simp [histAnns, runAnn_append]

open Vflow.Spec Vflow.JsonTree Vflow.JsonLex in
/-- **C04 at the collector with one worker (IPFIX)**: the pipeline's codec is the IPFIX decoder / marshal model
(`C05.ipfixCodec`), the worker program any `Canonical` one (`Gen.ipfixWorker`: `C12.ipfixWorker_canonical`), the initial
cache `c0` arbitrary, and at most one worker is ever started (`one_worker_in_order`).  Let the first datagrams received
(`arrivals`, in arrival order; any number of exporters, interleaved in any way) be the RFC 7011 encodings of a history `h`
in which every data set is encoded with the LATEST definition announced before it, in arrival order, by the same exporter
under the same template id (`wfHistoryLatest c0 [] h`: no cache in the premise; whatever is received after `h` is
arbitrary).  Then for EVERY schedule, whatever is published for the k-th datagram, `h[k] = (a, m)`, is the rendering of
the tree of `m`'s header and of exactly the records of `m`'s data sets, each read with the template `t` its set was
encoded with (`dataRecs`), in wire order — and that `t` is the latest definition exporter `a` announced under `t.tid`
before that set (in the `k` earlier datagrams or earlier in `m`), or what the initial cache held if it announced none.

Chain: `published_of_wfHistory` (`one_worker_published_sequential`: the worker decodes the k-th datagram against the
sequentially threaded cache; on the encodings of a well-formed history that cache is the expected one, message by message
by `C03.message_roundtrip`) ∘ `wfHistory_eq_latest` (= `refinement`: the concrete cache returns the latest announcement) ∘
`C05.ipfix_marshal_eq_render` (the marshal model).
With two workers the conclusion fails for the very history of `k5_two_workers_counterexample_ipfix`
(`k5_history_wf`). -/
theorem one_worker_latest_template (ft : Val → Bytes) (hc : Canonical spec cfg.prog) {c0 : Cache}
    {mem0 : BufId → Bytes} {s : State (C05.ipfixCodec ft)}
    (hr : Reach cfg (init (C05.ipfixCodec ft) c0 mem0) s) (h1 : s.workers.length ≤ 1)
    (h : List (Bytes × Wire.Ipfix.Msg))
    (hrecv : h.map (fun x => (x.1, Wire.Ipfix.encodeMsg x.2)) <+: (arrivals s.log).map (fun d => (d.addr, d.bytes)))
    (hwf : wfHistoryLatest c0 [] h = true)
    (id : Nat) (p : Bytes) (hp : Event.published id p ∈ s.log) :
    ∃ k d, (arrivals s.log)[k]? = some d ∧ d.id = id ∧
      ∀ a m, h[k]? = some (a, m) →
        d.addr = a ∧ d.bytes = Wire.Ipfix.encodeMsg m ∧
        p = render (JsonTree.ipfixTree a (Wire.Ipfix.expectedHdr m) (C05.toJRecs ft (dataRecs m))) ∧
        ∀ j t records pad, m.sets[j]? = some (.data t records pad) →
          latestOr c0 (histAnns (h.take k) ++ setsAnns a (m.sets.take j)) a t.tid = some t := by
  have hwf' : ipfixWfHistory c0 h = true := (wfHistory_eq_latest c0 h [] ids16_nil).trans hwf
  obtain ⟨k, d, hk, hid, hall⟩ :=
    published_of_wfHistory ipfixWfHistory_threaded C03.message_roundtrip hc hr h1 h hrecv hwf' hp
  refine ⟨k, d, hk, hid, fun a m hkm => ?_⟩
  obtain ⟨haddr, hbytes, _, rfl⟩ := hall a m hkm
  refine ⟨haddr, hbytes, by rw [expected_eq, C05.ipfix_marshal_eq_render], fun j t records pad hj => ?_⟩
  -- the premise, at the k-th message and then at its j-th set
  have hm := ((wfHistoryLatest_threaded c0).index hwf hkm).2
  rw [foldl_append_flatMap, List.nil_append, wfMsgLatest, Bool.and_eq_true] at hm
  have hs := ((wfSetsLatest_threaded c0 a).index hm.2 hj).2
  rw [foldl_append_flatMap, Bool.and_eq_true] at hs
  exact beq_iff_eq.mp hs.2

/-- … with the worker loop the current source has, a collector started with an empty cache, and the whole arrival
sequence well formed: `latest` itself -/
theorem one_worker_latest_template_current_source (ft : Val → Bytes) (hprog : cfg.prog = Gen.ipfixWorker)
    {mem0 : BufId → Bytes} {s : State (C05.ipfixCodec ft)}
    (hr : Reach cfg (init (C05.ipfixCodec ft) [] mem0) s) (h1 : s.workers.length ≤ 1)
    (h : List (Bytes × Wire.Ipfix.Msg))
    (hrecv : (arrivals s.log).map (fun d => (d.addr, d.bytes)) = h.map (fun x => (x.1, Wire.Ipfix.encodeMsg x.2)))
    (hwf : wfHistoryLatest [] [] h = true)
    (id : Nat) (p : Bytes) (hp : Event.published id p ∈ s.log) :
    ∃ k d a m, (arrivals s.log)[k]? = some d ∧ d.id = id ∧ h[k]? = some (a, m) ∧
      p = Spec.render (JsonTree.ipfixTree a (Wire.Ipfix.expectedHdr m) (C05.toJRecs ft (dataRecs m))) ∧
      ∀ j t records pad, m.sets[j]? = some (.data t records pad) →
        latest (histAnns (h.take k) ++ setsAnns a (m.sets.take j)) a t.tid = some t := by
  have hc : Canonical .onMsg cfg.prog := by rw [hprog]; exact ipfixWorker_canonical
  obtain ⟨k, d, hk, hid, hall⟩ :=
    one_worker_latest_template ft hc hr h1 h (by rw [hrecv]; exact List.prefix_refl _) hwf id p hp
  obtain ⟨⟨a, m⟩, hkm⟩ := exists_getElem?_of_map_eq hrecv hk
  obtain ⟨_, _, hp', hl⟩ := hall a m hkm
  exact ⟨k, d, a, m, hk, hid, hkm, hp', fun j t records pad hj =>
    (latestOr_nil ..).symm.trans (hl j t records pad hj)⟩

/-- the history of the K5 witness satisfies the premise of `one_worker_latest_template` (the data set is encoded with
definition B, the exporter's latest) — with two workers its conclusion fails (`k5_two_workers_counterexample_ipfix`:
published as element 8) — and the same data set encoded with the superseded definition A does not -/
theorem k5_history_wf :
    wfHistoryLatest [] [] [([192, 0, 2, 1], k5MsgA), ([192, 0, 2, 1], k5MsgB), ([192, 0, 2, 1], k5MsgD)] = true ∧
    dataRecs k5MsgD = [[⟨12, 0, .ip [10, 0, 0, 9]⟩]] ∧
    wfHistoryLatest [] [] [([192, 0, 2, 1], k5MsgA), ([192, 0, 2, 1], k5MsgB),
      ([192, 0, 2, 1], ⟨1002, 0, 1, [.data k5TplA [[⟨[10, 0, 0, 9], false⟩]] []]⟩)] = false := by
  decide +kernel

/-! ### one worker, NetFlow v9: the same for the v9 instance of the pipeline's codec (`C05.v9Codec`)

The twins of the IPFIX definitions over `Wire.V9.Msg` carry the suffix `V9`; `Ann`, `latest`, `latestOr`, `runAnn`,
`refinement` are shared (one `Cache` serves both decoder models). -/

open Wire.V9 in
/-- the announcements of one flowset, in wire order -/
def setAnnsV9 (a : Bytes) : FlowSet → List Ann
  | .tpl ts _ => ts.map (fun t => (a, t.tid, t))
  | .optTpl ts _ => ts.map (fun t => (a, t.tid, t))
  | .data _ _ _ => []

def setsAnnsV9 (a : Bytes) (sets : List Wire.V9.FlowSet) : List Ann := sets.flatMap (setAnnsV9 a)

/-- the announcements of a history of (exporter, export packet) pairs, oldest first -/
def histAnnsV9 (h : List (Bytes × Wire.V9.Msg)) : List Ann := h.flatMap (fun x => setsAnnsV9 x.1 x.2.sets)

open Wire.V9 in
/-- `Wire.V9.wfSet` without its only reference to a cache (RFC 3954 shape of the flowset) -/
def wfSetShapeV9 : FlowSet → Bool
  | .tpl ts pad => !ts.isEmpty && ts.all wfTemplate && (wfTplPad pad && wfSetLen (ts.map encodeTemplate).flatten pad)
  | .optTpl ts pad => !ts.isEmpty && ts.all wfOptTemplate && (wfTplPad pad && wfSetLen (ts.map encodeOptTemplate).flatten pad)
  | .data t records pad =>
    decide (255 < t.tid) && decide (t.tid < 65536) &&
    decide (0 < recLen t) && !records.isEmpty && records.all (wfRecord t) &&
    (wfDataPad t pad && wfSetLen (records.map (encodeRecord t)).flatten pad)

/-- a data flowset is encoded with the latest definition its exporter announced under its id -/
def usesLatestV9 (c0 : Cache) (anns : List Ann) (a : Bytes) : Wire.V9.FlowSet → Bool
  | .data t _ _ => latestOr c0 anns a t.tid == some t
  | _ => true

def wfSetsLatestV9 (c0 : Cache) (a : Bytes) : List Ann → List Wire.V9.FlowSet → Bool
  | _, [] => true
  | anns, fs :: rest => wfSetShapeV9 fs && usesLatestV9 c0 anns a fs && wfSetsLatestV9 c0 a (anns ++ setAnnsV9 a fs) rest

def wfMsgLatestV9 (c0 : Cache) (a : Bytes) (anns : List Ann) (m : Wire.V9.Msg) : Bool :=
  decide (m.count < 65536) && decide (m.upTime < 4294967296) && decide (m.secs < 4294967296) &&
  decide (m.seq < 4294967296) && decide (m.srcId < 4294967296) && wfSetsLatestV9 c0 a anns m.sets

/-- **the cache-free premise, NetFlow v9**: every export packet has the RFC 3954 shape and every data flowset is encoded
with the latest definition announced before it, in arrival order, by the same exporter under the same id (`anns`: the
announcements made before the history starts) -/
def wfHistoryLatestV9 (c0 : Cache) : List Ann → List (Bytes × Wire.V9.Msg) → Bool
  | _, [] => true
  | anns, (a, m) :: h => wfMsgLatestV9 c0 a anns m && wfHistoryLatestV9 c0 (anns ++ setsAnnsV9 a m.sets) h

/-- the records of the data flowsets of an export packet, each read with the template the flowset was encoded with, in
wire order -/
def dataRecsV9 (m : Wire.V9.Msg) : List Record :=
  m.sets.flatMap (fun
    | .data t records _ => records.map (Wire.expectedRecord t)
    | _ => [])

/-- `dataRecsV9 m = m.sets.flatMap setRecsV9` -/
def setRecsV9 : Wire.V9.FlowSet → List Record
  | .data t records _ => records.map (Wire.expectedRecord t)
  | _ => []

theorem applySetV9_eq (a : Bytes) (acc : List Record × Cache) (fs : Wire.V9.FlowSet) :
    Wire.V9.applySet a acc fs = (acc.1 ++ setRecsV9 fs, runAnn acc.2 (setAnnsV9 a fs)) := by
  cases fs <;> simp [Wire.V9.applySet, setRecsV9, setAnnsV9, insertAll_eq_runAnn, runAnn]

theorem expectedV9_eq (a : Bytes) (c : Cache) (m : Wire.V9.Msg) :
    Wire.V9.expected a c m = (dataRecsV9 m, runAnn c (setsAnnsV9 a m.sets)) := by
  rw [Wire.V9.expected, foldl_applySet (applySetV9_eq a)]; rfl

theorem ids16_setAnnsV9 (a : Bytes) (fs : Wire.V9.FlowSet) (h : wfSetShapeV9 fs = true) : Ids16 (setAnnsV9 a fs) := by
  cases fs with
  | data t records pad => exact ids16_nil
  | tpl ts pad | optTpl ts pad =>
    refine ids16_templates a fun t ht => ?_
    simp only [wfSetShapeV9, Bool.and_eq_true, List.all_eq_true] at h
    have := h.1.2 t ht
    simp only [Wire.V9.wfTemplate, Wire.V9.wfOptTemplate, Bool.and_eq_true, decide_eq_true_eq] at this
    omega

theorem wfSetV9_eq (c0 : Cache) (a : Bytes) (anns : List Ann) (hi : Ids16 anns) (fs : Wire.V9.FlowSet) :
    Wire.V9.wfSet a (runAnn c0 anns) fs = (wfSetShapeV9 fs && usesLatestV9 c0 anns a fs) := by
  cases fs with
  | tpl ts pad | optTpl ts pad => simp [Wire.V9.wfSet, wfSetShapeV9, usesLatestV9]
  | data t records pad =>
    simp only [Wire.V9.wfSet, wfSetShapeV9, usesLatestV9]
    by_cases hid : t.tid < 65536
    · rw [lookup_runAnn hi hid]; ac_rfl
    · simp [hid]

theorem wfSetsV9_threaded (a : Bytes) :
    Threaded (fun c fs => (Wire.V9.applySet a ([], c) fs).2) (Wire.V9.wfSet a) (Wire.V9.wfSets a) :=
  ⟨fun _ => rfl, fun _ _ _ => rfl⟩

theorem wfSetsLatestV9_threaded (c0 : Cache) (a : Bytes) :
    Threaded (fun anns fs => anns ++ setAnnsV9 a fs) (fun anns fs => wfSetShapeV9 fs && usesLatestV9 c0 anns a fs)
      (wfSetsLatestV9 c0 a) :=
  ⟨fun _ => rfl, fun _ _ _ => rfl⟩

theorem v9WfHistory_threaded :
    Threaded (fun c x => (Wire.V9.expected x.1 c x.2).2) (fun c x => Wire.V9.wfMsg x.1 c x.2) v9WfHistory :=
  ⟨fun _ => rfl, fun _ ⟨_, _⟩ _ => rfl⟩

theorem wfHistoryLatestV9_threaded (c0 : Cache) :
    Threaded (fun anns x => anns ++ setsAnnsV9 x.1 x.2.sets) (fun anns x => wfMsgLatestV9 c0 x.1 anns x.2)
      (wfHistoryLatestV9 c0) :=
  ⟨fun _ => rfl, fun _ ⟨_, _⟩ _ => rfl⟩

theorem wfMsgV9_eq (c0 : Cache) (a : Bytes) (anns : List Ann) (hi : Ids16 anns) (m : Wire.V9.Msg) :
    Wire.V9.wfMsg a (runAnn c0 anns) m = wfMsgLatestV9 c0 a anns m := by
  rw [Wire.V9.wfMsg, wfMsgLatestV9, threaded_runAnn c0 (wfSetsV9_threaded a) (wfSetsLatestV9_threaded c0 a)
    (fun _ _ => by rw [applySetV9_eq]) (fun anns fs hi => wfSetV9_eq c0 a anns hi fs)
    (fun _ fs hq => ids16_setAnnsV9 a fs (Bool.and_eq_true_iff.mp hq).1) m.sets anns hi]

theorem ids16_setsAnnsV9 {c0 : Cache} {a : Bytes} {anns : List Ann} {m : Wire.V9.Msg}
    (h : wfMsgLatestV9 c0 a anns m = true) : Ids16 (setsAnnsV9 a m.sets) := by
  rw [wfMsgLatestV9, Bool.and_eq_true] at h
  exact threaded_ids16 (wfSetsLatestV9_threaded c0 a)
    (fun _ fs hq => ids16_setAnnsV9 a fs (Bool.and_eq_true_iff.mp hq).1) h.2

/-- **the two premises are one, NetFlow v9** (`refinement` lifted to histories of whole export packets): judged against
the concrete cache as the sequential decoder leaves it (`v9WfHistory`, the premise of `v9_history_roundtrip`) = RFC shape ∧
every data flowset encoded with the latest definition its exporter announced (`wfHistoryLatestV9`, no cache) -/
theorem wfHistoryV9_eq_latest (c0 : Cache) (h : List (Bytes × Wire.V9.Msg)) : ∀ (anns : List Ann), Ids16 anns →
    v9WfHistory (runAnn c0 anns) h = wfHistoryLatestV9 c0 anns h :=
  threaded_runAnn c0 v9WfHistory_threaded (wfHistoryLatestV9_threaded c0) (fun _ _ => by rw [expectedV9_eq])
    (fun anns x hi => wfMsgV9_eq c0 x.1 anns hi x.2) (fun _ _ hq => ids16_setsAnnsV9 hq) h

theorem v9ExpectedRun_cache (h : List (Bytes × Wire.V9.Msg)) : ∀ c : Cache,
    (v9ExpectedRun c h).2 = runAnn c (histAnnsV9 h) := by
  induction h with
  | nil => intro c; rfl
  | cons x xs ih =>
    intro c
    obtain ⟨a, m⟩ := x
    simp only [v9ExpectedRun, ih, expectedV9_eq]
    simp [histAnnsV9, runAnn_append]

open Vflow.Spec Vflow.JsonTree Vflow.JsonLex in
/-- **C04 at the collector with one worker (NetFlow v9)**: the pipeline's codec is the NetFlow v9 decoder / marshal model
(`C05.v9Codec`), the worker program any `Canonical` one (`Gen.netflowV9Worker`: `C12.netflowV9Worker_canonical`), the
initial cache `c0` arbitrary, and at most one worker is ever started (`one_worker_in_order`).  Let the first datagrams
received (`arrivals`, in arrival order; any number of exporters, interleaved in any way) be the RFC 3954 encodings of a
history `h` in which every data flowset is encoded with the LATEST definition announced before it, in arrival order, by
the same exporter under the same template id (`wfHistoryLatestV9 c0 [] h`: no cache in the premise; whatever is received
after `h` is arbitrary).  Then for EVERY schedule, whatever is published for the k-th datagram, `h[k] = (a, m)`, is the
rendering of the tree of `m`'s header and of exactly the records of `m`'s data flowsets, each read with the template `t`
its flowset was encoded with (`dataRecsV9`), in wire order — and that `t` is the latest definition exporter `a` announced
under `t.tid` before that flowset (in the `k` earlier datagrams or earlier in `m`), or what the initial cache held if it
announced none.

Chain: `published_of_wfHistory` (with `C06.packet_roundtrip`) ∘ `wfHistoryV9_eq_latest` (= `refinement`) ∘
`C05.v9_marshal_eq_render`. -/
theorem one_worker_latest_template_v9 (ft : Val → Bytes) (hc : Canonical spec cfg.prog) {c0 : Cache}
    {mem0 : BufId → Bytes} {s : State (C05.v9Codec ft)}
    (hr : Reach cfg (init (C05.v9Codec ft) c0 mem0) s) (h1 : s.workers.length ≤ 1)
    (h : List (Bytes × Wire.V9.Msg))
    (hrecv : h.map (fun x => (x.1, Wire.V9.encodeMsg x.2)) <+: (arrivals s.log).map (fun d => (d.addr, d.bytes)))
    (hwf : wfHistoryLatestV9 c0 [] h = true)
    (id : Nat) (p : Bytes) (hp : Event.published id p ∈ s.log) :
    ∃ k d, (arrivals s.log)[k]? = some d ∧ d.id = id ∧
      ∀ a m, h[k]? = some (a, m) →
        d.addr = a ∧ d.bytes = Wire.V9.encodeMsg m ∧
        p = render (JsonTree.v9Tree a (Wire.V9.expectedHdr m) (C05.toJRecs ft (dataRecsV9 m))) ∧
        ∀ j t records pad, m.sets[j]? = some (.data t records pad) →
          latestOr c0 (histAnnsV9 (h.take k) ++ setsAnnsV9 a (m.sets.take j)) a t.tid = some t := by
  have hwf' : v9WfHistory c0 h = true := (wfHistoryV9_eq_latest c0 h [] ids16_nil).trans hwf
  obtain ⟨k, d, hk, hid, hall⟩ :=
    published_of_wfHistory v9WfHistory_threaded C06.packet_roundtrip hc hr h1 h hrecv hwf' hp
  refine ⟨k, d, hk, hid, fun a m hkm => ?_⟩
  obtain ⟨haddr, hbytes, _, rfl⟩ := hall a m hkm
  refine ⟨haddr, hbytes, by rw [expectedV9_eq, C05.v9_marshal_eq_render], fun j t records pad hj => ?_⟩
  have hm := ((wfHistoryLatestV9_threaded c0).index hwf hkm).2
  rw [foldl_append_flatMap, List.nil_append, wfMsgLatestV9, Bool.and_eq_true] at hm
  have hs := ((wfSetsLatestV9_threaded c0 a).index hm.2 hj).2
  rw [foldl_append_flatMap, Bool.and_eq_true] at hs
  exact beq_iff_eq.mp hs.2

/-- … with the worker loop the current source has (`netflowV9Worker` of vflow/netflow_v9.go), a collector started with
an empty cache, and the whole arrival sequence well formed: `latest` itself -/
theorem one_worker_latest_template_v9_current_source (ft : Val → Bytes) (hprog : cfg.prog = Gen.netflowV9Worker)
    {mem0 : BufId → Bytes} {s : State (C05.v9Codec ft)}
    (hr : Reach cfg (init (C05.v9Codec ft) [] mem0) s) (h1 : s.workers.length ≤ 1)
    (h : List (Bytes × Wire.V9.Msg))
    (hrecv : (arrivals s.log).map (fun d => (d.addr, d.bytes)) = h.map (fun x => (x.1, Wire.V9.encodeMsg x.2)))
    (hwf : wfHistoryLatestV9 [] [] h = true)
    (id : Nat) (p : Bytes) (hp : Event.published id p ∈ s.log) :
    ∃ k d a m, (arrivals s.log)[k]? = some d ∧ d.id = id ∧ h[k]? = some (a, m) ∧
      p = Spec.render (JsonTree.v9Tree a (Wire.V9.expectedHdr m) (C05.toJRecs ft (dataRecsV9 m))) ∧
      ∀ j t records pad, m.sets[j]? = some (.data t records pad) →
        latest (histAnnsV9 (h.take k) ++ setsAnnsV9 a (m.sets.take j)) a t.tid = some t := by
  have hc : Canonical .onMsg cfg.prog := by rw [hprog]; exact netflowV9Worker_canonical
  obtain ⟨k, d, hk, hid, hall⟩ :=
    one_worker_latest_template_v9 ft hc hr h1 h (by rw [hrecv]; exact List.prefix_refl _) hwf id p hp
  obtain ⟨⟨a, m⟩, hkm⟩ := exists_getElem?_of_map_eq hrecv hk
  obtain ⟨_, _, hp', hl⟩ := hall a m hkm
  exact ⟨k, d, a, m, hk, hid, hkm, hp', fun j t records pad hj =>
    (latestOr_nil ..).symm.trans (hl j t records pad hj)⟩

/-- the three export packets of one v9 exporter: announce template 256 := definition A (`k5TplA`, IPV4_SRC_ADDR);
re-announce template 256 := definition B (`k5TplB`, IPV4_DST_ADDR); one data record, encoded with B (its latest) -/
def k5V9MsgA : Wire.V9.Msg := ⟨1, 1000, 1000, 0, 1, [.tpl [k5TplA] []]⟩
def k5V9MsgB : Wire.V9.Msg := ⟨1, 1001, 1001, 1, 1, [.tpl [k5TplB] []]⟩
def k5V9MsgD : Wire.V9.Msg := ⟨1, 1002, 1002, 2, 1, [.data k5TplB [[[10, 0, 0, 9]]] []]⟩

/-- non-vacuity of `one_worker_latest_template_v9`: the history announce A / re-announce B / data satisfies its premise
(and does not when the data flowset is encoded with the superseded definition A); with ONE worker running the worker
loop of the current source (`Gen.netflowV9Worker`, `oneWorkerSchedule`) the three RFC 3954 encodings are decoded in the
order 0, 1, 2 and the value is published as element 12 (the latest definition, B) -/
example :
    wfHistoryLatestV9 [] [] [([192, 0, 2, 1], k5V9MsgA), ([192, 0, 2, 1], k5V9MsgB), ([192, 0, 2, 1], k5V9MsgD)] = true ∧
    dataRecsV9 k5V9MsgD = [[⟨12, 0, .ip [10, 0, 0, 9]⟩]] ∧
    wfHistoryLatestV9 [] [] [([192, 0, 2, 1], k5V9MsgA), ([192, 0, 2, 1], k5V9MsgB),
      ([192, 0, 2, 1], ⟨1, 1002, 1002, 2, 1, [.data k5TplA [[[10, 0, 0, 9]]] []]⟩)] = false ∧
    (let s := run (K := C05.v9Codec k5Ft) { prog := Gen.netflowV9Worker } (init (C05.v9Codec k5Ft) [] (fun _ => []))
      (oneWorkerSchedule [192, 0, 2, 1] (Wire.V9.encodeMsg k5V9MsgA) (Wire.V9.encodeMsg k5V9MsgB) (Wire.V9.encodeMsg k5V9MsgD))
     s.workers.length = 1 ∧
     s.log.reverse.filterMap evTag = [(0, 0), (0, 1), (0, 2), (1, 0), (1, 1), (1, 2)] ∧
     s.delivered = [(2, str ("{\"AgentID\":\"192.0.2.1\",\"Header\":{\"Version\":9,\"Count\":1,\"SysUpTime\":1002," ++
       "\"UNIXSecs\":1002,\"SeqNum\":2,\"SrcID\":1},\"DataSets\":[[{\"I\":12,\"V\":\"10.0.0.9\"}]]}"))]) := by
  rw [str_eq]; decide +kernel

end Collector

end Vflow.C04
