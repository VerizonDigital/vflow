import Vflow.Model.Options
import Vflow.Proofs.OptionsCfg
import Vflow.Proofs.OptionsCli
import Vflow.Gen.OptionsTbl
/-!
# C17 — configuration sources are applied in the documented order

`run tbl stages inp` interprets the statement order of `flagSet` (data, regenerated from the source)
over the raw inputs of a process.  The theorems hold for **every** option table `tbl`, every environment,
every file system content, every `os.Args`.
-/
namespace Vflow.C17
open Vflow Vflow.Options

/-- every flag of the table is registered with the field's current value as its default -/
def RegistersCurrent (tbl : List Row) : Prop := ∀ r ∈ tbl, r.fdef = .current ∨ r.fdef = .noflag

instance (tbl : List Row) : Decidable (RegistersCurrent tbl) := by unfold RegistersCurrent; infer_instance

/-- registering flags whose default is the current value changes no value -/
theorem register_current (tbl : List Row) (cur : Settings) (h : RegistersCurrent tbl) :
    apply cur (registerSource tbl cur) = cur := by
  funext f
  simp only [apply, registerSource]
  cases hr : rowOf tbl f with
  | none => simp
  | some r =>
    rcases h r (List.mem_of_find?_eq_some hr) with h' | h' <;> simp [h']

/-- when the canonical stage list runs to completion, its result is the three sources applied in order, and
`flag.Parse` left no positional argument -/
theorem run_canonical (tbl : List Row) (inp : Inputs) (s : Settings) (hc : RegistersCurrent tbl)
    (h : run tbl canonicalStages inp = .ok s) :
    envFatal tbl inp.env = false ∧
    ∃ file l, cfgSource tbl inp = some file ∧
      parseArgs (configReg :: regsOf tbl) (inp.args.length + 1) inp.args = .ok l ∧
      strayArgs (configReg :: regsOf tbl) (inp.args.length + 1) inp.args = [] ∧
      s = apply (apply (apply (defaults tbl) (envSource tbl inp.env)) file) (lastOf l) := by
  simp only [run, canonicalStages, runFrom, step, Outcome.bind, List.nil_append] at h
  cases hf : envFatal tbl inp.env with
  | true => simp [hf] at h
  | false =>
    simp only [hf, Bool.false_eq_true, ↓reduceIte] at h
    cases hcfg : cfgSource tbl inp with
    | none => simp [hcfg] at h
    | some file =>
      simp only [hcfg] at h
      rw [register_current tbl _ hc] at h
      simp only [List.singleton_append] at h
      cases hp : parseArgs (configReg :: regsOf tbl) (inp.args.length + 1) inp.args with
      | ok l =>
        simp only [hp] at h
        cases hst : strayArgs (configReg :: regsOf tbl) (inp.args.length + 1) inp.args with
        | nil =>
          simp only [hst, List.isEmpty_nil, ↓reduceIte] at h
          refine ⟨rfl, file, l, rfl, rfl, rfl, ?_⟩
          injection h with h
          exact h.symm
        | cons a r => simp [hst] at h
      | exit c => simp [hp] at h
      | panic => simp [hp] at h

/-- three sources applied in the order environment, file, command line give the documented rule -/
theorem apply_three (d : Settings) (env file flags : Source) (f : String) :
    apply (apply (apply d env) file) flags f = resolve d env file flags f := by
  simp only [apply, resolve]
  cases flags f <;> cases file f <;> cases env f <;> rfl

/-- **C17 (precedence)**: for every option table whose flags are registered with the current value,
every environment, every file content and every command line: if option loading reaches the end of
`flagSet` (no `log.Fatal`, no flag error, `-config` / `--config` not the last word), every setting has the
value given on the command line if given there, otherwise the one in the file `loadCfg` locates (the first
word of `os.Args` that spells the config flag in any of the four ways package `flag` accepts —
`config_word_spec`, `precedence_spelling`, `precedence_config_flag` say which file that is) if present
there, otherwise the one of `VFLOW_<KEY>` if set and non-empty, otherwise the built-in default. -/
theorem precedence (tbl : List Row) (inp : Inputs) (s : Settings) (hc : RegistersCurrent tbl)
    (h : run tbl canonicalStages inp = .ok s) :
    ∃ file, cfgSource tbl inp = some file ∧
      ∀ f, s f = resolve (defaults tbl) (envSource tbl inp.env) file (flagSource tbl inp.args) f := by
  obtain ⟨_, file, l, hcfg, hp, _, hs⟩ := run_canonical tbl inp s hc h
  refine ⟨file, hcfg, fun f => ?_⟩
  rw [hs, apply_three]
  simp [flagSource, hp]

/-- **C17 (when loading completes)**: the canonical run ends in settings exactly when no environment
value is malformed, the first word spelling the config flag is not `-config` / `--config` as the last
word, the command line parses, and every word of it is a flag or the value of one (F31: `flag.Parse` leaves
no positional argument) -/
theorem run_ok_iff (tbl : List Row) (inp : Inputs) (hc : RegistersCurrent tbl) :
    (∃ s, run tbl canonicalStages inp = .ok s) ↔
      (envFatal tbl inp.env = false ∧ (cfgSource tbl inp).isSome ∧
       (∃ l, parseArgs (configReg :: regsOf tbl) (inp.args.length + 1) inp.args = .ok l) ∧
       strayArgs (configReg :: regsOf tbl) (inp.args.length + 1) inp.args = []) := by
  constructor
  · rintro ⟨s, h⟩
    obtain ⟨h1, file, l, h2, h3, h4, _⟩ := run_canonical tbl inp s hc h
    exact ⟨h1, by simp [h2], ⟨l, h3⟩, h4⟩
  · rintro ⟨h1, h2, ⟨l, h3⟩, h4⟩
    obtain ⟨file, h2⟩ := Option.isSome_iff_exists.mp h2
    refine ⟨apply (apply (apply (defaults tbl) (envSource tbl inp.env)) file) (lastOf l), ?_⟩
    simp only [run, canonicalStages, runFrom, step, Outcome.bind, List.nil_append, List.cons_append,
      h1, h2, Bool.false_eq_true, ↓reduceIte]
    rw [register_current tbl _ hc]
    simp [h3, h4]

/-! ## what each source provides (so that `precedence` is not about empty sources) -/

/-- a well-formed integer in `VFLOW_<KEY>` is provided by the environment source -/
theorem envSource_int (tbl : List Row) (env : String → String) (r : Row) (n : Int)
    (hr : rowOf tbl r.field = some r) (hk : r.kind = .int) (hy : r.yaml ≠ "")
    (hv : env (envName r.yaml) ≠ "") (hn : atoi (env (envName r.yaml)) = some n) :
    envSource tbl env r.field = some (.int n) := by
  simp [envSource, hr, envRow, hy, hv, hk, hn]

/-- a non-empty `VFLOW_<KEY>` of a string setting is taken as it is -/
theorem envSource_str (tbl : List Row) (env : String → String) (r : Row)
    (hr : rowOf tbl r.field = some r) (hk : r.kind = .str) (hy : r.yaml ≠ "")
    (hv : env (envName r.yaml) ≠ "") :
    envSource tbl env r.field = some (.str (env (envName r.yaml))) := by
  simp [envSource, hr, envRow, hy, hv, hk]

/-- an unset or empty variable provides nothing -/
theorem envSource_empty (tbl : List Row) (env : String → String) (r : Row)
    (hr : rowOf tbl r.field = some r) (hv : env (envName r.yaml) = "") :
    envSource tbl env r.field = none := by
  by_cases hy : r.yaml = "" <;> simp [envSource, hr, envRow, hy, hv]

/-- a file value of the field's own kind is provided by the file source -/
theorem fileSource_same (tbl : List Row) (m : String → Option Val) (r : Row) (v : Val)
    (hr : rowOf tbl r.field = some r) (hy : r.yaml ≠ "") (hm : m r.yaml = some v)
    (hk : coerce r.kind v = some v) :
    fileSource tbl m r.field = some v := by
  simp [fileSource, hr, hy, hm, hk]

/-- without a readable file named by the config flag (or the default path) the file source is empty -/
theorem cfgSource_absent (tbl : List Row) (inp : Inputs) (h : ∀ p, inp.readFile p = none) (src : Source)
    (hs : cfgSource tbl inp = some src) : ∀ f, src f = none := by
  intro f
  unfold cfgSource cfgSourceWith at hs
  split at hs
  · simp at hs
  · simp [fileAt, h] at hs; rw [← hs]
  · simp [fileAt, h] at hs; rw [← hs]

/-! ## which file: the spellings of the config flag (F22) -/

/-- **the spelling test of `loadCfg` is package `flag`'s**: `loadCfg` takes a word of `os.Args` for the
config flag (`-config`, `--config`: value in the next word; `-config=V`, `--config=V`: value `V`) exactly
when package `flag` reads that word as the flag `config` (`flagCfgWord`: one or two dashes, the name up to
the first `=`), with the same inline value — for every string. -/
theorem config_word_spec (s : String) : cfgWord s = flagCfgWord s := cfgWord_eq_flagCfgWord s

/-- the four ways package `flag` accepts the flag `config` with the value `p` -/
def cfgSpellings (p : String) : List (List String) :=
  [["-config", p], ["--config", p], ["-config=" ++ p], ["--config=" ++ p]]

theorem cfgWord_eq_spelling (pre : String) (p : String)
    (h : pre = "-config=" ∨ pre = "--config=") : cfgWord (pre ++ p) = some (some p) := by
  rw [cfgWord_eq_flagCfgWord, flagCfgWord_eq_some]
  refine ⟨some p.toList, by simp [String.ofList_toList], ?_⟩
  rcases h with rfl | rfl
  · exact Or.inl (by rw [String.toList_append]; rfl)
  · exact Or.inr (by rw [String.toList_append]; rfl)

/-- `loadCfg` finds the path in each of the four spellings, wherever the flag stands, as long as no
earlier word spells the config flag -/
theorem findConfig_spelling (pre post : List String) (p : String) (w : List String) (hw : w ∈ cfgSpellings p)
    (hpre : ∀ x ∈ pre, cfgWord x = none) : findConfig (pre ++ w ++ post) = some (some p) := by
  induction pre with
  | nil =>
    simp only [cfgSpellings, List.mem_cons, List.not_mem_nil, or_false] at hw
    rcases hw with hw | hw | hw | hw <;> subst hw
    · have : cfgWord "-config" = some none := by decide +kernel
      simp [findConfig, this]
    · have : cfgWord "--config" = some none := by decide +kernel
      simp [findConfig, this]
    · simp [findConfig, cfgWord_eq_spelling "-config=" p (Or.inl rfl)]
    · simp [findConfig, cfgWord_eq_spelling "--config=" p (Or.inr rfl)]
  | cons a pre ih =>
    have ha : cfgWord a = none := hpre a (by simp)
    have := ih (fun x hx => hpre x (List.mem_cons_of_mem _ hx))
    simpa [findConfig, ha] using this

/-- **C17 for every spelling of the config flag**: whichever of `-config p`, `--config p`, `-config=p`,
`--config=p` the command line carries (anywhere, no earlier word spelling the config flag), the file
that takes part in the precedence is the one at `p`. -/
theorem precedence_spelling (tbl : List Row) (inp : Inputs) (s : Settings) (hc : RegistersCurrent tbl)
    (h : run tbl canonicalStages inp = .ok s)
    (pre post : List String) (p : String) (w : List String) (hw : w ∈ cfgSpellings p)
    (hargs : inp.arg0 :: inp.args = pre ++ w ++ post) (hpre : ∀ x ∈ pre, cfgWord x = none) :
    ∀ f, s f = resolve (defaults tbl) (envSource tbl inp.env) (fileAt tbl inp p) (flagSource tbl inp.args) f := by
  obtain ⟨file, hcfg, hs⟩ := precedence tbl inp s hc h
  have hfind := findConfig_spelling pre post p w hw hpre
  rw [← hargs] at hfind
  simp only [cfgSource, cfgSourceWith, hfind, Option.some.injEq] at hcfg
  rw [hcfg]; exact hs

/-- the values package `flag` assigns to its `config` variable, in command-line order -/
def flagConfigs (tbl : List Row) (args : List String) : List String :=
  match parseArgs (configReg :: regsOf tbl) (args.length + 1) args with
  | .ok l => cfgAssigns l
  | _ => []

/-- what `flag.Parse` leaves in the `config` variable: the last value given, else the registered default -/
def flagConfigPath (tbl : List Row) (args : List String) : String :=
  (flagConfigs tbl args).getLast?.getD defaultCfg

/-- `loadCfg` reads the first value package `flag` binds to `config` (else the default path), provided
every word of `os.Args` that spells the config flag is read by package `flag` as the config flag -/
theorem cfgSource_eq_first_flag_value (tbl : List Row) (inp : Inputs) (l : List (Option String × Val))
    (hp : parseArgs (configReg :: regsOf tbl) (inp.args.length + 1) inp.args = .ok l)
    (hw : cfgWords (inp.arg0 :: inp.args) = (cfgAssigns l).length) :
    cfgSource tbl inp = some (fileAt tbl inp ((cfgAssigns l).head?.getD defaultCfg)) := by
  obtain ⟨hle, hfc⟩ := findConfig_parse (cfgRegs_table tbl) _ _ _ hp
  have hfind : findConfig (inp.arg0 :: inp.args) = (cfgAssigns l).head?.map some := by
    cases h0 : cfgWord inp.arg0 with
    | none =>
      rw [cfgWords_cons_none h0] at hw
      rw [findConfig_cons_none h0]
      exact hfc hw
    | some x =>
      rw [cfgWords_cons_some h0] at hw
      omega
  simp only [cfgSource, cfgSourceWith, hfind]
  cases (cfgAssigns l).head? <;> rfl

/-- **C17 with the file package `flag` names**: if every word of `os.Args` that spells the config flag
is read by package `flag` as the config flag (as many such words as assignments to `config`: none is the
program name, the value of another flag, or behind the end of the flags) and the flag is given at most
once, the file that takes part in the precedence is the one whose path `flag.Parse` leaves in `config`
(the registered default `/etc/vflow/vflow.conf` when not given).  Both hypotheses are necessary:
`config_twice_counterexample`, `config_behind_terminator_counterexample`, `config_as_value_counterexample`. -/
theorem precedence_config_flag (tbl : List Row) (inp : Inputs) (s : Settings) (hc : RegistersCurrent tbl)
    (h : run tbl canonicalStages inp = .ok s)
    (hw : cfgWords (inp.arg0 :: inp.args) = (flagConfigs tbl inp.args).length)
    (h1 : (flagConfigs tbl inp.args).length ≤ 1) :
    ∀ f, s f = resolve (defaults tbl) (envSource tbl inp.env)
      (fileAt tbl inp (flagConfigPath tbl inp.args)) (flagSource tbl inp.args) f := by
  obtain ⟨_, file, l, hcfg, hp, _, _⟩ := run_canonical tbl inp s hc h
  obtain ⟨file', hcfg', hs⟩ := precedence tbl inp s hc h
  have hfc : flagConfigs tbl inp.args = cfgAssigns l := by simp [flagConfigs, hp]
  rw [hfc] at hw h1
  have := cfgSource_eq_first_flag_value tbl inp l hp hw
  rw [hcfg'] at this
  injection this with this
  have hpath : flagConfigPath tbl inp.args = (cfgAssigns l).head?.getD defaultCfg := by
    unfold flagConfigPath; rw [hfc]
    match hl : cfgAssigns l with
    | [] => rfl
    | [a] => rfl
    | a :: b :: r => rw [hl] at h1; simp at h1
  rw [hpath, ← this]; exact hs

/-! ## the other orders are wrong -/

/-- a one-row table: an integer setting `P` with yaml key/flag `p` -/
def tbl1 : List Row := [⟨"P", .int, "p", "p", .int 0, .current⟩]

/-- inputs: `VFLOW_P=1`, the file named by `-config c` says `p: 2`, no other argument -/
def inpEnvFile : Inputs :=
  { env := fun n => if n = "VFLOW_P" then "1" else "",
    readFile := fun p => if p = "c" then some (fun k => if k = "p" then some (.int 2) else none) else none,
    arg0 := "vflow", args := ["-config", "c"] }

/-- observed value of `P` after a run (`none` when the process ended early) -/
def valueOf (o : Outcome Settings) (f : String) : Option Val :=
  match o with
  | .ok s => some (s f)
  | _ => none

/-- non-vacuity of `precedence`: a concrete run completes; the file beats the environment -/
example : valueOf (run tbl1 canonicalStages inpEnvFile) "P" = some (.int 2) := by decide +kernel

/-- … with each of the four spellings of the config flag (non-vacuity of `precedence_spelling`) -/
example : (cfgSpellings "c").map (fun w => valueOf (run tbl1 canonicalStages { inpEnvFile with args := w }) "P")
    = [some (.int 2), some (.int 2), some (.int 2), some (.int 2)] := by decide +kernel

/-- non-vacuity of `precedence_config_flag`: its hypotheses hold for the four spellings, and the path is `c` -/
example : (cfgSpellings "c").all (fun w =>
    cfgWords ("vflow" :: w) == (flagConfigs tbl1 w).length && (flagConfigs tbl1 w).length == 1 &&
    flagConfigPath tbl1 w == "c") = true := by decide +kernel

/-- the scan of `os.Args` before the repair of F22: only the exact word `-config` -/
def findConfigOld : List String → Option (Option String)
  | [] => none
  | a :: rest => if a = "-config" then some rest.head? else findConfigOld rest

/-- **F22**: for `--config c`, `-config=c`, `--config=c` the old scan finds nothing — the file is ignored
and the environment value stands where the documented rule gives the file's — while package `flag` binds
`c` to `config` for all four; the repaired scan finds `c` for all four. -/
theorem old_locate_counterexample :
    (cfgSpellings "c").map (fun w => findConfigOld ("vflow" :: w)) = [some (some "c"), none, none, none] ∧
    (cfgSpellings "c").map (fun w => findConfig ("vflow" :: w))
      = [some (some "c"), some (some "c"), some (some "c"), some (some "c")] ∧
    (cfgSpellings "c").map (fun w => flagConfigPath tbl1 w) = ["c", "c", "c", "c"] ∧
    (cfgSpellings "c").map (fun w => (cfgSourceWith findConfigOld tbl1 { inpEnvFile with args := w }).map (· "P"))
      = [some (some (.int 2)), some none, some none, some none] ∧
    (cfgSpellings "c").map (fun w => (cfgSource tbl1 { inpEnvFile with args := w }).map (· "P"))
      = [some (some (.int 2)), some (some (.int 2)), some (some (.int 2)), some (some (.int 2))] := by decide +kernel

/-- `-config a -config c`: `loadCfg` reads the first (`a`), package `flag` keeps the last (`c`) -/
theorem config_twice_counterexample :
    findConfig ["vflow", "-config", "a", "-config", "c"] = some (some "a") ∧
    flagConfigPath tbl1 ["-config", "a", "-config", "c"] = "c" ∧
    cfgWords ["vflow", "-config", "a", "-config", "c"] = (flagConfigs tbl1 ["-config", "a", "-config", "c"]).length := by
  decide +kernel

/-- `-- -config c`: behind the end of the flags package `flag` does not read the word, `loadCfg` does -/
theorem config_behind_terminator_counterexample :
    findConfig ["vflow", "--", "-config", "c"] = some (some "c") ∧
    flagConfigPath tbl1 ["--", "-config", "c"] = defaultCfg ∧
    (flagConfigs tbl1 ["--", "-config", "c"]).length ≤ 1 := by decide +kernel

/-- `-l -config c` (`l` a string flag): `-config` is the value of `-l` for package `flag` (and `c` ends the
flags), `loadCfg` takes it for the config flag -/
theorem config_as_value_counterexample :
    findConfig ["vflow", "-l", "-config", "c"] = some (some "c") ∧
    flagConfigPath [⟨"L", .str, "l", "l", .str "", .current⟩] ["-l", "-config", "c"] = defaultCfg ∧
    flagSource [⟨"L", .str, "l", "l", .str "", .current⟩] ["-l", "-config", "c"] "L" = some (.str "-config") := by
  decide +kernel

/-- loading the file before the environment inverts the documented order (environment would beat the file) -/
theorem file_before_env_counterexample :
    valueOf (run tbl1 [.registerConfig, .file, .env, .register, .parse] inpEnvFile) "P" = some (.int 1) ∧
    resolve (defaults tbl1) (envSource tbl1 inpEnvFile.env)
      (fileSource tbl1 (fun k => if k = "p" then some (.int 2) else none)) (flagSource tbl1 inpEnvFile.args) "P"
      = .int 2 := by decide +kernel

/-- registering a flag with the built-in default instead of the current value discards environment and file -/
theorem register_builtin_counterexample :
    valueOf (run [⟨"P", .int, "p", "p", .int 0, .builtin⟩] canonicalStages inpEnvFile) "P" = some (.int 0) := by
  decide +kernel

/-- inputs: `-p 3` on the command line and `p: 2` in the file -/
def inpFileFlag : Inputs :=
  { env := fun _ => "",
    readFile := fun p => if p = "c" then some (fun k => if k = "p" then some (.int 2) else none) else none,
    arg0 := "vflow", args := ["-p", "3", "-config", "c"] }

example : valueOf (run tbl1 canonicalStages inpFileFlag) "P" = some (.int 3) := by decide +kernel

/-- loading the file after parsing the command line lets the file beat the command line -/
theorem file_after_parse_counterexample :
    valueOf (run tbl1 [.registerConfig, .env, .register, .parse, .file] inpFileFlag) "P" = some (.int 2) := by
  decide +kernel

/-- loading the environment after parsing lets the environment beat the command line -/
theorem env_after_parse_counterexample :
    valueOf (run tbl1 [.registerConfig, .file, .register, .parse, .env]
      { inpFileFlag with env := fun n => if n = "VFLOW_P" then "1" else "" }) "P" = some (.int 1) := by
  decide +kernel

/-! ## given on the command line: what it says, not what the parser reads (F31)

`precedence` takes the command line as the source `flagSource`, which is *defined by* the model of package
`flag`'s parser — and that parser stops at the first word that is neither a flag nor the value of one.
docs/config.md writes every key as `-key value`; for a boolean flag package `flag` never takes the next
word, so `-ipfix-enabled false -sflow-port 7000` set `ipfix-enabled` to true and dropped `-sflow-port 7000`
without a word (F31, `f31_counterexample`).  The theorems below take the command line as what it *says*:
`cliGiven` / `cliMentions` / `cliSource` (`Model/Options.lean`) read every `-key value`, `-key=value` and
bare boolean `-key` of the whole token list; nothing ends that reading.  Since the repair `flagSet` refuses
a command line on which `flag.Parse` leaves a positional argument (`Stage.refuseStray`, regenerated as the
last statement of `flagSet`: `gen_stages`), and on every other command line the two readings agree. -/

/-- the process does not reach the end of `flagSet`: it ends with a status (`log.Fatal`, a flag error, a
positional argument) or panics -/
def Refused (o : Outcome Settings) : Prop := ∀ s, o ≠ .ok s

/-- when option loading completes, package `flag` has read the command line as it is written:
`flagSource` (the parser's reading) is `cliSource` (every `-key value` of the whole token list) -/
theorem flagSource_eq_cliSource (tbl : List Row) (inp : Inputs) (s : Settings) (hc : RegistersCurrent tbl)
    (h : run tbl canonicalStages inp = .ok s) : flagSource tbl inp.args = cliSource tbl inp.args := by
  obtain ⟨_, _, l, _, hp, hst, _⟩ := run_canonical tbl inp s hc h
  rw [cliSource_eq_lastOf tbl inp.args l hp hst]
  simp [flagSource, hp]

/-- **C17 (precedence, the command line as it is written)**: for every option table whose flags are
registered with the current value, every environment, every file content and every command line: if option
loading reaches the end of `flagSet`, every setting has the value the command line *says* (`cliSource`:
the last `-key value` / `-key=value` / bare boolean `-key` naming its key anywhere on the command line — not
"what the parser got to"), otherwise the file's, otherwise the environment's, otherwise the built-in
default.  Same statement as `precedence` with the parser-defined source replaced by the written one; false
for `flagSet` before the repair of F31 (`f31_counterexample`). -/
theorem precedence_cli (tbl : List Row) (inp : Inputs) (s : Settings) (hc : RegistersCurrent tbl)
    (h : run tbl canonicalStages inp = .ok s) :
    ∃ file, cfgSource tbl inp = some file ∧
      ∀ f, s f = resolve (defaults tbl) (envSource tbl inp.env) file (cliSource tbl inp.args) f := by
  obtain ⟨file, hcfg, hs⟩ := precedence tbl inp s hc h
  refine ⟨file, hcfg, fun f => ?_⟩
  rw [hs f, flagSource_eq_cliSource tbl inp s hc h]

/-- **C17 (given or refused)**: for every option table (flags registered with the current value, field
names pairwise distinct), every environment, every file content and every argument list: either the
process refuses to start, or every key the command line mentions — `-k v` / `--k v` with `v` not spelt like
a flag, `-k=v`, a bare boolean `-k` (= `true`), a non-boolean `-k` with whatever word follows; the last
mention when there are several — is a registered key, the mentioned text is a value of its kind, and its
setting has exactly that value.  No word of the command line is silently dropped. -/
theorem cli_given_or_refused (tbl : List Row) (inp : Inputs) (hc : RegistersCurrent tbl)
    (hd : (tbl.map (·.field)).Nodup) :
    Refused (run tbl canonicalStages inp) ∨
    ∃ s, run tbl canonicalStages inp = .ok s ∧
      ∀ k v, cliMentions tbl inp.args k = some v →
        ∃ reg val, flagOf tbl k = some reg ∧ flagValue reg.kind v = some val ∧
          ∀ f, reg.target = some f → s f = val := by
  cases hrun : run tbl canonicalStages inp with
  | exit c => left; intro s hs; cases hs
  | panic => left; intro s hs; cases hs
  | ok s =>
    right
    refine ⟨s, rfl, fun k v hm => ?_⟩
    obtain ⟨_, file, l, _, hp, hst, hs⟩ := run_canonical tbl inp s hc hrun
    have hfull := parse_full (regs := configReg :: regsOf tbl) _ _ _ (Nat.lt_succ_self _) hp hst
    have hrev : (cliGiven (boolKey tbl) inp.args).reverse.map (assignOf (configReg :: regsOf tbl))
        = l.reverse.map some := by
      rw [List.map_reverse, List.map_reverse]
      exact congrArg List.reverse hfull
    unfold cliMentions at hm
    cases hfind : (cliGiven (boolKey tbl) inp.args).reverse.find? (fun p => p.1 = k) with
    | none => simp [hfind] at hm
    | some p =>
      simp only [hfind, Option.map_some, Option.some.injEq] at hm
      obtain ⟨reg, val, hr, hv, hl⟩ :=
        mention_assigned (keysToFields_table tbl hd) _ _ hrev k p hfind
      refine ⟨reg, val, hr, by rw [← hm]; exact hv, fun f hf => ?_⟩
      have hlast : lastOf l f = some val := hl f hf
      rw [hs]
      simp [apply, hlast]

/-- the command line of F31: the documented `-key value` form for a boolean, a flag behind it -/
def inpF31 : Inputs :=
  { env := fun _ => "", readFile := fun _ => none, arg0 := "vflow",
    args := ["-ipfix-enabled", "false", "-sflow-port", "7000"] }

/-- the outcome is a refusal with this exit status -/
def exitsWith (o : Outcome Settings) (c : Nat) : Bool :=
  match o with
  | .exit c' => c' == c
  | _ => false

/-- **F31**: `vflow -ipfix-enabled false -sflow-port 7000`, real option table.  The command line says
`ipfix-enabled` = `false` and `sflow-port` = `7000`.  `flagSet` before the repair (`stagesBeforeF31`: nothing
behind `flag.Parse()`) reached its end — the process started — with `IPFIXEnabled = true` and `SFlowPort` at
its built-in 6343: `false` was the first positional argument and ended the parsing, what `flag.Parse` left is
`["false", "-sflow-port", "7000"]`.  So `precedence_cli` and `cli_given_or_refused` are false of the old
stage list, while `precedence` (parser-defined source) held of it: the parser's `flagSource` gives
`sflow-port` nothing.  The repaired `flagSet` refuses the command line (`exit 2`). -/
theorem f31_counterexample :
    cliMentions Gen.OptionsTbl.rows inpF31.args "ipfix-enabled" = some "false" ∧
    cliMentions Gen.OptionsTbl.rows inpF31.args "sflow-port" = some "7000" ∧
    cliSource Gen.OptionsTbl.rows inpF31.args "SFlowPort" = some (.int 7000) ∧
    flagSource Gen.OptionsTbl.rows inpF31.args "SFlowPort" = none ∧
    valueOf (run Gen.OptionsTbl.rows stagesBeforeF31 inpF31) "SFlowPort" = some (.int 6343) ∧
    valueOf (run Gen.OptionsTbl.rows stagesBeforeF31 inpF31) "IPFIXEnabled" = some (.bool true) ∧
    strayArgs (configReg :: regsOf Gen.OptionsTbl.rows) 5 inpF31.args = ["false", "-sflow-port", "7000"] ∧
    exitsWith (run Gen.OptionsTbl.rows canonicalStages inpF31) 2 = true := by decide +kernel

/-- the reading of the command line ends nowhere: a stray word, `--`, a boolean in both forms, a negative number -/
example : cliGiven (boolKey Gen.OptionsTbl.rows)
      ["stray", "-sflow-port", "-5", "--", "-verbose", "--ipfix-enabled", "0", "-mqueue=nsq", "-", "-netflow9-enabled"]
    = [("sflow-port", "-5"), ("verbose", "true"), ("ipfix-enabled", "0"), ("mqueue", "nsq"), ("netflow9-enabled", "true")] := by
  decide +kernel

/-- non-vacuity of `cli_given_or_refused` / `precedence_cli` (second alternative): `-key=value` for the
boolean, a bare boolean in front of a flag, `--` as the last word — the process starts, and the mentioned
keys have the mentioned values -/
example :
    let args := ["-ipfix-enabled=false", "-verbose", "-sflow-port", "7000", "--"]
    let o := run Gen.OptionsTbl.rows canonicalStages { inpF31 with args := args }
    (cliMentions Gen.OptionsTbl.rows args "ipfix-enabled", cliMentions Gen.OptionsTbl.rows args "verbose",
      cliMentions Gen.OptionsTbl.rows args "sflow-port") = (some "false", some "true", some "7000") ∧
    (valueOf o "IPFIXEnabled", valueOf o "Verbose", valueOf o "SFlowPort")
      = (some (.bool false), some (.bool true), some (.int 7000)) := by decide +kernel

/-- … (first alternative) a stray word, words behind `--`, a lone `-`, a boolean followed by a word that is
no boolean: refused with status 2, wherever the word stands -/
example : [["stray", "-sflow-port", "7000"], ["-sflow-port", "7000", "stray"], ["--", "-sflow-port", "7000"],
      ["-", "-sflow-port", "7000"], ["-verbose", "maybe"], ["-verbose", "true", "-ipfix-workers", "20"]].all
    (fun args => exitsWith (run Gen.OptionsTbl.rows canonicalStages { inpF31 with args := args }) 2) = true := by
  decide +kernel

/-! ## the generated facts (re-checked against the source on every run) -/

/-- the statement order of `flagSet`, as extracted, is the canonical one — its last statement, behind
`flag.Parse()`, is `if flag.NArg() > 0 { fmt.Fprintf(os.Stderr, …); os.Exit(2) }` (F31: without it, or with it
anywhere else, this obligation fails) -/
theorem gen_stages : Gen.OptionsTbl.stages = canonicalStages := rfl

/-- every flag is registered with `opts.F` itself as the default -/
theorem gen_registers_current : RegistersCurrent Gen.OptionsTbl.rows := by decide +kernel

/-- `GetOptions` starts with `NewOptions()` followed by `flagSet()` -/
theorem gen_get_options : Gen.OptionsTbl.getOptionsHead = ["opts := NewOptions()", "opts.flagSet()"] := rfl

/-- nothing in the anchored declarations was left unrecognised; `getEnv`/`loadCfg` have the transcribed shape -/
theorem gen_recognised : Gen.OptionsTbl.unrecognised = [] ∧ Gen.OptionsTbl.getEnvShape = true ∧
    Gen.OptionsTbl.loadCfgShape = true := ⟨rfl, rfl, rfl⟩

def kindOfVal : Val → Kind
  | .int _ => .int | .str _ => .str | .bool _ => .bool

/-- every row is an int/string/bool setting whose default has the row's kind; every setting with a yaml
key has a flag (bound to the same field, hence of the same kind) -/
theorem gen_rows_wellformed :
    Gen.OptionsTbl.rows.all (fun r => kindOfVal r.dflt == r.kind && (r.yaml == "" || r.flag != "")) = true := by
  decide +kernel

/-- field names, yaml keys and flag names are pairwise distinct -/
theorem gen_rows_distinct :
    (Gen.OptionsTbl.rows.map (·.field)).Nodup ∧
    ((Gen.OptionsTbl.rows.map (·.yaml)).filter (· ≠ "")).Nodup ∧
    ((Gen.OptionsTbl.rows.map (·.flag)).filter (· ≠ "")).Nodup := by
  -- compared pairwise as strings, each name is taken apart into its octets once per pair; read as one number
  -- (`beN` of the octets) it is evaluated once, and the numbers are already pairwise distinct
  have key {l : List String} (h : (l.map fun s => beN s.toUTF8.data.toList).Nodup) : l.Nodup :=
    List.Pairwise.of_map _ (fun _ _ hab e => hab (e ▸ rfl)) h
  refine ⟨key ?_, key ?_, key ?_⟩ <;> decide +kernel

/-- every flag name is a word package `flag` can read as a flag: not empty, no leading `-` or `=`, no `=` inside -/
theorem gen_key_shape : Gen.OptionsTbl.rows.all (fun r => r.flag == "" || keyShape r.flag) = true := by decide +kernel

/-- **how the keys of the real table are spelt on the command line** (what `cliGiven` takes for a mention of
the key): `-name`, `--name`, `-name=v`, `--name=v`, for every flag of the table and every text `v` -/
theorem gen_key_spellings (r : Row) (hr : r ∈ Gen.OptionsTbl.rows) (hf : r.flag ≠ "") :
    wordOf ("-" ++ r.flag) = .flag r.flag none ∧ wordOf ("--" ++ r.flag) = .flag r.flag none ∧
    ∀ v : String, wordOf ("-" ++ r.flag ++ "=" ++ v) = .flag r.flag (some v) ∧
      wordOf ("--" ++ r.flag ++ "=" ++ v) = .flag r.flag (some v) := by
  have h := List.all_eq_true.mp gen_key_shape r hr
  simp only [Bool.or_eq_true, beq_iff_eq, hf, false_or] at h
  exact wordOf_key h

/-- the only field of another type carrying a yaml key is the list-valued `sflow-type-filter` (out of scope) -/
theorem gen_other_fields : Gen.OptionsTbl.otherFields =
    ["Logger *log.Logger ", "SFlowTypeFilter arrUInt32Flags sflow-type-filter"] := rfl

/-- the sources on the real table, concretely: `-sflow-port 99 --verbose -mqueue=nsq` sets three settings … -/
example : (flagSource Gen.OptionsTbl.rows ["-sflow-port", "99", "--verbose", "-mqueue=nsq"] "SFlowPort",
           flagSource Gen.OptionsTbl.rows ["-sflow-port", "99", "--verbose", "-mqueue=nsq"] "Verbose",
           flagSource Gen.OptionsTbl.rows ["-sflow-port", "99", "--verbose", "-mqueue=nsq"] "MQName",
           flagSource Gen.OptionsTbl.rows ["-sflow-port", "99", "--verbose", "-mqueue=nsq"] "IPFIXPort")
    = (some (.int 99), some (.bool true), some (.str "nsq"), none) := by decide +kernel

/-- … and the environment variable of `ipfix-mirror-port` is `VFLOW_IPFIX_MIRROR_PORT` -/
example : envName "ipfix-mirror-port" = "VFLOW_IPFIX_MIRROR_PORT" ∧
    envSource Gen.OptionsTbl.rows (fun n => if n = "VFLOW_IPFIX_MIRROR_PORT" then "4000" else "") "IPFIXMirrorPort"
      = some (.int 4000) := by decide +kernel

/-- **C17 for the code as it is**: `precedence` instantiated with the regenerated table and stage order -/
theorem precedence_generated (inp : Inputs) (s : Settings)
    (h : run Gen.OptionsTbl.rows Gen.OptionsTbl.stages inp = .ok s) :
    ∃ file, cfgSource Gen.OptionsTbl.rows inp = some file ∧
      ∀ f, s f = resolve (defaults Gen.OptionsTbl.rows) (envSource Gen.OptionsTbl.rows inp.env) file
        (flagSource Gen.OptionsTbl.rows inp.args) f := by
  rw [gen_stages] at h
  exact precedence _ inp s gen_registers_current h

/-- **C17 for the code as it is, the command line as it is written**: `precedence_cli` instantiated with the
regenerated table and stage order (whose last statement is the refusal of a positional argument) -/
theorem precedence_generated_cli (inp : Inputs) (s : Settings)
    (h : run Gen.OptionsTbl.rows Gen.OptionsTbl.stages inp = .ok s) :
    ∃ file, cfgSource Gen.OptionsTbl.rows inp = some file ∧
      ∀ f, s f = resolve (defaults Gen.OptionsTbl.rows) (envSource Gen.OptionsTbl.rows inp.env) file
        (cliSource Gen.OptionsTbl.rows inp.args) f := by
  rw [gen_stages] at h
  exact precedence_cli _ inp s gen_registers_current h

/-- **C17 for the code as it is, given or refused**: `cli_given_or_refused` instantiated with the regenerated
table and stage order -/
theorem cli_given_or_refused_generated (inp : Inputs) :
    Refused (run Gen.OptionsTbl.rows Gen.OptionsTbl.stages inp) ∨
    ∃ s, run Gen.OptionsTbl.rows Gen.OptionsTbl.stages inp = .ok s ∧
      ∀ k v, cliMentions Gen.OptionsTbl.rows inp.args k = some v →
        ∃ reg val, flagOf Gen.OptionsTbl.rows k = some reg ∧ flagValue reg.kind v = some val ∧
          ∀ f, reg.target = some f → s f = val := by
  rw [gen_stages]
  exact cli_given_or_refused _ inp gen_registers_current gen_rows_distinct.1

/-- **C17 for the code as it is, every spelling of the config flag**: `precedence_spelling` instantiated
with the regenerated table and stage order -/
theorem precedence_generated_spelling (inp : Inputs) (s : Settings)
    (h : run Gen.OptionsTbl.rows Gen.OptionsTbl.stages inp = .ok s)
    (pre post : List String) (p : String) (w : List String) (hw : w ∈ cfgSpellings p)
    (hargs : inp.arg0 :: inp.args = pre ++ w ++ post) (hpre : ∀ x ∈ pre, cfgWord x = none) :
    ∀ f, s f = resolve (defaults Gen.OptionsTbl.rows) (envSource Gen.OptionsTbl.rows inp.env)
      (fileAt Gen.OptionsTbl.rows inp p) (flagSource Gen.OptionsTbl.rows inp.args) f := by
  rw [gen_stages] at h
  exact precedence_spelling _ inp s gen_registers_current h pre post p w hw hargs hpre

/-- **C17 for the code as it is, with the file package `flag` names**: `precedence_config_flag`
instantiated with the regenerated table and stage order -/
theorem precedence_generated_config_flag (inp : Inputs) (s : Settings)
    (h : run Gen.OptionsTbl.rows Gen.OptionsTbl.stages inp = .ok s)
    (hw : cfgWords (inp.arg0 :: inp.args) = (flagConfigs Gen.OptionsTbl.rows inp.args).length)
    (h1 : (flagConfigs Gen.OptionsTbl.rows inp.args).length ≤ 1) :
    ∀ f, s f = resolve (defaults Gen.OptionsTbl.rows) (envSource Gen.OptionsTbl.rows inp.env)
      (fileAt Gen.OptionsTbl.rows inp (flagConfigPath Gen.OptionsTbl.rows inp.args))
      (flagSource Gen.OptionsTbl.rows inp.args) f := by
  rw [gen_stages] at h
  exact precedence_config_flag _ inp s gen_registers_current h hw h1

end Vflow.C17
