import Vflow.Proofs.V5Round
import Vflow.Proofs.JsonTree
import Vflow.Proofs.StrOctets
import Vflow.Gen.Sites
import Vflow.Spec.Sites
/-!
# C08 — NetFlow v5 is decoded field for field (and published as such)

The decoder model `V5.decode` is the generic field reader instantiated with the layouts regenerated
from `netflow/v5/decoder.go`; the obligations `gen_v5Header_layout` / `gen_v5Record_layout` oblige
them to be Cisco's layout (`Vflow.Spec.V5Wire`: 24-octet header, 48-octet records, field names of the
Go structs in wire order).  On that layout:

* `decode_spec`: the complete outcome of `Decode` for **every** octet string;
* `decode_encode`: a well-formed datagram (version 5, count = number of records, 1..30) decodes to
  exactly its header and records, whatever octets follow it;
* `decode_ok_cases` / `decode_ok_flows` / `decode_ok_iff`: a message is only ever returned for a version-5
  datagram with a count in 1..30 that is entirely present, and then with exactly `Count` flows;
  `decode_rejected` / `decode_short_flows`: every other datagram — in particular one that carries fewer
  octets than its header announces — is rejected as a whole, no message is handed out (F29 repair: until
  then the header came back as a message without flows TOGETHER with the error, and the worker counted it);
* `decoded_header_at_offsets` / `decoded_flow_at_offsets`: every decoded value is the big-endian
  value of its octets at the Cisco offset (`cisco_offsets`);
* `v5_marshal_eq_render` / `v5_marshal_valid` (the v5 part of C05): the published text is the
  rendering of `v5Tree` — agent address, the nine header fields and per flow the twenty fields by
  name, addresses in dotted-quad form, everything else as the exact decimal text — and is valid JSON.
-/
namespace Vflow.C08
open Vflow Vflow.Spec Vflow.V5 Vflow.V5Round Vflow.JsonTree

theorem gen_v5Header_layout : Gen.Layouts.v5Header = Spec.v5Header := rfl
theorem gen_v5Record_layout : Gen.Layouts.v5Record = Spec.v5Record := rfl
theorem gen_v5Agent : normalize Gen.JsonWrites.v5Agent = normalize Spec.v5AgentProg := rfl
theorem gen_v5Header : normalize Gen.JsonWrites.v5Header = normalize Spec.v5HeaderProg := rfl
theorem gen_v5Flow : normalize Gen.JsonWrites.v5Flow = normalize Spec.v5FlowProg := rfl

/-- Cisco's offsets: header fields at 0, 2, 4, 8, 12, 16, 20, 21, 22 (24 octets); record fields at
0, 4, 8, 12, 14, 16, 20, 24, 28, 32, 34, 36, 37, 38, 39, 40, 42, 44, 45, 46 (48 octets) -/
theorem cisco_offsets :
    (List.range 10).map (offsetOf (widths Spec.v5Header)) = [0, 2, 4, 8, 12, 16, 20, 21, 22, 24] ∧
    (List.range 21).map (offsetOf (widths Spec.v5Record)) =
      [0, 4, 8, 12, 14, 16, 20, 24, 28, 32, 34, 36, 37, 38, 39, 40, 42, 44, 45, 46, 48] := by decide +kernel

/-- **C08 (field reader, complete)**: for every width list, `readFields` succeeds exactly when the octets
suffice; the values are the big-endian values of the consecutive slices and the rest is left -/
theorem readFields_spec (ws : List Nat) (bs : Bytes) (c : Nat) :
    readFields ws ⟨bs, c⟩ =
      if ws.sum ≤ bs.length then some (valuesAt ws bs, ⟨bs.drop ws.sum, c + ws.sum⟩) else none :=
  readFields_eq ws bs c

/-- **C08 (values at offsets)**: if the read succeeds, the `i`-th value is the big-endian value of the
`ws[i]` octets at offset `ws[0] + … + ws[i-1]` -/
theorem readFields_values (ws : List Nat) (bs : Bytes) (c : Nat) (vs : List Nat) (r' : Rd)
    (h : readFields ws ⟨bs, c⟩ = some (vs, r')) :
    vs.length = ws.length ∧
    ∀ i < ws.length, vs.getD i 0 = beN ((bs.drop (offsetOf ws i)).take (ws.getD i 0)) := by
  rw [readFields_eq] at h
  split at h
  · simp only [Option.some.injEq, Prod.mk.injEq] at h
    rw [← h.1]
    exact ⟨valuesAt_length ws bs, fun i hi => valuesAt_getD ws bs i hi⟩
  · simp at h

/-- **C08 (fields round trip)**: reading the encoding of fitting values returns the values and leaves exactly
what follows — generic in the width list -/
theorem readFields_encFields (ws vs : List Nat) (tail : Bytes) (c : Nat) (h : Fits ws vs) :
    readFields ws ⟨encFields ws vs ++ tail, c⟩ = some (vs, ⟨tail, c + ws.sum⟩) :=
  V5Round.readFields_encFields ws vs tail c h

/-- **C08 (complete outcome)**: `Decode` on every octet string — too short for a header; wrong version;
count outside 1..30; records not all present (`shortFlows`: no message, since the F29 repair); otherwise header
and exactly `Count` records, each the slices of its 48 octets -/
theorem decode_spec (bs : Bytes) : V5.decode bs = decodeSpec bs := by
  rw [V5.decode, gen_v5Header_layout, gen_v5Record_layout, decodeWith_spec_eq]

/-- **C08 (round trip)**: a datagram with version 5 whose count is its number of records (1..30) decodes to
exactly its header and its records, for **every** trailing octet string -/
theorem decode_encode (h : List Nat) (fs : List (List Nat)) (tail : Bytes)
    (hh : Fits (widths Spec.v5Header) h) (hfs : ∀ f ∈ fs, Fits (widths Spec.v5Record) f)
    (hv : fieldAt h 0 = 5) (hc : fieldAt h 1 = fs.length) (h1 : 1 ≤ fs.length) (h30 : fs.length ≤ 30) :
    V5.decode (encodeV5 h fs ++ tail) = .ok ⟨h, fs⟩ := by
  rw [decode_spec]; exact decodeSpec_encode h fs tail hh hfs hv hc h1 h30

/-- **C08 (results, all cases)**: a returned message is the header of a version-5 datagram with a count in 1..30
whose `Count` records are all present, with exactly those records; a header alone, or a partially decoded record
list, never occurs.  (The Go code before the F29 repair also returned the header alone, together with the length error.) -/
theorem decode_ok_cases (bs : Bytes) (m : Msg) (h : V5.decode bs = .ok m) :
    fieldAt m.hdr 0 = 5 ∧ 1 ≤ fieldAt m.hdr 1 ∧ fieldAt m.hdr 1 ≤ 30 ∧ 24 ≤ bs.length ∧
    m.hdr = valuesAt (widths Spec.v5Header) bs ∧
    24 + 48 * fieldAt m.hdr 1 ≤ bs.length ∧
    m.flows = flowsAt (widths Spec.v5Record) (fieldAt m.hdr 1) (bs.drop 24) := by
  rw [decode_spec, decodeSpec_eq_ok] at h
  obtain ⟨h24, hv, h1, h30, hl, rfl⟩ := h
  exact ⟨hv, h1, h30, h24, rfl, hl, rfl⟩

/-- **C08 (rejection)**: a message is returned only for a version-5 datagram whose count is in 1..30 and whose
`Count` records are all present; and then exactly `Count` flows (at least one) are returned.  No hypothesis on the
message. -/
theorem decode_ok_flows (bs : Bytes) (m : Msg) (h : V5.decode bs = .ok m) :
    fieldAt m.hdr 0 = 5 ∧ 1 ≤ fieldAt m.hdr 1 ∧ fieldAt m.hdr 1 ≤ 30 ∧
    24 + 48 * fieldAt m.hdr 1 ≤ bs.length ∧ m.flows.length = fieldAt m.hdr 1 ∧ m.flows ≠ [] := by
  obtain ⟨hv, h1, h30, _, _, hl, hf⟩ := decode_ok_cases bs m h
  have hlen : m.flows.length = fieldAt m.hdr 1 := by rw [hf, flowsAt_length]
  refine ⟨hv, h1, h30, hl, hlen, ?_⟩
  intro he
  rw [he] at hlen
  simp at hlen
  omega

/-- **C08 (when a message is returned)**: `Decode` returns a message exactly for the datagrams that hold a header with
version 5, a count in 1..30 and all `Count` records (what C13 means by "decodes successfully" for NetFlow v5) -/
theorem decode_ok_iff (bs : Bytes) :
    (∃ m, V5.decode bs = .ok m) ↔
      24 ≤ bs.length ∧ fieldAt (valuesAt (widths Spec.v5Header) bs) 0 = 5 ∧
      1 ≤ fieldAt (valuesAt (widths Spec.v5Header) bs) 1 ∧ fieldAt (valuesAt (widths Spec.v5Header) bs) 1 ≤ 30 ∧
      24 + 48 * fieldAt (valuesAt (widths Spec.v5Header) bs) 1 ≤ bs.length := by
  simp only [decode_spec, decodeSpec_eq_ok]
  exact ⟨fun ⟨_, h⟩ => ⟨h.1, h.2.1, h.2.2.1, h.2.2.2.1, h.2.2.2.2.1⟩, fun h => ⟨_, h.1, h.2.1, h.2.2.1, h.2.2.2.1, h.2.2.2.2, rfl⟩⟩

/-- **C08 / C13 (rejection, the other direction)**: a datagram that is too short for a header, has another
version, a count outside 1..30 or fewer than `24 + 48·Count` octets is rejected as a whole: `Decode` returns
`(nil, err)` — no message, hence nothing the worker could count as decoded or publish -/
theorem decode_rejected (bs : Bytes)
    (h : bs.length < 24 ∨ fieldAt (valuesAt (widths Spec.v5Header) bs) 0 ≠ 5 ∨
      fieldAt (valuesAt (widths Spec.v5Header) bs) 1 < 1 ∨ fieldAt (valuesAt (widths Spec.v5Header) bs) 1 > 30 ∨
      bs.length < 24 + 48 * fieldAt (valuesAt (widths Spec.v5Header) bs) 1) :
    ∃ e, V5.decode bs = .error e := by
  cases hd : V5.decode bs with
  | error e => exact ⟨e, rfl⟩
  | ok m =>
    have := (decode_ok_iff bs).1 ⟨m, hd⟩
    omega

/-- **F29**: a well-formed header (version 5, count 1..30) followed by fewer than
`48·Count` octets — one octet short, say — gives `(nil, "Expect … bytes to read, … remaining")`: the message is
**absent**, not "present without flows" -/
theorem decode_short_flows (bs : Bytes) (h24 : 24 ≤ bs.length)
    (hv : fieldAt (valuesAt (widths Spec.v5Header) bs) 0 = 5)
    (h1 : 1 ≤ fieldAt (valuesAt (widths Spec.v5Header) bs) 1) (h30 : fieldAt (valuesAt (widths Spec.v5Header) bs) 1 ≤ 30)
    (hs : bs.length < 24 + 48 * fieldAt (valuesAt (widths Spec.v5Header) bs) 1) :
    V5.decode bs = .error .shortFlows := by
  rw [decode_spec]
  simp only [decodeSpec]
  rw [if_neg (by omega), if_neg (by simpa using hv), if_neg (by omega), if_pos hs]

/-- **C08 (header fields at Cisco offsets)**: field `i` of the decoded header is the big-endian value of its octets at
the offset of `cisco_offsets` -/
theorem decoded_header_at_offsets (bs : Bytes) (m : Msg) (h : V5.decode bs = .ok m) :
    m.hdr.length = 9 ∧
    ∀ i < 9, fieldAt m.hdr i =
      beN ((bs.drop (offsetOf (widths Spec.v5Header) i)).take ((widths Spec.v5Header).getD i 0)) := by
  obtain ⟨_, _, _, _, hh, _⟩ := decode_ok_cases bs m h
  rw [hh]
  exact ⟨valuesAt_length _ _, fun i hi => valuesAt_getD _ bs i (by rw [hdr_len]; exact hi)⟩

/-- **C08 (flow fields at Cisco offsets)**: field `i` of the `j`-th decoded flow is the big-endian value of its
octets at `24 + 48·j + offset(i)` -/
theorem decoded_flow_at_offsets (bs : Bytes) (m : Msg) (h : V5.decode bs = .ok m) :
    ∀ j < m.flows.length, (m.flows.getD j []).length = 20 ∧
      ∀ i < 20, fieldAt (m.flows.getD j []) i =
        beN ((bs.drop (24 + 48 * j + offsetOf (widths Spec.v5Record) i)).take
          ((widths Spec.v5Record).getD i 0)) := by
  intro j hj
  obtain ⟨_, _, _, _, _, _, hf⟩ := decode_ok_cases bs m h
  rw [hf, flowsAt_length] at hj
  rw [hf, flowsAt_getD _ _ _ _ hj, rec_sum]
  refine ⟨valuesAt_length _ _, fun i hi => ?_⟩
  rw [fieldAt, valuesAt_getD _ _ i (by rw [rec_len]; exact hi)]
  simp only [List.drop_drop]
  congr 3; omega

/-- **C05/C08 (NetFlow v5, faithfulness)**: the published octets are exactly the rendering of `v5Tree a m`:
`{"AgentID":"<address>","Header":{"Version":…,"Count":…,"SysUpTimeMSecs":…,"UNIXSecs":…,"UNIXNSecs":…,"SeqNum":…,
"EngType":…,"EngID":…,"SmpInt":…},"Flows":[{"SrcAddr":"a.b.c.d","DstAddr":…,"NextHop":…,"Input":…,…,"Padding2":…},…]}`,
every number the exact decimal text of the decoded field.  No assumption. -/
theorem v5_marshal_eq_render (a : Bytes) (m : Msg) : V5.marshal (ipBytes a) m = render (v5Tree a m) := by
  rw [← marshalWith_spec]
  exact marshalWith_congr gen_v5Agent gen_v5Header gen_v5Flow _ _

theorem v5_tree_wf (a : Bytes) (m : Msg) : WF (v5Tree a m) := wf_v5Tree a m

/-- **C05/C08 (NetFlow v5, validity)**: the published octets derive `v5Tree a m` in the RFC 8259 grammar —
unconditionally (v5 has no float or string fields) -/
theorem v5_marshal_valid (a : Bytes) (m : Msg) : DVal (V5.marshal (ipBytes a) m) (v5Tree a m) := by
  rw [v5_marshal_eq_render]; exact derives_render _ (v5_tree_wf a m)

/-- end to end: what is published for a well-formed datagram shows its header and records -/
theorem decode_then_marshal (a : Bytes) (h : List Nat) (fs : List (List Nat)) (tail : Bytes)
    (hh : Fits (widths Spec.v5Header) h) (hfs : ∀ f ∈ fs, Fits (widths Spec.v5Record) f)
    (hv : fieldAt h 0 = 5) (hc : fieldAt h 1 = fs.length) (h1 : 1 ≤ fs.length) (h30 : fs.length ≤ 30) :
    ∃ m, V5.decode (encodeV5 h fs ++ tail) = .ok m ∧
      DVal (V5.marshal (ipBytes a) m) (v5Tree a ⟨h, fs⟩) :=
  ⟨_, decode_encode h fs tail hh hfs hv hc h1 h30, v5_marshal_valid a _⟩

def exHeader : List Nat := [5, 1, 1000, 1700000000, 0, 7, 0, 0, 0]
def exFlow : List Nat :=
  [0xC0000201, 0xC6336407, 0, 1, 2, 10, 1500, 100, 200, 1234, 80, 0, 0x18, 6, 0, 64500, 64501, 24, 24, 0]
def exPacket : Bytes :=
  [0, 5, 0, 1, 0, 0, 3, 232, 101, 83, 241, 0, 0, 0, 0, 0, 0, 0, 0, 7, 0, 0, 0, 0,
   192, 0, 2, 1, 198, 51, 100, 7, 0, 0, 0, 0, 0, 1, 0, 2, 0, 0, 0, 10, 0, 0, 5, 220, 0, 0, 0, 100, 0, 0, 0, 200,
   4, 210, 0, 80, 0, 24, 6, 0, 251, 244, 251, 245, 24, 24, 0, 0]

example : encodeV5 exHeader [exFlow] = exPacket := by decide +kernel
/-- the hypotheses of `decode_encode` hold for the example -/
example : Fits (widths Spec.v5Header) exHeader ∧ (∀ f ∈ [exFlow], Fits (widths Spec.v5Record) f) ∧
    fieldAt exHeader 0 = 5 ∧ fieldAt exHeader 1 = [exFlow].length := by decide +kernel
example : V5.decode (exPacket ++ [1, 2, 3]) = .ok ⟨exHeader, [exFlow]⟩ := by decide +kernel
/-- F29: one octet short — no message (the Go code before the repair returned the header without flows and the error) -/
example : V5.decode (exPacket.take 71) = .error .shortFlows := by decide +kernel
example : V5.decode (exPacket.take 24) = .error .shortFlows := by decide +kernel
example : V5.decode (exPacket.take 23) = .error .short := by decide +kernel
example : V5.decode (0 :: 9 :: exPacket.drop 2) = .error .badVersion := by decide +kernel
example : V5.marshal (ipBytes [192, 0, 2, 1]) ⟨exHeader, [exFlow]⟩ =
    txt ["{\"AgentID\":\"192.0.2.1\",\"Header\":{\"Versio",
      "n\":5,\"Count\":1,\"SysUpTimeMSecs\":1000,\"UN",
      "IXSecs\":1700000000,\"UNIXNSecs\":0,\"SeqNum",
      "\":7,\"EngType\":0,\"EngID\":0,\"SmpInt\":0},\"F",
      "lows\":[{\"SrcAddr\":\"192.0.2.1\",\"DstAddr\":",
      "\"198.51.100.7\",\"NextHop\":\"0.0.0.0\",\"Inpu",
      "t\":1,\"Output\":2,\"PktCount\":10,\"L3Octets\"",
      ":1500,\"StartTime\":100,\"EndTime\":200,\"Src",
      "Port\":1234,\"DstPort\":80,\"Padding1\":0,\"TC",
      "PFlags\":24,\"ProtType\":6,\"Tos\":0,\"SrcAsNu",
      "m\":64500,\"DstAsNum\":64501,\"SrcMask\":24,\"",
      "DstMask\":24,\"Padding2\":0}]}"] := by
  -- the kernel evaluates `ByteArray.toList` by indexing in a loop; the list under the array is reached by projections
  simp only [txt, byteArray_toList]
  decide +kernel

/-- **Tie (control-flow skeleton)**: every branch / loop condition, switch case and `break` / `continue` of the
sources this model mirrors, re-extracted on every run, is exactly the reviewed inventory in `Spec/Sites.lean`
(which names the model clause of each).  A changed bound, a new or dropped branch breaks this obligation. -/
theorem guards_reviewed : Gen.Sites.guardsV5 = Spec.Sites.guardsV5 := rfl

/-- **Tie (error classes, F29)**: re-extracted on every run — `nonfatalError` in netflow/v5/decoder.go is declared as the
struct wrapper (as `type nonfatalError error` the case of the type switch in `Decode` matches every error and a failed
decode hands out a message) and nothing constructs one: every error of the v5 decoder is fatal, which is what
`V5.decodeWith` transcribes (`Except`: a message or an error, never both) -/
theorem v5_nonfatal_reviewed : Gen.Sites.nonfatalV5 = Spec.Sites.nonfatalV5 := rfl

end Vflow.C08
