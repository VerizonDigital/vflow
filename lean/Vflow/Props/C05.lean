import Vflow.Proofs.JsonTree
import Vflow.Props.C08
import Vflow.Proofs.SflowJsonTree
import Vflow.Proofs.JsonAccepted
import Vflow.Props.C12
import Vflow.Props.C03
import Vflow.Props.C14
import Vflow.Proofs.RoundIpfix
import Vflow.Proofs.RoundV9
import Vflow.Proofs.StrOctets
/-!
# C05 — every published message is valid JSON that faithfully carries the decode

For the three hand-written encoders (IPFIX, NetFlow v9, NetFlow v5 — the v5 statements live in
`Vflow.Props.C08` and are re-exported here) and for **every** exporter address, header, record
list, field value (all 16 value kinds, arbitrary octets in strings, every bit pattern, no bound on
the integers):

* `…_marshal_eq_render`: the octets the encoder publishes are the compact rendering of the message
  tree `ipfixTree` / `v9Tree` / `v5Tree`.  **The tree is the faithfulness statement**: `AgentID` is the
  canonical text of the exporter address; `Header` shows the header fields by name and in order, each
  as the exact decimal text of the decoded value (`decode10 (natDigits n) = n`); `DataSets` shows,
  per record and in decode order, per field the element id `I`, the value `V` in the form given by
  `valJson`, and the enterprise number `E` exactly when it is non-zero.
* `…_marshal_valid`: that text derives, in the RFC 8259 grammar `DVal`, exactly that tree (so a
  conforming parser reads back the same members with the same number / string tokens).

The fixed text and member order come from the Go source: the encoders' write programs are regenerated
by factgen on every run and the `gen_*` theorems below oblige them to be the specification programs
of `Vflow.Spec.JsonProgs` up to merging of adjacent literal writes.

**Assumption** (`FloatOk`, stated per field): `strconv.FormatFloat(f,'E',-1,bits)` is not modelled; its text
is an input, assumed to be a JSON number for a finite bit pattern and a string body (`NaN`, `+Inf`,
`-Inf`) otherwise.

**sFlow** (the fourth protocol) is published as `json.Marshal(datagram)` — `encoding/json`, library code.
Its model is `Spec.render (sflowTree d)` (`Vflow.Model.SflowJson`): `sflow_tree_wf` / `sflow_json_valid` /
`sflow_published_valid` prove that this rendering is valid JSON deriving exactly `sflowTree d`, for every
datagram value.  That the rendering **equals what `encoding/json` emits** is established by the
byte-for-byte correspondence (kinds `sflow`, `sflowf`, `dissect`; C07 / C18 / C01 / C05 checks), **not
proved**.
-/
namespace Vflow.C05
open Vflow Vflow.Spec Vflow.JsonTree Vflow.JsonLex

/-! ## Obligations over the regenerated write programs -/

theorem gen_ipfixAgent : normalize Gen.JsonWrites.ipfixAgent = normalize Spec.ipfixAgentProg := by decide +kernel
theorem gen_ipfixHeader : normalize Gen.JsonWrites.ipfixHeader = normalize Spec.ipfixHeaderProg := by decide +kernel
theorem gen_v9Agent : normalize Gen.JsonWrites.v9Agent = normalize Spec.v9AgentProg := by decide +kernel
theorem gen_v9Header : normalize Gen.JsonWrites.v9Header = normalize Spec.v9HeaderProg := by decide +kernel

/-- **C05 (IPFIX, faithfulness)**: the published octets are exactly the rendering of `ipfixTree a hdr recs` —
`{"AgentID":"<net.IP.String of a>","Header":{"Version":…,"Length":…,"ExportTime":…,"SequenceNo":…,"DomainID":…},
"DataSets":[[{"I":id,"V":value[,"E":enterprise]},…],…]}` with every number the exact decimal text of the
decoded value.  No assumption (float text is carried as given). -/
theorem ipfix_marshal_eq_render (a : Bytes) (hdr : List Nat) (recs : List (List JField)) :
    Ipfix.marshal (ipBytes a) hdr recs = render (ipfixTree a hdr recs) := by
  rw [ipfixTree_eq, ← marshalFlow_spec ipfixHeaderKeys (by decide)]
  exact marshalFlow_congr gen_ipfixAgent gen_ipfixHeader _ _ _

/-- the IPFIX message tree is well-formed (every key and string a string body, every number a JSON number) -/
theorem ipfix_tree_wf (a : Bytes) (hdr : List Nat) (recs : List (List JField))
    (hf : ∀ r ∈ recs, ∀ f ∈ r, FloatOk f) : WF (ipfixTree a hdr recs) := by
  rw [ipfixTree_eq]; exact wf_flowMsgTree _ (by decide) a hdr recs hf

/-- **C05 (IPFIX, validity)**: the published octets derive `ipfixTree a hdr recs` in the RFC 8259 grammar.
Assumes only `FloatOk` for the float-valued fields. -/
theorem ipfix_marshal_valid (a : Bytes) (hdr : List Nat) (recs : List (List JField))
    (hf : ∀ r ∈ recs, ∀ f ∈ r, FloatOk f) :
    DVal (Ipfix.marshal (ipBytes a) hdr recs) (ipfixTree a hdr recs) := by
  rw [ipfix_marshal_eq_render]; exact derives_render _ (ipfix_tree_wf a hdr recs hf)

/-- **C05 (NetFlow v9, faithfulness)**: as for IPFIX, with the header members
`Version, Count, SysUpTime, UNIXSecs, SeqNum, SrcID`. -/
theorem v9_marshal_eq_render (a : Bytes) (hdr : List Nat) (recs : List (List JField)) :
    V9.marshal (ipBytes a) hdr recs = render (v9Tree a hdr recs) := by
  rw [v9Tree_eq, ← marshalFlow_spec v9HeaderKeys (by decide)]
  exact marshalFlow_congr gen_v9Agent gen_v9Header _ _ _

theorem v9_tree_wf (a : Bytes) (hdr : List Nat) (recs : List (List JField))
    (hf : ∀ r ∈ recs, ∀ f ∈ r, FloatOk f) : WF (v9Tree a hdr recs) := by
  rw [v9Tree_eq]; exact wf_flowMsgTree _ (by decide) a hdr recs hf

/-- **C05 (NetFlow v9, validity)** -/
theorem v9_marshal_valid (a : Bytes) (hdr : List Nat) (recs : List (List JField))
    (hf : ∀ r ∈ recs, ∀ f ∈ r, FloatOk f) :
    DVal (V9.marshal (ipBytes a) hdr recs) (v9Tree a hdr recs) := by
  rw [v9_marshal_eq_render]; exact derives_render _ (v9_tree_wf a hdr recs hf)


/-- **C05 (NetFlow v5, faithfulness)**: the published octets are the rendering of `v5Tree a m` — agent address, the
nine header fields and, per flow, the twenty fields by name; addresses in dotted-quad text, all other
fields the exact decimal text.  Relies on the obligations `C08.gen_v5Agent/gen_v5Header/gen_v5Flow`. -/
theorem v5_marshal_eq_render (a : Bytes) (m : V5.Msg) : V5.marshal (ipBytes a) m = render (v5Tree a m) :=
  C08.v5_marshal_eq_render a m

/-- **C05 (NetFlow v5, validity)**: unconditional (no float or string fields) -/
theorem v5_marshal_valid (a : Bytes) (m : V5.Msg) : DVal (V5.marshal (ipBytes a) m) (v5Tree a m) :=
  C08.v5_marshal_valid a m

/-! ## sFlow (published through `encoding/json`) -/

section SflowSection
open Vflow.Sflow Vflow.Sflow.Json Vflow.SflowJsonTree

/-- **C05 (sFlow, well-formed tree)**: for every datagram value — any number of flow and counter samples, any
combination of records, any field values, any octets in the sampled header's addresses, MACs and ICMP
rest-of-header — every number leaf of `sflowTree d` is an RFC 8259 number, every string leaf and every
key a string body.  **The tree is the faithfulness statement**: the datagram header fields by Go field
name in declaration order, each the exact decimal text of the decoded value; `Samples` / `Counters` in
decode order; `Records` as a map with sorted keys (`ExtRouter` < `ExtSwitch` < `RawHeader`; `EthInt` <
`GenInt` < `Proc` < `TRInt` < `VGInt` < `Vlan`); the raw packet header record (F33) as its own `Protocol`,
`FrameLength`, `Stripped`, `HeaderLength` — each the exact decimal text of the word read — followed, when the
sampled octets have a breakdown, by the sampled packet's `L2` / `L3` / `L4` objects (`null`
when a layer is absent) with MACs as `xx:xx:…` text, addresses as `net.IP.String` text, `[]byte` as base64;
`IPAddress` / `NextHop` as `net.IP.MarshalText`. -/
theorem sflow_tree_wf (d : Datagram) : WF (sflowTree d) := wf_sflowTree d

/-- **C05 (sFlow, validity)**: the rendering of the sFlow message tree derives exactly that tree in the
RFC 8259 grammar.  The model of the published text is this rendering; its equality with what
`encoding/json` (library code) emits is established by the correspondence, not proved. -/
theorem sflow_json_valid (d : Datagram) : DVal (render (sflowTree d)) (sflowTree d) :=
  derives_render _ (sflow_tree_wf d)

theorem sflowJson?_eq_some {d : Datagram} {bs : Bytes} (h : sflowJson? d = some bs) : bs = render (sflowTree d) := by
  unfold sflowJson? at h
  split at h
  · exact (Option.some.inj h).symm
  · cases h

/-- **C05 (sFlow, what is published)**: whenever the model of `json.Marshal(datagram)` yields a text (it yields
none — marshal error, nothing is published — exactly when a `net.IP` in the datagram has a length other
than 0, 4 or 16), that text is valid JSON deriving `sflowTree d` -/
theorem sflow_published_valid (d : Datagram) (bs : Bytes) (h : sflowJson? d = some bs) :
    DVal bs (sflowTree d) := by
  rw [sflowJson?_eq_some h]; exact sflow_json_valid d

/-- the raw packet header record alone (F33): its four words and, when there is one, the packet's layers — for every
record value, with or without a packet -/
theorem sflow_raw_header_valid (h : RawHeader) : DVal (render (rawHeaderTree h)) (rawHeaderTree h) :=
  derives_render _ (wf_rawHeaderTree h)

/-- the sampled packet alone (what the `dissect` correspondence compares) -/
theorem sflow_packet_valid (p : Packet.Pkt) : DVal (render (pktTree p)) (pktTree p) :=
  derives_render _ (wf_pktTree p)

/-! ## Accepted by Go's own validator

`Spec.jsonValid` is the Lean port of `encoding/json`'s scanner (`scanner.go`, including its nesting limit of
10000), tied to the real `json.Valid` by the `jsonvalid` correspondence of C11.  Every published payload of the
four protocols is accepted by it — the message trees nest 4 (IPFIX, NetFlow v9), 3 (NetFlow v5) and at most 6
(sFlow) deep (`Proofs/JsonAccepted.lean`), so the depth hypothesis of `JsonScan.render_valid` is discharged. -/

theorem ipfix_marshal_accepted (a : Bytes) (hdr : List Nat) (recs : List (List JField))
    (hf : ∀ r ∈ recs, ∀ f ∈ r, FloatOk f) : jsonValid (Ipfix.marshal (ipBytes a) hdr recs) = true := by
  rw [ipfix_marshal_eq_render]
  refine JsonScan.render_valid _ (ipfix_tree_wf a hdr recs hf) ?_
  rw [ipfixTree_eq]
  exact Nat.le_trans (JsonAccepted.depth_flowMsgTree _ a hdr recs) (by decide)

theorem v9_marshal_accepted (a : Bytes) (hdr : List Nat) (recs : List (List JField))
    (hf : ∀ r ∈ recs, ∀ f ∈ r, FloatOk f) : jsonValid (V9.marshal (ipBytes a) hdr recs) = true := by
  rw [v9_marshal_eq_render]
  refine JsonScan.render_valid _ (v9_tree_wf a hdr recs hf) ?_
  rw [v9Tree_eq]
  exact Nat.le_trans (JsonAccepted.depth_flowMsgTree _ a hdr recs) (by decide)

theorem v5_marshal_accepted (a : Bytes) (m : V5.Msg) : jsonValid (V5.marshal (ipBytes a) m) = true := by
  rw [v5_marshal_eq_render]
  exact JsonScan.render_valid _ (C08.v5_tree_wf a m) (Nat.le_trans (JsonAccepted.depth_v5Tree a m) (by decide))

theorem sflow_published_accepted (d : Datagram) (bs : Bytes) (h : sflowJson? d = some bs) : jsonValid bs = true := by
  rw [sflowJson?_eq_some h]
  exact JsonScan.render_valid _ (sflow_tree_wf d) (Nat.le_trans (JsonAccepted.depth_sflowTree d) (by decide))

/-- address strings of the sampled header are carried verbatim: for a non-empty address the `Src` / `Dst`
string leaf is exactly `net.IP.String()` (the escaping `encoding/json` applies is the identity on it) -/
theorem sflow_address_verbatim (b : Bytes) (h : b.length ≠ 0) : ipStringLeaf b = .str (ipBytes b) :=
  ipStringLeaf_verbatim b h

/-- an Ethernet / IPv4 / TCP sampled header -/
def examplePkt : Packet.Pkt :=
  { l2 := { srcMAC := [0, 17, 34, 51, 68, 85], dstMAC := [170, 187, 204, 221, 238, 255], vlan := 0, etherType := 2048 },
    l3 := .v4 { version := 4, tos := 0, totalLen := 40, id := 1, flags := 2, fragOff := 0, ttl := 64, protocol := 6,
                checksum := 0, src := [192, 0, 2, 1], dst := [198, 51, 100, 7] },
    l4 := .tcp 1234 80 5 5 280 }

def exampleFlowSample : FlowSample :=
  { seqNo := 1, sourceID := 3, sourceIDIdx := 16777215, samplingRate := 512, samplePool := 1024, drops := 0, input := 1, output := 2,
    recordsNo := 3,
    recs := { raw := some ⟨1, 1518, 4, 54, some examplePkt⟩,
              sw := some { srcVlan := 10, srcPriority := 0, dstVlan := 20, dstPriority := 0 },
              rtr := some { nextHop := [0x20, 0x01, 0x0d, 0xb8, 0, 0, 0, 0, 0, 0, 0, 0, 0, 0, 0, 1],
                            srcMask := 24, dstMask := 16 } } }

def exampleCounterSample : CounterSample :=
  { seqNo := 2, sourceIDType := 0, sourceIDIdx := 3, recordsNo := 1,
    recs := { proc := some [1, 2, 3, 18446744073709551615, 0] } }

/-- a datagram with one flow sample (extended router with IPv6 next hop, extended switch, sampled header)
and one counter sample (processor record) -/
def exampleDatagram : Datagram :=
  { version := 5, ipVersion := 1, agentSubID := 0, seqNo := 7, sysUpTime := 1000, samplesNo := 2,
    samples := [exampleFlowSample], counters := [exampleCounterSample], ip := [192, 0, 2, 9] }

example : sflowJson? exampleDatagram = some (txt [
    "{\"Version\":5,\"IPVersion\":1,\"AgentSubID\":0,\"SequenceNo\":7,",
    "\"SysUpTime\":1000,\"SamplesNo\":2,\"Samples\":[{\"SequenceNo\":1,",
    "\"SourceID\":3,\"SourceIDIdx\":16777215,\"SamplingRate\":512,",
    "\"SamplePool\":1024,\"Drops\":0,",
    "\"Input\":1,\"Output\":2,\"RecordsNo\":3,\"Records\":{",
    "\"ExtRouter\":{\"NextHop\":\"2001:db8::1\",\"SrcMask\":24,\"DstMask\":16},",
    "\"ExtSwitch\":{\"SrcVlan\":10,\"SrcPriority\":0,\"DstVlan\":20,",
    "\"DstPriority\":0},\"RawHeader\":{\"Protocol\":1,\"FrameLength\":1518,",
    "\"Stripped\":4,\"HeaderLength\":54,\"L2\":{\"SrcMAC\":\"00:11:22:33:44:55\",",
    "\"DstMAC\":\"aa:bb:cc:dd:ee:ff\",\"Vlan\":0,\"EtherType\":2048},",
    "\"L3\":{\"Version\":4,\"TOS\":0,\"TotalLen\":40,\"ID\":1,\"Flags\":2,",
    "\"FragOff\":0,\"TTL\":64,\"Protocol\":6,\"Checksum\":0,",
    "\"Src\":\"192.0.2.1\",\"Dst\":\"198.51.100.7\"},",
    "\"L4\":{\"SrcPort\":1234,\"DstPort\":80,\"DataOffset\":5,\"Reserved\":5,",
    "\"Flags\":280}}}}],\"Counters\":[{\"SequenceNo\":2,\"SourceIDType\":0,",
    "\"SourceIDIdx\":3,\"RecordsNo\":1,\"Records\":{\"Proc\":{\"CPU5s\":1,",
    "\"CPU1m\":2,\"CPU5m\":3,\"TotalMemory\":18446744073709551615,",
    "\"FreeMemory\":0}}}],\"IPAddress\":\"192.0.2.9\",\"ColTime\":0}"]) := by rw [txt_eq]; decide +kernel

/-- `[]byte` leaves are base64 (`AQID` = 01 02 03, padding for 1 and 2 octets); an absent layer is `null` -/
example : render (pktTree ⟨{}, .none, .icmp 8 0 [1, 2, 3, 4]⟩) = txt [
    "{\"L2\":{\"SrcMAC\":\"\",\"DstMAC\":\"\",\"Vlan\":0,\"EtherType\":0},",
    "\"L3\":null,\"L4\":{\"Type\":8,\"Code\":0,\"RestHeader\":\"AQIDBA==\"}}"] := by rw [txt_eq]; decide +kernel

/-- F33: the raw-header record of a sampled header without a breakdown is its own four words, no `L2` / `L3` / `L4`
members and no `null` (the embedded `*packet.Packet` is nil); with a packet the words come first, the layers keep
their names and values -/
example : render (rawHeaderTree ⟨7, 1400, 0, 5, none⟩) = txt [
    "{\"Protocol\":7,\"FrameLength\":1400,\"Stripped\":0,\"HeaderLength\":5}"] ∧
    render (rawHeaderTree ⟨11, 4294967295, 4, 28, some ⟨{}, .none, .udp 53 4660⟩⟩) = txt [
    "{\"Protocol\":11,\"FrameLength\":4294967295,\"Stripped\":4,",
    "\"HeaderLength\":28,\"L2\":{\"SrcMAC\":\"\",\"DstMAC\":\"\",\"Vlan\":0,",
    "\"EtherType\":0},\"L3\":null,\"L4\":{\"SrcPort\":53,\"DstPort\":4660}}"] := by simp only [txt_eq]; decide +kernel

/-- a 5-octet agent address cannot be marshalled: nothing is published -/
example : sflowJson? { exampleDatagram with ip := [1, 2, 3, 4, 5] } = none := by decide +kernel

end SflowSection

/-! ## End to end: what the worker pool publishes

The pipeline theorems (C12 / C13) are about an abstract codec; the decoding theorems (C03 / C06) and the rendering
theorems above are about one call. Here the pipeline's codec parameter is instantiated with the decoder models and
the marshal model, and the pieces are composed: for ANY number of workers running the worker loop extracted from the
current source, ANY sequence of datagrams (arbitrary octets, arbitrary exporters) and EVERY schedule, every payload
handed to the message queue is the compact rendering of the message tree of the decode of ONE received datagram's own
octets (against the template cache in force when it was decoded), and is accepted by `encoding/json`'s scanner.
`ft` is the float text (`strconv.FormatFloat`, an input of the model: hypothesis `FloatOk`, see the header). -/
section EndToEnd
open Vflow.Pipeline

/-- a decoded field as the marshaller sees it -/
def toJ (ft : Val → Bytes) (f : DField) : JField := ⟨f.id, f.ent, f.val, ft f.val⟩

def toJRecs (ft : Val → Bytes) (recs : List Record) : List (List JField) := recs.map (·.map (toJ ft))

/-- the codec of a template protocol, from its decoder and its marshaller: `Decode` (`none` = nil message), the worker's
test for data sets, `JSONMarshal` (never fails).  `ipfixCodec` and `v9Codec` below spell the same record out once more, at
`Ipfix.decode`, `Ipfix.marshal` and at `V9.decode`, `V9.marshal`: `ipfixCodec ft = flowCodec Ipfix.decode Ipfix.marshal ft`
holds by `rfl`, and the lemmas about `flowCodec` are applied to them through that definitional equality, unannounced —
with the octets a variable, since the two `match`es are different constants and comparing them on `encodeMsg m` would
unfold the decoder (the `generalize` in `ipfix_wellformed_published`).  `C13.flowCodec` has the same shape with an arbitrary
marshaller of the raw records. -/
def flowCodec (dec : Cache → Bytes → Bytes → Except Err (Hdr × List Record × List Err) × Cache)
    (mar : Bytes → Hdr → List (List JField) → Bytes) (ft : Val → Bytes) : Codec where
  Cache := Cache
  Msg := Bytes × Hdr × List Record
  decode := fun c addr bs =>
    match dec c addr bs with
    | (.ok (h, recs, _), c') => (some (addr, h, recs), c')
    | (.error _, c') => (none, c')
  hasData := fun m => !m.2.2.isEmpty
  marshal := fun m => some (mar (ipBytes m.1) m.2.1 (toJRecs ft m.2.2))

/-- the IPFIX instance of the pipeline's codec: `Decode` (`none` = nil message), the worker's
`len(decodedMsg.DataSets) > 0`, `JSONMarshal` (never fails) -/
def ipfixCodec (ft : Val → Bytes) : Codec where
  Cache := Cache
  Msg := Bytes × Hdr × List Record
  decode := fun c addr bs =>
    match Ipfix.decode c addr bs with
    | (.ok (h, recs, _), c') => (some (addr, h, recs), c')
    | (.error _, c') => (none, c')
  hasData := fun m => !m.2.2.isEmpty
  marshal := fun m => some (Ipfix.marshal (ipBytes m.1) m.2.1 (toJRecs ft m.2.2))

/-- the NetFlow v9 instance (`decodedMsg.DataSets != nil`) -/
def v9Codec (ft : Val → Bytes) : Codec where
  Cache := Cache
  Msg := Bytes × Hdr × List Record
  decode := fun c addr bs =>
    match V9.decode c addr bs with
    | (.ok (h, recs, _), c') => (some (addr, h, recs), c')
    | (.error _, c') => (none, c')
  hasData := fun m => !m.2.2.isEmpty
  marshal := fun m => some (V9.marshal (ipBytes m.1) m.2.1 (toJRecs ft m.2.2))

/-- the NetFlow v5 instance (no template cache; `Flows != nil`; `JSONMarshal` never fails) -/
def v5CodecA : Codec where
  Cache := Unit
  Msg := Bytes × V5.Msg
  decode := fun _ addr bs =>
    (match V5.decode bs with
     | .ok m => some (addr, m)
     | .error _ => none, ())
  hasData := fun m => !m.2.flows.isEmpty
  marshal := fun m => some (V5.marshal (ipBytes m.1) m.2)

/-- the sFlow instance (filter list `f`; no cache; the worker's `len(Counters) < 1 && len(Samples) < 1` test;
`json.Marshal(datagram)`, which fails — nothing is published — exactly when an address has a length other than 0, 4, 16;
`ColTime` is 0 in the model) -/
def sflowCodec (f : List Nat) : Codec where
  Cache := Unit
  Msg := Sflow.Datagram
  decode := fun _ _ bs =>
    (match Sflow.decode f bs with
     | .ok d => some d
     | _ => none, ())
  hasData := fun d => !(d.counters.isEmpty && d.samples.isEmpty)
  marshal := fun d => Sflow.Json.sflowJson? d

theorem outcome_eq_some {K : Codec} {r : Option K.Msg} {p : Bytes} :
    outcome K r = some p ↔ ∃ m, r = some m ∧ K.hasData m = true ∧ K.marshal m = some p := by
  cases r with
  | none => simp [outcome]
  | some m => by_cases hd : K.hasData m = true <;> simp [outcome, hd]

section Flow
variable {dec : Cache → Bytes → Bytes → Except Err (Hdr × List Record × List Err) × Cache}
  {mar : Bytes → Hdr → List (List JField) → Bytes} {ft : Val → Bytes}

theorem flowCodec_cache (c : Cache) (a bs : Bytes) : ((flowCodec dec mar ft).decode c a bs).2 = (dec c a bs).2 := by
  simp only [flowCodec]
  split <;> simp only [*]

/-- a template protocol publishes the marshalled decode of the datagram, when the decode has a record -/
theorem flowCodec_outcome {c : Cache} {a bs p : Bytes} :
    outcome (flowCodec dec mar ft) ((flowCodec dec mar ft).decode c a bs).1 = some p ↔
      ∃ h recs errs, (dec c a bs).1 = .ok (h, recs, errs) ∧ recs ≠ [] ∧ p = mar (ipBytes a) h (toJRecs ft recs) := by
  rw [outcome_eq_some]
  simp only [flowCodec]
  split <;> rename_i heq <;> simp [heq, and_assoc, @eq_comm _ p]

theorem toJRecs_floatOk (ft : Val → Bytes) (hft : ∀ i e v, FloatOk ⟨i, e, v, ft v⟩) (recs : List Record) :
    ∀ r ∈ toJRecs ft recs, ∀ f ∈ r, FloatOk f := by
  intro r hr f hf
  simp only [toJRecs, List.mem_map] at hr
  obtain ⟨r0, _, rfl⟩ := hr
  simp only [List.mem_map] at hf
  obtain ⟨f0, _, rfl⟩ := hf
  exact hft f0.id f0.ent f0.val

/-- … and with the three facts about the marshaller (`…_marshal_eq_render`, `…_marshal_valid`, `…_marshal_accepted`) what it
publishes is the rendering of the message tree, valid and accepted -/
theorem flowCodec_published {tree : Bytes → List Nat → List (List JField) → Json}
    (hr : ∀ a hdr recs, mar (ipBytes a) hdr recs = render (tree a hdr recs))
    (hv : ∀ a hdr recs, (∀ r ∈ recs, ∀ f ∈ r, FloatOk f) → DVal (mar (ipBytes a) hdr recs) (tree a hdr recs))
    (ha : ∀ a hdr recs, (∀ r ∈ recs, ∀ f ∈ r, FloatOk f) → jsonValid (mar (ipBytes a) hdr recs) = true)
    (hft : ∀ i e v, FloatOk ⟨i, e, v, ft v⟩) {c : Cache} {a bs p : Bytes}
    (hp : outcome (flowCodec dec mar ft) ((flowCodec dec mar ft).decode c a bs).1 = some p) :
    ∃ h recs errs, (dec c a bs).1 = .ok (h, recs, errs) ∧ recs ≠ [] ∧
      p = render (tree a h (toJRecs ft recs)) ∧ DVal p (tree a h (toJRecs ft recs)) ∧ jsonValid p = true := by
  obtain ⟨h, recs, errs, h1, h2, rfl⟩ := flowCodec_outcome.mp hp
  have hfo := toJRecs_floatOk ft hft recs
  exact ⟨h, recs, errs, h1, h2, hr .., hv _ _ _ hfo, ha _ _ _ hfo⟩

end Flow

theorem v5_outcome {c : Unit} {a bs p : Bytes} (hp : outcome v5CodecA (v5CodecA.decode c a bs).1 = some p) :
    ∃ m, V5.decode bs = .ok m ∧ m.flows ≠ [] ∧
      p = render (v5Tree a m) ∧ DVal p (v5Tree a m) ∧ jsonValid p = true := by
  obtain ⟨x, hm, hd, hmar⟩ := outcome_eq_some.mp hp
  cases hx : V5.decode bs with
  | error e => simp [v5CodecA, hx] at hm
  | ok m =>
    simp only [v5CodecA, hx] at hm
    cases hm
    cases hmar
    exact ⟨m, rfl, by simpa [v5CodecA] using hd, v5_marshal_eq_render .., v5_marshal_valid .., v5_marshal_accepted ..⟩

theorem sflow_outcome {f : List Nat} {c : Unit} {a bs p : Bytes}
    (hp : outcome (sflowCodec f) ((sflowCodec f).decode c a bs).1 = some p) :
    ∃ dg, Sflow.decode f bs = .ok dg ∧ (dg.counters ≠ [] ∨ dg.samples ≠ []) ∧
      p = render (Sflow.Json.sflowTree dg) ∧ DVal p (Sflow.Json.sflowTree dg) ∧ jsonValid p = true := by
  obtain ⟨dg, hm, hd, hmar⟩ := outcome_eq_some.mp hp
  have hdec : Sflow.decode f bs = .ok dg := by
    simp only [sflowCodec] at hm
    split at hm <;> cases hm
    assumption
  have hne : dg.counters ≠ [] ∨ dg.samples ≠ [] := by
    simpa only [sflowCodec, Bool.not_eq_true', Bool.and_eq_false_iff, List.isEmpty_eq_false_iff] using hd
  exact ⟨dg, hdec, hne, sflowJson?_eq_some hmar, sflow_published_valid dg p hmar, sflow_published_accepted dg p hmar⟩

/-- **C05 end to end (IPFIX)**: every payload the IPFIX worker pool publishes -/
theorem ipfix_published_end_to_end {cfg : Cfg} {spec : CountSpec} (ft : Val → Bytes)
    (hft : ∀ i e v, FloatOk ⟨i, e, v, ft v⟩) (hc : Canonical spec cfg.prog)
    {c : Cache} {mem0 : BufId → Bytes} {s : State (ipfixCodec ft)}
    (hr : Reach cfg (init (ipfixCodec ft) c mem0) s) (id : Nat) (p : Bytes)
    (hp : Event.published id p ∈ s.log) :
    ∃ (d : Dgram) (cache : Cache) (h : Hdr) (recs : List Record) (errs : List Err),
      Event.received d ∈ s.log ∧ d.id = id ∧
      (Ipfix.decode cache d.addr d.bytes).1 = .ok (h, recs, errs) ∧ recs ≠ [] ∧
      p = render (ipfixTree d.addr h (toJRecs ft recs)) ∧
      DVal p (ipfixTree d.addr h (toJRecs ft recs)) ∧ jsonValid p = true := by
  obtain ⟨d, cache, h1, h2, _, hout⟩ := (C12.published_is_solo hc hr).2.2 id p hp
  obtain ⟨h, recs, errs, h3⟩ :=
    flowCodec_published ipfix_marshal_eq_render ipfix_marshal_valid ipfix_marshal_accepted hft hout
  exact ⟨d, cache, h, recs, errs, h1, h2, h3⟩

/-- **C05 end to end (NetFlow v9)** -/
theorem v9_published_end_to_end {cfg : Cfg} {spec : CountSpec} (ft : Val → Bytes)
    (hft : ∀ i e v, FloatOk ⟨i, e, v, ft v⟩) (hc : Canonical spec cfg.prog)
    {c : Cache} {mem0 : BufId → Bytes} {s : State (v9Codec ft)}
    (hr : Reach cfg (init (v9Codec ft) c mem0) s) (id : Nat) (p : Bytes)
    (hp : Event.published id p ∈ s.log) :
    ∃ (d : Dgram) (cache : Cache) (h : Hdr) (recs : List Record) (errs : List Err),
      Event.received d ∈ s.log ∧ d.id = id ∧
      (V9.decode cache d.addr d.bytes).1 = .ok (h, recs, errs) ∧ recs ≠ [] ∧
      p = render (v9Tree d.addr h (toJRecs ft recs)) ∧
      DVal p (v9Tree d.addr h (toJRecs ft recs)) ∧ jsonValid p = true := by
  obtain ⟨d, cache, h1, h2, _, hout⟩ := (C12.published_is_solo hc hr).2.2 id p hp
  obtain ⟨h, recs, errs, h3⟩ :=
    flowCodec_published v9_marshal_eq_render v9_marshal_valid v9_marshal_accepted hft hout
  exact ⟨d, cache, h, recs, errs, h1, h2, h3⟩

/-- **C05 end to end (NetFlow v5)**: unconditional (no float or string fields) -/
theorem v5_published_end_to_end {cfg : Cfg} {spec : CountSpec} (hc : Canonical spec cfg.prog)
    {mem0 : BufId → Bytes} {s : State v5CodecA}
    (hr : Reach cfg (init v5CodecA () mem0) s) (id : Nat) (p : Bytes)
    (hp : Event.published id p ∈ s.log) :
    ∃ (d : Dgram) (m : V5.Msg),
      Event.received d ∈ s.log ∧ d.id = id ∧ V5.decode d.bytes = .ok m ∧ m.flows ≠ [] ∧
      p = render (v5Tree d.addr m) ∧ DVal p (v5Tree d.addr m) ∧ jsonValid p = true := by
  obtain ⟨d, _, h1, h2, _, hout⟩ := (C12.published_is_solo hc hr).2.2 id p hp
  obtain ⟨m, h3⟩ := v5_outcome hout
  exact ⟨d, m, h1, h2, h3⟩

/-- **C05 end to end (sFlow)**: unconditional -/
theorem sflow_published_end_to_end {cfg : Cfg} {spec : CountSpec} (f : List Nat) (hc : Canonical spec cfg.prog)
    {mem0 : BufId → Bytes} {s : State (sflowCodec f)}
    (hr : Reach cfg (init (sflowCodec f) () mem0) s) (id : Nat) (p : Bytes)
    (hp : Event.published id p ∈ s.log) :
    ∃ (d : Dgram) (dg : Sflow.Datagram),
      Event.received d ∈ s.log ∧ d.id = id ∧ Sflow.decode f d.bytes = .ok dg ∧
      (dg.counters ≠ [] ∨ dg.samples ≠ []) ∧
      p = render (Sflow.Json.sflowTree dg) ∧ DVal p (Sflow.Json.sflowTree dg) ∧ jsonValid p = true := by
  obtain ⟨d, _, h1, h2, _, hout⟩ := (C12.published_is_solo hc hr).2.2 id p hp
  obtain ⟨dg, h3⟩ := sflow_outcome hout
  exact ⟨d, dg, h1, h2, h3⟩

/-- `ipfix_published_end_to_end` with the worker loop the current source has (the regenerated `Gen.ipfixWorker`) -/
theorem ipfix_published_current_source (ft : Val → Bytes) (hft : ∀ i e v, FloatOk ⟨i, e, v, ft v⟩)
    {cfg : Cfg} (hprog : cfg.prog = Gen.ipfixWorker)
    {c : Cache} {mem0 : BufId → Bytes} {s : State (ipfixCodec ft)}
    (hr : Reach cfg (init (ipfixCodec ft) c mem0) s) (id : Nat) (p : Bytes)
    (hp : Event.published id p ∈ s.log) :
    jsonValid p = true ∧ ∃ (d : Dgram) (cache : Cache) (h : Hdr) (recs : List Record) (errs : List Err),
      Event.received d ∈ s.log ∧ d.id = id ∧
      (Ipfix.decode cache d.addr d.bytes).1 = .ok (h, recs, errs) ∧
      p = render (ipfixTree d.addr h (toJRecs ft recs)) := by
  have hc : Canonical .onMsg cfg.prog := by rw [hprog]; exact C12.ipfixWorker_canonical
  obtain ⟨d, cache, h, recs, errs, h1, h2, h3, _, h5, _, h7⟩ := ipfix_published_end_to_end ft hft hc hr id p hp
  exact ⟨h7, d, cache, h, recs, errs, h1, h2, h3, h5⟩

/-- what reaches the raw-socket sink, for any codec: hand the payloads the MQ consumer has taken from the channel, in the order
it took them, to the producer model; for every outcome script of the network and every retry limit, every chunk the sink
receives is one of those payloads — a solo result — followed by a newline -/
theorem sink_chunk_is_solo {K : Codec} {cfg : Cfg} {spec : CountSpec} (hc : Canonical spec cfg.prog)
    {c : K.Cache} {mem0 : BufId → Bytes} {s : State K} (hr : Reach cfg (init K c mem0) s)
    (wo : Nat → Producer.WOut) (dl : Nat → Producer.DOut) (rm : Nat) :
    ∀ e ∈ (Producer.run wo dl rm (s.delivered.reverse.map (·.2))).delivered,
      ∃ id p, Sol s.log id p ∧ e.data = p ++ [10] := by
  intro e he
  obtain ⟨m, hm, hdata⟩ := (C14.delivered_in_order wo dl rm _).2 e he
  have hmem : m ∈ s.delivered.reverse.map (·.2) := List.mem_of_getElem? hm
  simp only [List.mem_map, List.mem_reverse] at hmem
  obtain ⟨⟨id, p⟩, hin, rfl⟩ := hmem
  exact ⟨id, p, (C12.published_is_solo hc hr).2.1 id p hin, hdata⟩

/-- **C05 ∘ C14 (lines received by the message-queue sink, IPFIX over the raw-socket producer)**: hand the payloads the
MQ consumer has taken from the channel, in the order it took them, to the producer model; then for every outcome
script of the network (writes that succeed, are lost, fail; dials that succeed or fail) and every retry limit, every
chunk the sink receives is the rendering of the message tree of the decode of one received datagram's own octets,
followed by a newline — nothing else ever reaches the sink -/
theorem ipfix_sink_lines {cfg : Cfg} {spec : CountSpec} (ft : Val → Bytes)
    (hft : ∀ i e v, FloatOk ⟨i, e, v, ft v⟩) (hc : Canonical spec cfg.prog)
    {c : Cache} {mem0 : BufId → Bytes} {s : State (ipfixCodec ft)}
    (hr : Reach cfg (init (ipfixCodec ft) c mem0) s)
    (wo : Nat → Producer.WOut) (dl : Nat → Producer.DOut) (rm : Nat) :
    ∀ e ∈ (Producer.run wo dl rm (s.delivered.reverse.map (·.2))).delivered,
      ∃ (d : Dgram) (cache : Cache) (h : Hdr) (recs : List Record) (errs : List Err),
        Event.received d ∈ s.log ∧ (Ipfix.decode cache d.addr d.bytes).1 = .ok (h, recs, errs) ∧ recs ≠ [] ∧
        e.data = render (ipfixTree d.addr h (toJRecs ft recs)) ++ [10] ∧
        jsonValid (render (ipfixTree d.addr h (toJRecs ft recs))) = true := by
  intro e he
  obtain ⟨id, p, ⟨d, cache, h1, _, _, hout⟩, hdata⟩ := sink_chunk_is_solo hc hr wo dl rm e he
  obtain ⟨h, recs, errs, h3, h4, rfl, _, h7⟩ :=
    flowCodec_published ipfix_marshal_eq_render ipfix_marshal_valid ipfix_marshal_accepted hft hout
  exact ⟨d, cache, h, recs, errs, h1, h3, h4, hdata, h7⟩

/-! **lines at the sink, NetFlow v9 / v5 / sFlow**: as `ipfix_sink_lines` -/

theorem v9_sink_lines {cfg : Cfg} {spec : CountSpec} (ft : Val → Bytes)
    (hft : ∀ i e v, FloatOk ⟨i, e, v, ft v⟩) (hc : Canonical spec cfg.prog)
    {c : Cache} {mem0 : BufId → Bytes} {s : State (v9Codec ft)}
    (hr : Reach cfg (init (v9Codec ft) c mem0) s)
    (wo : Nat → Producer.WOut) (dl : Nat → Producer.DOut) (rm : Nat) :
    ∀ e ∈ (Producer.run wo dl rm (s.delivered.reverse.map (·.2))).delivered,
      ∃ (d : Dgram) (cache : Cache) (h : Hdr) (recs : List Record) (errs : List Err),
        Event.received d ∈ s.log ∧ (V9.decode cache d.addr d.bytes).1 = .ok (h, recs, errs) ∧
        e.data = render (v9Tree d.addr h (toJRecs ft recs)) ++ [10] ∧
        jsonValid (render (v9Tree d.addr h (toJRecs ft recs))) = true := by
  intro e he
  obtain ⟨id, p, ⟨d, cache, h1, _, _, hout⟩, hdata⟩ := sink_chunk_is_solo hc hr wo dl rm e he
  obtain ⟨h, recs, errs, h3, _, rfl, _, h7⟩ :=
    flowCodec_published v9_marshal_eq_render v9_marshal_valid v9_marshal_accepted hft hout
  exact ⟨d, cache, h, recs, errs, h1, h3, hdata, h7⟩

theorem v5_sink_lines {cfg : Cfg} {spec : CountSpec} (hc : Canonical spec cfg.prog)
    {mem0 : BufId → Bytes} {s : State v5CodecA} (hr : Reach cfg (init v5CodecA () mem0) s)
    (wo : Nat → Producer.WOut) (dl : Nat → Producer.DOut) (rm : Nat) :
    ∀ e ∈ (Producer.run wo dl rm (s.delivered.reverse.map (·.2))).delivered,
      ∃ (d : Dgram) (m : V5.Msg), Event.received d ∈ s.log ∧ V5.decode d.bytes = .ok m ∧
        e.data = render (v5Tree d.addr m) ++ [10] ∧ jsonValid (render (v5Tree d.addr m)) = true := by
  intro e he
  obtain ⟨id, p, ⟨d, _, h1, _, _, hout⟩, hdata⟩ := sink_chunk_is_solo hc hr wo dl rm e he
  obtain ⟨m, h3, _, rfl, _, h7⟩ := v5_outcome hout
  exact ⟨d, m, h1, h3, hdata, h7⟩

theorem sflow_sink_lines {cfg : Cfg} {spec : CountSpec} (f : List Nat) (hc : Canonical spec cfg.prog)
    {mem0 : BufId → Bytes} {s : State (sflowCodec f)} (hr : Reach cfg (init (sflowCodec f) () mem0) s)
    (wo : Nat → Producer.WOut) (dl : Nat → Producer.DOut) (rm : Nat) :
    ∀ e ∈ (Producer.run wo dl rm (s.delivered.reverse.map (·.2))).delivered,
      ∃ (d : Dgram) (dg : Sflow.Datagram), Event.received d ∈ s.log ∧ Sflow.decode f d.bytes = .ok dg ∧
        e.data = render (Sflow.Json.sflowTree dg) ++ [10] ∧ jsonValid (render (Sflow.Json.sflowTree dg)) = true := by
  intro e he
  obtain ⟨id, p, ⟨d, _, h1, _, _, hout⟩, hdata⟩ := sink_chunk_is_solo hc hr wo dl rm e he
  obtain ⟨dg, h3, _, rfl, _, h7⟩ := sflow_outcome hout
  exact ⟨d, dg, h1, h3, hdata, h7⟩

/-- the whole chain for a conforming exporter: if the received datagram is the encoding of a well-formed IPFIX
message `m` (RFC 7011 as specified in `Spec.Wire`, templates in the cache or announced earlier in `m`), the payload is
the rendering of the tree of `m`'s header and of exactly `m`'s records, in wire order (C03 `message_roundtrip` ∘
`ipfix_marshal_eq_render`) -/
theorem ipfix_wellformed_published (ft : Val → Bytes) (cache : Cache) (addr : Bytes) (m : Wire.Ipfix.Msg)
    (hw : Wire.Ipfix.wfMsg addr cache m = true) (hne : (Wire.Ipfix.expected addr cache m).1 ≠ []) :
    outcome (ipfixCodec ft) ((ipfixCodec ft).decode cache addr (Wire.Ipfix.encodeMsg m)).1 =
      some (render (ipfixTree addr (Wire.Ipfix.expectedHdr m) (toJRecs ft (Wire.Ipfix.expected addr cache m).1))) := by
  have hdec := Ipfix.decode_roundtrip cache addr m hw
  -- the octets as a variable, see `flowCodec`
  generalize Wire.Ipfix.encodeMsg m = bs at hdec ⊢
  exact (flowCodec_outcome (dec := Ipfix.decode) (mar := Ipfix.marshal)).mpr
    ⟨_, _, _, by rw [hdec], hne, (ipfix_marshal_eq_render ..).symm⟩

/-- the same chain for a conforming NetFlow v9 exporter: if the received datagram is the encoding of a well-formed
export packet `m` (RFC 3954 as specified in `Spec.Wire`, templates in the cache or announced earlier in `m`), the payload
is the rendering of the tree of `m`'s header and of exactly `m`'s records, in wire order (C06 `packet_roundtrip` ∘
`v9_marshal_eq_render`) -/
theorem v9_wellformed_published (ft : Val → Bytes) (cache : Cache) (addr : Bytes) (m : Wire.V9.Msg)
    (hw : Wire.V9.wfMsg addr cache m = true) (hne : (Wire.V9.expected addr cache m).1 ≠ []) :
    outcome (v9Codec ft) ((v9Codec ft).decode cache addr (Wire.V9.encodeMsg m)).1 =
      some (render (v9Tree addr (Wire.V9.expectedHdr m) (toJRecs ft (Wire.V9.expected addr cache m).1))) := by
  have hdec := V9.decode_roundtrip cache addr m hw
  generalize Wire.V9.encodeMsg m = bs at hdec ⊢
  exact (flowCodec_outcome (dec := V9.decode) (mar := V9.marshal)).mpr
    ⟨_, _, _, by rw [hdec], hne, (v9_marshal_eq_render ..).symm⟩

/-- non-vacuity of the chain: the example message of C03 (a template, an options template, two data sets with a
variable-length field and set padding, three records) meets both hypotheses -/
example : Wire.Ipfix.wfMsg C03.exAddr [] C03.exMsg = true ∧ (Wire.Ipfix.expected C03.exAddr [] C03.exMsg).1 ≠ [] := by
  decide +kernel

end EndToEnd

/-! ## What the leaves carry -/

/-- numbers are exact: the emitted decimal text is an RFC 8259 number and reads back, in base 10, as the
decoded value — for every natural number (64-bit extremes included) -/
theorem number_text_exact (n : Nat) : isNumber (natDigits n) = true ∧ decode10 (natDigits n) = n :=
  ⟨natDigits_isNumber n, decode10_natDigits n⟩

/-- every string value — arbitrary octets — is escaped to a valid JSON string body -/
theorem string_text_valid (s : Bytes) : isStrBody (escString s) = true := escString_isStrBody s

/-- printable ASCII without `" \ < > &` is carried verbatim -/
theorem plain_text_verbatim {s : Bytes} (h : ∀ c ∈ s, 32 ≤ c ∧ c < 127 ∧ c ∉ [34, 92, 60, 62, 38]) :
    escString s = s := escString_id_of_plain h

/-! ## Non-vacuity: concrete messages -/

/-- one record with a string `a"b`, a boolean with enterprise number 9, a NaN (`ftext = NaN`), the 64-bit
extremes, an IPv6 address and a finite float; and one empty record -/
def exampleRecs : List (List JField) :=
  [[⟨8, 0, .str [97, 34, 98], []⟩, ⟨1, 9, .bool true, []⟩, ⟨2, 0, .f32 0x7FC00000, [78, 97, 78]⟩,
    ⟨3, 0, .i64 (-9223372036854775808), []⟩, ⟨4, 0, .u64 18446744073709551615, []⟩,
    ⟨27, 0, .ip [0x20, 0x01, 0x0d, 0xb8, 0, 0, 0, 0, 0, 0, 0, 0, 0, 0, 0, 1], []⟩,
    ⟨5, 0, .f64 0x3FF8000000000000, [49, 46, 53, 69, 43, 48, 48]⟩], []]

example : Ipfix.marshal (ipBytes [192, 0, 2, 1]) [10, 64, 1700000000, 7, 42] exampleRecs =
    txt ["{\"AgentID\":\"192.0.2.1\",\"Header\":{\"Versio",
      "n\":10,\"Length\":64,\"ExportTime\":170000000",
      "0,\"SequenceNo\":7,\"DomainID\":42},\"DataSet",
      "s\":[[{\"I\":8,\"V\":\"a\\\"b\"},{\"I\":1,\"V\":true,",
      "\"E\":9},{\"I\":2,\"V\":\"NaN\"},{\"I\":3,\"V\":-922",
      "3372036854775808},{\"I\":4,\"V\":18446744073",
      "709551615},{\"I\":27,\"V\":\"2001:db8::1\"},{\"",
      "I\":5,\"V\":1.5E+00}],[]]}"] := by
  rw [txt_eq]; decide +kernel

/-- the float assumption holds for the example (`NaN` is a string body, `1.5E+00` a number) -/
theorem example_floatOk : ∀ r ∈ exampleRecs, ∀ f ∈ r, FloatOk f := by decide +kernel

example : DVal (Ipfix.marshal (ipBytes [192, 0, 2, 1]) [10, 64, 1700000000, 7, 42] exampleRecs)
    (ipfixTree [192, 0, 2, 1] [10, 64, 1700000000, 7, 42] exampleRecs) :=
  ipfix_marshal_valid _ _ _ example_floatOk

example : V9.marshal (ipBytes [192, 0, 2, 1]) [9, 1, 1000, 1700000000, 7, 42] [[⟨1, 0, .u32 1500, []⟩]] =
    txt ["{\"AgentID\":\"192.0.2.1\",\"Header\":{\"Versio",
      "n\":9,\"Count\":1,\"SysUpTime\":1000,\"UNIXSec",
      "s\":1700000000,\"SeqNum\":7,\"SrcID\":42},\"Da",
      "taSets\":[[{\"I\":1,\"V\":1500}]]}"] := by
  rw [txt_eq]; decide +kernel

/-- the hypotheses are not trivially satisfiable: a float field whose text is not a number violates `FloatOk` -/
example : ¬ FloatOk ⟨5, 0, .f64 0x3FF8000000000000, [120]⟩ := by decide

end Vflow.C05
