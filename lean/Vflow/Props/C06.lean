import Vflow.Proofs.RoundV9
import Vflow.Proofs.HeaderLayouts
import Vflow.Proofs.Interpret
import Vflow.Proofs.V9IRTpl
import Vflow.Gen.Sites
import Vflow.Spec.Sites
/-!
# C06 — NetFlow v9: data records are decoded exactly as their templates describe

Round trip between the RFC 3954 encoders of `Vflow/Spec/Wire.lean` (written without reference to the
decoder) and the decoder model `Vflow/Model/V9.lean` (tied to `netflow/v9/decoder.go` by the
differential correspondence).  From the leaves up: record, record loop, flowset, export packet.

Preconditions (the Boolean predicates `Wire.V9.wf…`, all decidable; see `Spec/Wire.lean`):
* every specifier of the template is in the information model (`lookupElem … = some …`), v9 has no
  enterprise numbers (`ent = 0`), each value has exactly the announced length;
* no hypothesis on field lengths versus the field type's data type ("any field types and lengths"): the reported
  value is `interpret octets type` for every length, and for the integer types that is the value of ALL the field's
  octets whenever the field is at least as long as the type and at most 8 octets (`unsigned_field_value`,
  `signed_field_value`) — F24: before the repair `Interpret` read the leading octets of the type's size, so
  FLOW_SAMPLER_ID (unsigned8) in the 2 octets `00 07` was 0 (`f24_repaired`) — and the raw octets otherwise (`field_raw`);
* every data record has a positive length (`0 < recLen t`; a template of zero-length fields describes
  no octets, the decoder reports `zero-length data record`, F2); records of 4 octets or fewer are included — before
  the padding repair the decoder dropped them at the end of a flowset (finding K2, `k2_repaired`);
* padding (any content) of a data flowset **shorter than the template's record** (`wfDataPad`: the only
  rule that can tell padding from a record; 4-octet alignment gives 0..3 octets, 8-octet alignment up to
  7) — before the padding repair the decoder's constant `> 4` took 5..7 octets of padding after records of 8 or
  more octets for a record and the whole packet was lost (F16, `k3_repaired`); padding of a
  template flowset at most 4 octets (`wfTplPad`: RFC 3954 gives 0..3; the unchanged template loop stops
  when at most 4 octets are left);
* flowset length < 65536, flowsets non-empty, a template record has at least one field (a 4-octet
  template record would be taken for padding);
* a data flowset's template is what `Cache.lookup` returns for (exporter address, flowset id) in the
  cache *as updated by the preceding flowsets of the same packet* — no assumption about the hash
  other than `lookup (insert c a id t) a id = some t` (`announced_template_in_force`).
-/
namespace Vflow.C06
open Vflow Vflow.Wire

/-- **C06 level 1 (record)**: for every template and every conforming list of field values (scope
fields first) the decoder returns exactly `expectedRecord` — per field the element id, enterprise 0 and
`interpret octets type` — and the reader ends right behind the record. -/
theorem record_roundtrip (t : Template) (vals : List Bytes) (rest : Bytes) (c : Nat)
    (hw : Wire.V9.wfRecord t vals = true) :
    V9.decodeData t ⟨Wire.V9.encodeRecord t vals ++ rest, c⟩ =
      (.ok (expectedRecord t vals), ⟨rest, c + (Wire.V9.encodeRecord t vals).length⟩) :=
  V9.decodeData_roundtrip t vals rest c hw

/-- **C06 level 2a (record loop)**: over `records ++ pad ++ rest`, the flowset header announcing exactly
`records ++ pad`, the loop yields all records in order, stops in front of the padding, no error. -/
theorem recordLoop_roundtrip (ctx : V9.Ctx) (hsid : 255 < ctx.setId) (hbig : 0 < Wire.V9.recLen ctx.tr)
    (records : List (List Bytes)) (pad rest : Bytes) (fuel : Nat) (st : V9.St)
    (hrec : ∀ x ∈ records, Wire.V9.wfRecord ctx.tr x = true) (hpad : pad.length < Wire.V9.recLen ctx.tr)
    (hrem : st.r.rem = V9.body ctx.tr records ++ (pad ++ rest))
    (hleft : V9.leftInt ctx st.r = (((V9.body ctx.tr records).length + pad.length : Nat) : Int))
    (hfuel : records.length < fuel) :
    V9.setLoop ctx fuel st =
      ({ st with r := ⟨pad ++ rest, st.r.cnt + (V9.body ctx.tr records).length⟩,
                 recs := st.recs ++ records.map (expectedRecord ctx.tr) }, none) :=
  V9.setLoop_data ctx hsid hbig records pad rest fuel st hrec hpad hrem hleft hfuel

/-- **C06 level 2b (data flowset)**: `decodeSet` consumes the whole encoded data flowset (the padding
is skipped), appends exactly the expected records in order, leaves the cache unchanged, no error. -/
theorem dataFlowSet_roundtrip (addr : Bytes) (t : Template) (records : List (List Bytes))
    (pad rest : Bytes) (c fuel : Nat) (cache : Cache) (recs : List Record)
    (hw : Wire.V9.wfSet addr cache (.data t records pad) = true) (hfuel : records.length < fuel) :
    V9.decodeSet addr fuel ⟨⟨Wire.V9.encodeDataSet t records pad ++ rest, c⟩, cache, recs⟩ =
      (⟨⟨rest, c + (Wire.V9.encodeDataSet t records pad).length⟩, cache,
        recs ++ records.map (expectedRecord t)⟩, none) :=
  V9.decodeSet_data addr t records pad rest c fuel cache recs hw hfuel

/-- **C06 level 2c (template flowset)**: inserts exactly its templates — in order, a later one
overriding an earlier one with the same id (`insertAll`) — and adds no record. -/
theorem templateFlowSet_roundtrip (addr : Bytes) (ts : List Template) (pad rest : Bytes)
    (c fuel : Nat) (cache : Cache) (recs : List Record)
    (hw : Wire.V9.wfSet addr cache (.tpl ts pad) = true) (hfuel : ts.length < fuel) :
    V9.decodeSet addr fuel ⟨⟨Wire.V9.encodeTemplateSet ts pad ++ rest, c⟩, cache, recs⟩ =
      (⟨⟨rest, c + (Wire.V9.encodeTemplateSet ts pad).length⟩, insertAll addr cache ts, recs⟩, none) :=
  V9.decodeSet_tpl addr ts pad rest c fuel cache recs hw hfuel

/-- **C06 level 2d (options template flowset)** -/
theorem optTemplateFlowSet_roundtrip (addr : Bytes) (ts : List Template) (pad rest : Bytes)
    (c fuel : Nat) (cache : Cache) (recs : List Record)
    (hw : Wire.V9.wfSet addr cache (.optTpl ts pad) = true) (hfuel : ts.length < fuel) :
    V9.decodeSet addr fuel ⟨⟨Wire.V9.encodeOptTemplateSet ts pad ++ rest, c⟩, cache, recs⟩ =
      (⟨⟨rest, c + (Wire.V9.encodeOptTemplateSet ts pad).length⟩, insertAll addr cache ts, recs⟩, none) :=
  V9.decodeSet_optTpl addr ts pad rest c fuel cache recs hw hfuel

/-- **C06 level 3 (export packet)**: for every cache `c`, exporter address and well-formed packet `m`
the decoder returns the header, exactly the expected records of all data flowsets in order, no
non-fatal error, and the cache updated with the packet's templates; templates announced earlier in the
packet are in force for its later data flowsets. -/
theorem packet_roundtrip (c : Cache) (addr : Bytes) (m : Wire.V9.Msg)
    (hw : Wire.V9.wfMsg addr c m = true) :
    V9.decode c addr (Wire.V9.encodeMsg m) =
      (.ok (Wire.V9.expectedHdr m, (Wire.V9.expected addr c m).1, []), (Wire.V9.expected addr c m).2) :=
  V9.decode_roundtrip c addr m hw

/-- the template a flowset has just announced is the one a data flowset with its id gets: the cache
condition of `wfSet` is met by "announced earlier in this packet under the same id" for every cache
and every hash function behaviour -/
theorem announced_template_in_force (addr : Bytes) (c : Cache) (t : Template) (pad : Bytes) :
    Cache.lookup (Wire.V9.applySet addr ([], c) (.tpl [t] pad)).2 addr t.tid = some t := by
  simp only [Wire.V9.applySet, insertAll, List.foldl_cons, List.foldl_nil]
  exact lookup_insert c addr t.tid t

/-! ## Non-vacuity: a concrete well-formed packet (template flowset, then a data flowset using it,
two records of two IPv4 fields, two octets of padding), starting from the empty cache -/

def exAddr : Bytes := [192, 0, 2, 1]
def exTpl : Template := ⟨256, 2, 0, [], [⟨8, 4, 0⟩, ⟨12, 4, 0⟩]⟩
def exMsg : Wire.V9.Msg :=
  { count := 3, upTime := 1000, secs := 1700000000, seq := 7, srcId := 1,
    sets := [.tpl [exTpl] [],
             .data exTpl [[[10,0,0,1],[10,0,0,2]], [[10,0,0,3],[10,0,0,4]]] [0,0]] }

set_option maxRecDepth 100000 in
example : Wire.V9.wfMsg exAddr [] exMsg = true := by decide +kernel

set_option maxRecDepth 100000 in
example : (Wire.V9.expected exAddr [] exMsg).1 =
    [[⟨8, 0, .ip [10,0,0,1]⟩, ⟨12, 0, .ip [10,0,0,2]⟩], [⟨8, 0, .ip [10,0,0,3]⟩, ⟨12, 0, .ip [10,0,0,4]⟩]] := by
  decide +kernel

/-! ## Repaired findings: K2 (records of ≤ 4 octets at the end of a flowset were dropped) and F16 (5..7
octets of flowset padding were read as a record and the whole packet was lost).  The two inputs are well-formed
packets, and the model — evaluated by the kernel, independently of `packet_roundtrip` — decodes them completely. -/

def k2Tpl : Template := ⟨256, 1, 0, [], [⟨8, 4, 0⟩]⟩
/-- template with one 4-octet field, then a data flowset with three records, no padding -/
def k2Msg : Wire.V9.Msg :=
  { count := 4, upTime := 1000, secs := 1700000000, seq := 8, srcId := 1,
    sets := [.tpl [k2Tpl] [], .data k2Tpl [[[10,0,0,1]], [[10,0,0,2]], [[10,0,0,3]]] []] }

/-- **K2 repaired**: three records of 4 octets are encoded; before the padding repair the decoder
returned the first two and no error; the packet is well-formed and all three come back. -/
theorem k2_repaired :
    Wire.V9.wfMsg exAddr [] k2Msg = true ∧
    (Wire.V9.expected exAddr [] k2Msg).1.length = 3 ∧
    (V9.decode [] exAddr (Wire.V9.encodeMsg k2Msg)).1 =
      .ok (Wire.V9.expectedHdr k2Msg, (Wire.V9.expected exAddr [] k2Msg).1, []) ∧
    Wire.V9.recLen k2Tpl = 4 := by
  decide +kernel

/-- template with two 4-octet fields, then three data flowsets of one 8-octet record followed by 5, 6 and 7
zero octets of padding (shorter than the record: 8-octet alignment) -/
def k3Msg : Wire.V9.Msg :=
  { count := 4, upTime := 1000, secs := 1700000000, seq := 9, srcId := 1,
    sets := [.tpl [exTpl] [],
             .data exTpl [[[10,0,0,1],[10,0,0,2]]] [0,0,0,0,0],
             .data exTpl [[[10,0,0,3],[10,0,0,4]]] [0,0,0,0,0,0],
             .data exTpl [[[10,0,0,5],[10,0,0,6]]] [0,0,0,0,0,0,0]] }

/-- **F16 repaired (long padding)**: before the repair each of the three data flowsets alone made `Decode`
return `(nil, "can not read the data")` — the padding, longer than 4 octets, was read as a record.  The packets
are well-formed (padding shorter than the 8-octet record) and decode completely.  (`k3…` names the input; the
finding is F16.) -/
theorem k3_repaired :
    Wire.V9.wfMsg exAddr [] k3Msg = true ∧
    (V9.decode [] exAddr (Wire.V9.encodeMsg k3Msg)).1 =
      .ok (Wire.V9.expectedHdr k3Msg,
           [[⟨8, 0, .ip [10,0,0,1]⟩, ⟨12, 0, .ip [10,0,0,2]⟩], [⟨8, 0, .ip [10,0,0,3]⟩, ⟨12, 0, .ip [10,0,0,4]⟩],
            [⟨8, 0, .ip [10,0,0,5]⟩, ⟨12, 0, .ip [10,0,0,6]⟩]], []) := by
  decide +kernel

set_option maxRecDepth 100000 in
/-- padding as long as a record is not padding: the bound of `wfDataPad` is sharp (8 octets after 8-octet
records are a fourth record) -/
example : Wire.V9.wfSet exAddr (Wire.V9.applySet exAddr ([], []) (.tpl [exTpl] [])).2
    (.data exTpl [[[10,0,0,1],[10,0,0,2]]] [0,0,0,0,0,0,0,0]) = false := by decide +kernel

/-! ## Repaired finding F24: an integer field longer than its type decoded to its leading octets -/

/-- **C06 (value of an unsigned field)**: what the round trips report for an unsigned8 … unsigned64 field type sent in
`k ≤ n ≤ 8` octets (`k` the type's size; RFC 3954 §8 gives most counters and indices a configurable length `N`, and
exporters send unsigned8 / unsigned32 types in 2, 4 or 8 octets) is the field type id, enterprise 0 and the number
whose network-byte-order representation ALL `n` octets are (`Wire.unsignedValue`, written without reference to
`interpret`).  False before the F24 repair. -/
theorem unsigned_field_value (s : Spec) (v : Bytes) (fid ty k : Nat)
    (hl : lookupElem s.ent s.id = some (fid, ty)) (ht : uintSize? ty = some k)
    (hk : k ≤ v.length) (h8 : v.length ≤ 8) :
    (expectedField s v).id = fid ∧ (expectedField s v).ent = s.ent ∧
    intOf (expectedField s v).val = some (unsignedValue v : Int) :=
  Interp.expected_unsigned s v fid ty k hl ht hk h8

/-- **C06 (value of a signed field)**: two's complement over all `8·n` bits of the field -/
theorem signed_field_value (s : Spec) (v : Bytes) (fid ty k : Nat)
    (hl : lookupElem s.ent s.id = some (fid, ty)) (ht : intSize? ty = some k)
    (hk : k ≤ v.length) (h8 : v.length ≤ 8) :
    (expectedField s v).id = fid ∧ (expectedField s v).ent = s.ent ∧
    intOf (expectedField s v).val = some (signedValue v) :=
  Interp.expected_signed s v fid ty k hl ht hk h8

/-- the Go type of an integer value: that of the type's size for a full-size field, 64 bits for a longer one -/
theorem integer_field_kind (b : Bytes) (t k : Nat) (hk : k ≤ b.length) (h8 : b.length ≤ 8) :
    (uintSize? t = some k → (interpret b t).kind = (if b.length = k then "u" ++ toString (8 * k) else "u64")) ∧
    (intSize? t = some k → (interpret b t).kind = (if b.length = k then "i" ++ toString (8 * k) else "i64")) :=
  ⟨fun ht => (Interp.interpret_unsigned b t k ht hk h8).2, fun ht => (Interp.interpret_signed b t k ht hk h8).2⟩

/-- **C06 ("raw octets when encoded shorter than the type's size")**, and an integer field of more than 8 octets -/
theorem field_raw (s : Spec) (v : Bytes) (fid ty : Nat)
    (hl : lookupElem s.ent s.id = some (fid, ty))
    (h : v.length < minLen ty ∨ (((uintSize? ty).isSome ∨ (intSize? ty).isSome) ∧ 8 < v.length)) :
    expectedField s v = ⟨fid, s.ent, .raw v⟩ :=
  Interp.expected_raw s v fid ty hl h

/-- FLOW_SAMPLER_ID (48, unsigned8) announced with 2 octets, INPUT_SNMP (10, unsigned32) with 8, IPV4_SRC_ADDR -/
def f24Tpl : Template := ⟨256, 3, 0, [], [⟨48, 2, 0⟩, ⟨10, 8, 0⟩, ⟨8, 4, 0⟩]⟩
/-- the witness of `corpus/C06/nf9-wf--F24-overlong-integers.txt` (2 octets of flowset padding) and a second record -/
def f24Msg : Wire.V9.Msg :=
  { count := 1, upTime := 0, secs := 0, seq := 1, srcId := 0,
    sets := [.tpl [f24Tpl] [],
             .data f24Tpl [[[0,7], [0,0,0,0,0,0,0,5], [10,0,0,1]],
                           [[1,0], [255,255,255,255,255,255,255,255], [10,0,0,2]]] [0,0]] }

/-- **F24 repaired**: before the repair the first record came back as `uint8(0)`, `uint32(0)` — the leading octets of
the type's size — and the second as `uint8(1)`, `uint32(4294967295)`; now the values are those of the fields. -/
theorem f24_repaired :
    Wire.V9.wfMsg exAddr [] f24Msg = true ∧
    (V9.decode [] exAddr (Wire.V9.encodeMsg f24Msg)).1 =
      .ok (Wire.V9.expectedHdr f24Msg,
           [[⟨48, 0, .u64 7⟩, ⟨10, 0, .u64 5⟩, ⟨8, 0, .ip [10,0,0,1]⟩],
            [⟨48, 0, .u64 256⟩, ⟨10, 0, .u64 18446744073709551615⟩, ⟨8, 0, .ip [10,0,0,2]⟩]], []) := by
  decide +kernel

/-! ## Tie: the fixed-layout readers of the model read the layouts REGENERATED from the decoder source
(`Gen.Layouts.*`, re-extracted from the `unmarshal` chains on every run; what a `readFields` result says about the
single reads is in `Proofs/HeaderLayouts.lean`) -/
theorem gen_header_layout (r : Rd) : V9.readHeader r = V5.readFields (V5.widths Gen.Layouts.v9Header) r := by
  simp only [Gen.Layouts.v9Header, V5.widths, List.map, V5.readFields, V9.readHeader, Rd.rU16, Rd.rU32]
  rcases h1 : r.readN 2 with _ | ⟨x1, r1⟩ <;> simp only [Option.map]
  rcases h2 : r1.readN 2 with _ | ⟨x2, r2⟩ <;> simp only []
  rcases h3 : r2.readN 4 with _ | ⟨x3, r3⟩ <;> simp only []
  rcases h4 : r3.readN 4 with _ | ⟨x4, r4⟩ <;> simp only []
  rcases h5 : r4.readN 4 with _ | ⟨x5, r5⟩ <;> simp only []
  rcases h6 : r5.readN 4 with _ | ⟨x6, r6⟩ <;> simp only []
theorem gen_setHeader_layout (addr : Bytes) (fuel : Nat) (st : V9.St) (sid len : Nat) (r2 : Rd)
    (h : V5.readFields (V5.widths Gen.Layouts.v9SetHeader) st.r = some ([sid, len], r2)) :
    V9.decodeSet addr fuel st =
      if len < 4 then ({ st with r := r2 }, some .badSetLen)
      else V9.setBody addr sid len st.r.cnt fuel { st with r := r2 } := by
  obtain ⟨r1, h1, h2⟩ := HeaderLayouts.readFields_22_some h
  simp only [V9.decodeSet, h1, h2]
theorem gen_setHeader_short (addr : Bytes) (fuel : Nat) (st : V9.St)
    (h : V5.readFields (V5.widths Gen.Layouts.v9SetHeader) st.r = none) :
    (V9.decodeSet addr fuel st).2 = some .short := by
  rcases HeaderLayouts.readFields_22_none h with h1 | ⟨_, _, h1, h2⟩ <;> simp only [V9.decodeSet, *]
theorem gen_tplHeader_layout (r : Rd) (tid n : Nat) (r2 : Rd)
    (h : V5.readFields (V5.widths Gen.Layouts.v9TplHeader) r = some ([tid, n], r2)) :
    V9.parseTpl r = (match V9.readSpecs n r2 [] with
      | (.ok fs, r3) => (.ok ⟨tid, n, 0, [], fs⟩, r3)
      | (.error e, r3) => (.error e, r3)) := by
  obtain ⟨r1, h1, h2⟩ := HeaderLayouts.readFields_22_some h
  simp only [V9.parseTpl, h1, h2]
  rfl
theorem gen_tplHeader_short (r : Rd) (h : V5.readFields (V5.widths Gen.Layouts.v9TplHeader) r = none) :
    (V9.parseTpl r).1 = .error .short := by
  rcases HeaderLayouts.readFields_22_none h with h1 | ⟨_, _, h1, h2⟩ <;> simp only [V9.parseTpl, *]
theorem gen_optTplHeader_short (r : Rd) (h : V5.readFields (V5.widths Gen.Layouts.v9OptTplHeader) r = none) :
    (V9.parseOptTpl r).1 = .error .short := by
  rcases HeaderLayouts.readFields_222_none h with h1 | ⟨_, _, h1, h2⟩ | ⟨_, _, _, _, h1, h2, h3⟩ <;>
    simp only [V9.parseOptTpl, *]
theorem gen_optTplHeader_layout (r : Rd) (tid sl ol : Nat) (r3 : Rd)
    (h : V5.readFields (V5.widths Gen.Layouts.v9OptTplHeader) r = some ([tid, sl, ol], r3)) :
    V9.parseOptTpl r =
      (match V9.readSpecs (sl / 4) r3 [] with
       | (.error e, r4) => (.error e, r4)
       | (.ok scs, r4) =>
         match V9.readSpecs (ol / 4) r4 [] with
         | (.error e, r5) => (.error e, r5)
         | (.ok fs, r5) => (.ok ⟨tid, 0, 0, scs, fs⟩, r5)) := by
  obtain ⟨r1, r2, h1, h2, h3⟩ := HeaderLayouts.readFields_222_some h
  simp only [V9.parseOptTpl, h1, h2, h3]
  rfl
theorem gen_fieldSpec_layout (r : Rd) (id len : Nat) (r2 : Rd)
    (h : V5.readFields (V5.widths Gen.Layouts.v9FieldSpec) r = some ([id, len], r2)) :
    V9.readSpec r = (.ok ⟨id, len, 0⟩, r2) := by
  obtain ⟨r1, h1, h2⟩ := HeaderLayouts.readFields_22_some h
  simp only [V9.readSpec, h1, h2]
theorem gen_fieldSpec_short (r : Rd) (h : V5.readFields (V5.widths Gen.Layouts.v9FieldSpec) r = none) :
    (V9.readSpec r).1 = .error .short := by
  rcases HeaderLayouts.readFields_22_none h with h1 | ⟨_, _, h1, h2⟩ <;> simp only [V9.readSpec, *]
theorem gen_layout_field_names :
    Gen.Layouts.v9Header.map (·.1) = ["Version", "Count", "SysUpTime", "UNIXSecs", "SeqNum", "SrcID"] ∧
    Gen.Layouts.v9SetHeader.map (·.1) = ["FlowSetID", "Length"] ∧
    Gen.Layouts.v9TplHeader.map (·.1) = ["TemplateID", "FieldCount"] ∧
    Gen.Layouts.v9OptTplHeader.map (·.1) = ["TemplateID", "OptionScopeLen", "OptionLen"] ∧
    Gen.Layouts.v9FieldSpec.map (·.1) = ["ElementID", "Length"] :=
  HeaderLayouts.gen_field_names.2.2.2.2

/-! ## Tie: the decoder's functions TRANSLATED statement by statement on every run (`Gen.V9IR`, from the Go AST by
`go/cmd/factgen/ipfix_ir.go`, second profile) and interpreted with Go's semantics (`Model/IpfixIR.lean`; linked in
`Model/V9Prog.lean`) ARE the functions of the hand-written model `Vflow.V9` — for every argument, reader state, cache,
exporter address and fuel (as C03 for IPFIX; proofs in `Proofs/V9IR.lean`, `Proofs/V9IRTpl.lean`; `decodeSet` /
`Decode`: C09). -/

/-- the struct declarations the interpreter's field semantics stand for -/
theorem gen_ir_structs :
    Gen.V9IR.structs =
      [("nonfatalError", "error"),
       ("PacketHeader", "Version uint16; Count uint16; SysUpTime uint32; UNIXSecs uint32; SeqNum uint32; SrcID uint32"),
       ("SetHeader", "FlowSetID uint16; Length uint16"),
       ("TemplateHeader", "TemplateID uint16; FieldCount uint16; OptionLen uint16; OptionScopeLen uint16"),
       ("TemplateFieldSpecifier", "ElementID uint16; Length uint16"),
       ("TemplateRecord", "TemplateID uint16; FieldCount uint16; FieldSpecifiers []TemplateFieldSpecifier; ScopeFieldCount uint16; ScopeFieldSpecifiers []TemplateFieldSpecifier"),
       ("DecodedField", "ID uint16; Value interface{}"),
       ("Decoder", "raddr net.IP; reader *reader.Reader"),
       ("Message", "AgentID string; Header PacketHeader; DataSets [][]DecodedField"),
       ("ElementKey", "EnterpriseNo uint32; ElementID uint16"),
       ("InfoElementEntry", "FieldID uint16; Name string; Type FieldType")] := rfl

/-- **`TemplateRecord.minRecordLen` translated = `V9.minRecLen`** -/
theorem gen_ir_minRecordLen (addr : Bytes) (fuel : Nat) (st : IpfixIR.St) (t : Template) :
    V9Prog.minRecordLen addr fuel [.tpl t] st = some (st, [.tpl t], [.int (V9.minRecLen t)]) :=
  V9IR.minRecordLen_sem addr fuel st t

/-- **`Decoder.decodeData` translated = `V9.decodeData`** for every template, reader state and cache: per specifier the
read, THEN the element lookup (a missing element is reported after its octets were consumed), `Interpret`, `append`;
the reader's error is fatal, the missing element non-fatal -/
theorem gen_ir_decodeData (addr : Bytes) (fuel : Nat) (r : Rd) (c : Cache) (t : Template)
    (hs : t.scope.length < fuel) (hf : t.fields.length < fuel) :
    V9Prog.decodeData addr fuel [.tpl t] ⟨r, c⟩ =
      some (⟨(V9.decodeData t r).2, c⟩, [], V9Prog.recResult (V9.decodeData t r).1) :=
  V9IR.decodeData_sem addr fuel r c t hs hf

/-- **`TemplateFieldSpecifier.unmarshal` translated = `V9.readSpec`** (the Go struct has no enterprise number: the
third component of the model's `Spec` is 0 and stays 0) -/
theorem gen_ir_fieldSpecUnmarshal (addr : Bytes) (fuel : Nat) (r : Rd) (c : Cache) (s0 : Spec) (h0 : s0.ent = 0) :
    match V9.readSpec r with
    | (.ok s, r') => V9Prog.fieldSpecUnmarshal addr fuel [.spec s0] ⟨r, c⟩ = some (⟨r', c⟩, [.spec s], [.nil])
    | (.error e, r') => ∃ s', V9Prog.fieldSpecUnmarshal addr fuel [.spec s0] ⟨r, c⟩ =
        some (⟨r', c⟩, [.spec s'], [.err ⟨false, e⟩]) :=
  V9IR.fieldSpecUnmarshal_sem addr fuel r c s0 h0

/-- **`TemplateHeader.unmarshal` translated**: TemplateID, FieldCount -/
theorem gen_ir_tplHeaderUnmarshal (addr : Bytes) (fuel : Nat) (r : Rd) (c : Cache) (a b ol osl : Nat) :
    V9Prog.tplHeaderUnmarshal addr fuel [.thdr9 a b ol osl] ⟨r, c⟩ =
      match r.rU16 with
      | none => some (⟨r, c⟩, [.thdr9 0 b ol osl], [IpfixIR.errReader])
      | some (tid, r1) =>
        match r1.rU16 with
        | none => some (⟨r1, c⟩, [.thdr9 tid 0 ol osl], [IpfixIR.errReader])
        | some (n, r2) => some (⟨r2, c⟩, [.thdr9 tid n ol osl], [.nil]) :=
  V9IR.tplHeaderUnmarshal_sem addr fuel r c a b ol osl

/-- **`TemplateHeader.unmarshalOpts` translated**: TemplateID, OptionScopeLen, OptionLen (in this order) -/
theorem gen_ir_tplHeaderUnmarshalOpts (addr : Bytes) (fuel : Nat) (r : Rd) (c : Cache) (a b ol osl : Nat) :
    V9Prog.tplHeaderUnmarshalOpts addr fuel [.thdr9 a b ol osl] ⟨r, c⟩ =
      match r.rU16 with
      | none => some (⟨r, c⟩, [.thdr9 0 b ol osl], [IpfixIR.errReader])
      | some (tid, r1) =>
        match r1.rU16 with
        | none => some (⟨r1, c⟩, [.thdr9 tid b ol 0], [IpfixIR.errReader])
        | some (sl, r2) =>
          match r2.rU16 with
          | none => some (⟨r2, c⟩, [.thdr9 tid b 0 sl], [IpfixIR.errReader])
          | some (l, r3) => some (⟨r3, c⟩, [.thdr9 tid b l sl], [.nil]) :=
  V9IR.tplHeaderUnmarshalOpts_sem addr fuel r c a b ol osl

/-- **`SetHeader.unmarshal` translated**: FlowSetID then Length -/
theorem gen_ir_setHeaderUnmarshal (addr : Bytes) (fuel : Nat) (r : Rd) (c : Cache) (a b : Nat) :
    V9Prog.setHeaderUnmarshal addr fuel [.shdr a b] ⟨r, c⟩ =
      match r.rU16 with
      | none => some (⟨r, c⟩, [.shdr 0 b], [IpfixIR.errReader])
      | some (sid, r1) =>
        match r1.rU16 with
        | none => some (⟨r1, c⟩, [.shdr sid 0], [IpfixIR.errReader])
        | some (len, r2) => some (⟨r2, c⟩, [.shdr sid len], [.nil]) :=
  V9IR.setHeaderUnmarshal_sem addr fuel r c a b

/-- **`TemplateRecord.unmarshal` translated = `V9.parseTpl`** on a fresh record, for every reader state; `fuel`: more
than the octets left -/
theorem gen_ir_tplRecordUnmarshal (addr : Bytes) (fuel : Nat) (r : Rd) (c : Cache) (hfuel : r.rem.length < fuel) :
    match V9.parseTpl r with
    | (.ok t, r') => V9Prog.tplRecordUnmarshal addr fuel [.tpl V9.emptyTpl] ⟨r, c⟩ = some (⟨r', c⟩, [.tpl t], [.nil])
    | (.error e, r') => ∃ t', V9Prog.tplRecordUnmarshal addr fuel [.tpl V9.emptyTpl] ⟨r, c⟩ =
        some (⟨r', c⟩, [.tpl t'], [.err ⟨false, e⟩]) :=
  V9IR.tplRecordUnmarshal_sem addr fuel r c hfuel

/-- **`TemplateRecord.unmarshalOpts` translated = `V9.parseOptTpl`**: `OptionScopeLen / 4` scope specifiers, then
`OptionLen / 4` option specifiers; `FieldCount` stays 0 -/
theorem gen_ir_tplRecordUnmarshalOpts (addr : Bytes) (fuel : Nat) (r : Rd) (c : Cache) (hfuel : r.rem.length < fuel) :
    match V9.parseOptTpl r with
    | (.ok t, r') => V9Prog.tplRecordUnmarshalOpts addr fuel [.tpl V9.emptyTpl] ⟨r, c⟩ = some (⟨r', c⟩, [.tpl t], [.nil])
    | (.error e, r') => ∃ t', V9Prog.tplRecordUnmarshalOpts addr fuel [.tpl V9.emptyTpl] ⟨r, c⟩ =
        some (⟨r', c⟩, [.tpl t'], [.err ⟨false, e⟩]) :=
  V9IR.tplRecordUnmarshalOpts_sem addr fuel r c hfuel

/-- **`PacketHeader.unmarshal` translated = `V9.readHeader`** -/
theorem gen_ir_pktHeaderUnmarshal (addr : Bytes) (fuel : Nat) (r : Rd) (c : Cache) (h0 : IpfixIR.PHdr) :
    match V9.readHeader r with
    | some (h, r') => ∃ h1 : IpfixIR.PHdr, h1.toHdr = h ∧
        V9Prog.pktHeaderUnmarshal addr fuel [.phdr h0] ⟨r, c⟩ = some (⟨r', c⟩, [.phdr h1], [.nil])
    | none => ∃ r' h1, V9Prog.pktHeaderUnmarshal addr fuel [.phdr h0] ⟨r, c⟩ =
        some (⟨r', c⟩, [.phdr h1], [IpfixIR.errReader]) :=
  V9IR.pktHeaderUnmarshal_sem addr fuel r c h0

/-- **`PacketHeader.validate` translated**: version 9 or the (fatal) version error -/
theorem gen_ir_pktHeaderValidate (addr : Bytes) (fuel : Nat) (st : IpfixIR.St) (h : IpfixIR.PHdr) :
    V9Prog.pktHeaderValidate addr fuel [.phdr h] st =
      some (st, [.phdr h], [if h.toHdr.headD 0 ≠ 9 then .err ⟨false, .badVersion⟩ else .nil]) :=
  V9IR.pktHeaderValidate_sem addr fuel st h

set_option maxRecDepth 100000 in
/-- non-vacuity: the translated `unmarshalOpts` on an options template record with 4 octets of scope and 8 octets of
options (template 257), and the translated `minRecordLen` on the example template -/
example : V9Prog.tplRecordUnmarshalOpts [] 19 [.tpl V9.emptyTpl]
      ⟨⟨[1, 1, 0, 4, 0, 8, 0, 1, 0, 4, 0, 8, 0, 4, 0, 12, 0, 4], 0⟩, []⟩ =
    some (⟨⟨[], 18⟩, []⟩, [.tpl ⟨257, 0, 0, [⟨1, 4, 0⟩], [⟨8, 4, 0⟩, ⟨12, 4, 0⟩]⟩], [.nil]) :=
  gen_ir_tplRecordUnmarshalOpts [] 19 ⟨[1, 1, 0, 4, 0, 8, 0, 1, 0, 4, 0, 8, 0, 4, 0, 12, 0, 4], 0⟩ [] (by decide)
example : V9Prog.minRecordLen [] 0 [.tpl exTpl] ⟨⟨[], 0⟩, []⟩ = some (⟨⟨[], 0⟩, []⟩, [.tpl exTpl], [.int 8]) := by
  rw [gen_ir_minRecordLen]; rfl

/-- **Tie (control-flow skeleton)**: every branch / loop condition, switch case and `break` / `continue` of the
sources this model mirrors, re-extracted on every run, is exactly the reviewed inventory in `Spec/Sites.lean`
(which names the model clause of each).  A changed bound, a new or dropped branch breaks this obligation. -/
theorem guards_reviewed : Gen.Sites.guardsV9 = Spec.Sites.guardsV9 := rfl

end Vflow.C06
