import Vflow.Props.C01Sflow
import Vflow.Props.C02Flow
import Vflow.Props.C02Sflow
import Vflow.Gen.Sites
import Vflow.Spec.Sites
import Vflow.Gen.JsonWrites
import Vflow.Gen.InterpretTbl
import Vflow.Model.JsonOut
import Vflow.Model.V5
/-!
# C01 — no datagram, however malformed, can crash the collector

Model convention: every Go operation that can panic is an explicit check in the model.  For the
sFlow decoder and the packet dissector that check yields the outcome `panic`, and
`C01Sflow.decode_ne_panic` / `dissect_ne_panic` / `steps_ne_panic` prove it is never produced.
For the IPFIX / NetFlow v9 / v5 decoders every slice of the datagram goes through the reader, whose
guard is the model's `Rd.readN` (C19: it never takes more than remains), so those models are total
functions with no `panic` outcome at all; what remains to be shown is stated below:
* every payload is *either decoded or rejected with an error* (no third outcome: not even `fuel`,
  i.e. non-termination), for every cache — hence for every history of earlier payloads;
* `Interpret`'s unguarded `(*b)[0]` / `binary.BigEndian.UintK(*b)` reads stay inside the value
  (`interpret_reads_in_range`);
* the JSON encoders have a writing arm for every dynamic type `Interpret` can return
  (`writeValue_covers_interpret`, over regenerated facts: before the F11 repair `bool` had none);
* the inventory of panic-capable expressions in the anchored files is the reviewed one
  (`panic_sites_reviewed`, over regenerated facts).
-/
namespace Vflow.C01
open Vflow

theorem decoded_or_rejected {α : Type} {x : Except Err α} (h : x ≠ .error .fuel) :
    (∃ m, x = .ok m) ∨ (∃ e, x = .error e ∧ e ≠ .fuel) :=
  match x, h with
  | .ok m, _ => .inl ⟨m, rfl⟩
  | .error e, h => .inr ⟨e, rfl, fun he => h (he ▸ rfl)⟩

/-- **C01 (IPFIX)**: for every cache (= every history), exporter address and payload, `Decode` returns a
message or an error — never runs forever -/
theorem ipfix_decoded_or_rejected (c : Cache) (addr bs : Bytes) :
    (∃ m, (Ipfix.decode c addr bs).1 = .ok m) ∨ (∃ e, (Ipfix.decode c addr bs).1 = .error e ∧ e ≠ .fuel) :=
  decoded_or_rejected (C02Flow.ipfix_terminates c addr bs)

/-- **C01 (NetFlow v9)** -/
theorem v9_decoded_or_rejected (c : Cache) (addr bs : Bytes) :
    (∃ m, (V9.decode c addr bs).1 = .ok m) ∨ (∃ e, (V9.decode c addr bs).1 = .error e ∧ e ≠ .fuel) :=
  decoded_or_rejected (C02Flow.v9_terminates c addr bs)

/-- **C01 (NetFlow v5)**: the v5 model is a total function by structural recursion (no fuel): every
payload yields a message or one of the four error classes -/
theorem v5_decoded_or_rejected (bs : Bytes) :
    (∃ m, V5.decode bs = .ok m) ∨ (∃ e, V5.decode bs = .error e) := by
  cases h : V5.decode bs with
  | ok m => left; exact ⟨m, rfl⟩
  | error e => right; exact ⟨e, rfl⟩

/-- octets `Interpret` reads without a further check for FieldType `t`
(`(*b)[0]`: 1; `binary.BigEndian.Uint16/32/64(*b)`: 2/4/8, which panic on a shorter slice) -/
def neededBy (t : Nat) : Nat :=
  match t with
  | 11 | 1 | 5 => 1
  | 2 | 6 => 2
  | 3 | 7 | 9 | 15 => 4
  | 4 | 8 | 10 | 16 | 17 | 18 => 8
  | _ => 0

/-- the `len(*b) < t.minLen()` guard covers every unguarded read of `Interpret`, for every FieldType.  (The over-long
branch added by the F24 repair, `wideUint` / `wideInt`, reads the field with `for _, x := range b` only: no index or
slice expression — `panic_sites_reviewed` below is unchanged by it — and `shift = 64 - 8·len` is computed after the
`len(b) > 8` return, so it is 0 … 56; the values it returns are `uint64` / `int64` / `[]byte`, kinds that
`writeValue_covers_interpret` already covers.) -/
theorem interpret_reads_in_range (b : Bytes) (t : Nat) (h : ¬ b.length < minLen t) : neededBy t ≤ b.length := by
  have : neededBy t ≤ minLen t := by
    by_cases ht : t < 21
    · exact (by decide +kernel : ∀ t, t < 21 → neededBy t ≤ minLen t) t ht
    · -- beyond the last FieldType (20) `neededBy` is 0
      obtain ⟨k, rfl⟩ : ∃ k, t = k + 21 := ⟨t - 21, by omega⟩
      exact Nat.zero_le _
  omega

/-- Go dynamic type of each `Interpret` result kind -/
def goType : String → String
  | "bool" => "bool" | "u8" => "uint8" | "u16" => "uint16" | "u32" => "uint32" | "u64" => "uint64"
  | "i8" => "int8" | "i16" => "int16" | "i32" => "int32" | "i64" => "int64"
  | "f32" => "float32" | "f64" => "float64" | "mac" => "net.HardwareAddr" | "str" => "string"
  | "ip" => "net.IP" | "raw" => "[]uint8" | k => "?" ++ k

/-- over regenerated facts: every dynamic type `Interpret` returns has a writing arm in both encoders,
so `JSONMarshal` has no error path for decoded messages -/
theorem writeValue_covers_interpret :
    (∀ e ∈ Gen.InterpretTbl.interpretKind, goType e.2 ∈ Gen.JsonWrites.ipfixWriteValueArms) ∧
    (∀ e ∈ Gen.InterpretTbl.interpretKind, goType e.2 ∈ Gen.JsonWrites.v9WriteValueArms) := by
  decide +kernel

/-- over regenerated facts: the panic-capable expressions of the anchored files are the reviewed inventory -/
theorem panic_sites_reviewed : Gen.Sites.panicSites = Spec.Sites.panicSites := rfl

/-- non-vacuity: a malformed payload (set length 3) is rejected, a well-formed empty message is decoded -/
example : (Ipfix.decode [] [10,0,0,1] [0,10,0,20,0,0,0,0,0,0,0,1,0,0,0,0,1,0,0,3,9,9]).1 = .error .badSetLen := by rfl
example : (Ipfix.decode [] [10,0,0,1] [0,10,0,16,0,0,0,0,0,0,0,1,0,0,0,0]).1 = .ok ([10,16,0,1,0], [], []) := by rfl

/-! ## Histories: any sequence of payloads on the four ports -/

/-- one UDP payload arriving on one of the four ports (`addr` = the exporter's address as the listener reports it) -/
inductive Payload where
  | ipfix (addr bs : Bytes)
  | v9 (addr bs : Bytes)
  | v5 (bs : Bytes)
  | sflow (bs : Bytes)

/-- the two template caches of the process -/
structure Caches where
  ipfix : Cache
  v9 : Cache

/-- what processing one payload can come to: `crashed` stands for a panic or a decode that never returns -/
inductive Outcome where
  | decoded | rejected | crashed
deriving DecidableEq, Repr

def flowOutcome {α : Type} : Except Err α → Outcome
  | .ok _ => .decoded
  | .error .fuel => .crashed
  | .error _ => .rejected

def sflowOutcome {α : Type} : Sflow.Res α → Outcome
  | .ok _ => .decoded
  | .err _ => .rejected
  | .panic => .crashed
  | .fuel => .crashed

/-- the collector processing one payload with sFlow type filter `f`: the outcome and the caches afterwards -/
def process (f : List Nat) (cs : Caches) : Payload → Outcome × Caches
  | .ipfix addr bs => (flowOutcome (Ipfix.decode cs.ipfix addr bs).1, { cs with ipfix := (Ipfix.decode cs.ipfix addr bs).2 })
  | .v9 addr bs => (flowOutcome (V9.decode cs.v9 addr bs).1, { cs with v9 := (V9.decode cs.v9 addr bs).2 })
  | .v5 bs => ((match V5.decode bs with | .ok _ => .decoded | .error _ => .rejected), cs)
  | .sflow bs => (sflowOutcome (Sflow.decode f bs), cs)

/-- the outcomes of a sequence of payloads, each processed with the caches the earlier ones left -/
def outcomes (f : List Nat) (cs : Caches) : List Payload → List Outcome
  | [] => []
  | p :: ps => (process f cs p).1 :: outcomes f (process f cs p).2 ps

theorem flowOutcome_ne_crashed {α : Type} {x : Except Err α}
    (h : (∃ m, x = .ok m) ∨ (∃ e, x = .error e ∧ e ≠ .fuel)) : flowOutcome x ≠ .crashed := by
  rcases h with ⟨m, rfl⟩ | ⟨e, rfl, he⟩
  · nofun
  · cases e <;> simp_all [flowOutcome]

/-- one payload, whatever the caches: decoded or rejected -/
theorem process_ne_crashed (f : List Nat) (cs : Caches) (p : Payload) : (process f cs p).1 ≠ .crashed := by
  cases p with
  | ipfix addr bs => exact flowOutcome_ne_crashed (ipfix_decoded_or_rejected cs.ipfix addr bs)
  | v9 addr bs => exact flowOutcome_ne_crashed (v9_decoded_or_rejected cs.v9 addr bs)
  | v5 bs => simp only [process]; cases V5.decode bs <;> nofun
  | sflow bs =>
    have h1 := C01Sflow.decode_ne_panic f bs
    have h2 := C02Sflow.decode_ne_fuel f bs
    simp only [process]
    cases h : Sflow.decode f bs <;> simp_all [sflowOutcome]

/-- **C01 (histories, all four ports)**: for every finite sequence of payloads arriving in any order on the IPFIX,
NetFlow v9, NetFlow v5 and sFlow ports from any exporter addresses, starting from any caches (the empty ones of a fresh
start, or the ones loaded from a cache file), and every sFlow type filter, each payload is decoded or rejected — none
panics or runs forever, whatever templates the earlier payloads have installed.  By induction over the sequence from
the four per-payload theorems (which hold for *every* cache, reachable or not). -/
theorem history_never_crashes (f : List Nat) (cs : Caches) (ps : List Payload) :
    ∀ o ∈ outcomes f cs ps, o = .decoded ∨ o = .rejected := by
  induction ps generalizing cs with
  | nil => intro o h; simp [outcomes] at h
  | cons p ps ih =>
    intro o h
    simp only [outcomes, List.mem_cons] at h
    rcases h with h | h
    · have := process_ne_crashed f cs p
      subst h; cases hp : (process f cs p).1 <;> simp_all
    · exact ih _ o h

/-- every payload of the sequence has an outcome (processing goes on after a rejected payload) -/
theorem history_outcomes_length (f : List Nat) (cs : Caches) (ps : List Payload) :
    (outcomes f cs ps).length = ps.length := by
  induction ps generalizing cs with
  | nil => rfl
  | cons p ps ih => simp [outcomes, ih]


/-- a template set (id 256: one field, element 4 in one octet) and a data set for it -/
def tmplMsg : Bytes := [0,10,0,28, 0,0,0,0, 0,0,0,1, 0,0,0,0, 0,2,0,12, 1,0,0,1, 0,4,0,1]
def dataMsg : Bytes := [0,10,0,21, 0,0,0,0, 0,0,0,2, 0,0,0,0, 1,0,0,5, 17]

set_option maxRecDepth 20000 in
/-- non-vacuity: a history over all four ports with malformed payloads, and one in which the template installed by an
earlier payload selects the decode path of a later one (no record before it, one record after it, none for another
exporter) -/
example : outcomes [] ⟨[], []⟩
    [.ipfix [10,0,0,1] [0,10,0,20,0,0,0,0,0,0,0,1,0,0,0,0,1,0,0,3,9,9],
     .ipfix [10,0,0,1] [0,10,0,16,0,0,0,0,0,0,0,1,0,0,0,0],
     .v9 [10,0,0,1] [0,9], .v5 [0,5,0,1], .sflow [0,0,0,5, 0,0,0,1]] =
    [.rejected, .decoded, .rejected, .rejected, .rejected] ∧
    (Ipfix.decode [] [10,0,0,1] dataMsg).1 = .ok ([10, 21, 0, 2, 0], [], [.unknownTpl]) ∧
    (Ipfix.decode (process [] ⟨[], []⟩ (.ipfix [10,0,0,1] tmplMsg)).2.ipfix [10,0,0,1] dataMsg).1 =
      .ok ([10, 21, 0, 2, 0], [[⟨4, 0, .u8 17⟩]], []) ∧
    (Ipfix.decode (process [] ⟨[], []⟩ (.ipfix [10,0,0,1] tmplMsg)).2.ipfix [10,0,0,2] dataMsg).1 =
      .ok ([10, 21, 0, 2, 0], [], [.unknownTpl]) := by
  refine ⟨by decide +kernel, by rfl, by rfl, by rfl⟩

end Vflow.C01
