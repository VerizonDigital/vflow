import Vflow.Model.Shutdown
import Vflow.Proofs.MainSignal
import Vflow.Proofs.ShutdownReach
import Vflow.Gen.ShutdownIR
import Vflow.Gen.PidFile
/-!
# C15 — SIGTERM stops the collector cleanly

Protocol-level model (`Vflow.Model.Shutdown`): one read loop and one `shutdown()` goroutine per
protocol, statements regenerated from the Go source (`Vflow.Gen.ShutdownIR`): the statements of
`shutdown()`, the body of the read loop, the statements of `run()` after the loop, and every send on /
close of a UDP work queue anywhere in package vflow.  "Every schedule" = every interleaving of the
atomic steps; the reachable state space of each generated program is finite and is enumerated
completely by the kernel (`decide +kernel`: the kernel evaluates the `Decidable` instance, no axiom is added; the instances of
`Proofs/ShutdownReach` make it enumerate over state numbers), so the statements below hold for all interleavings of the modelled steps,
not for a sample.

Since the F21 repair the read loop — the only sender — closes its queue itself after it has left the
loop and `shutdown()` does not touch it, so `no_send_on_closed_queue` holds with **no** hypothesis:
neither the hand-off hypothesis `H` of the design nor the fact about the two 1 s constants
(`Assume.none` = every interleaving; `deadlines_only_restrict` and `handoff_irrelevant` carry the safety statements over to
every combination of the assumptions).  The program before the repair is kept as `unrepairedProgs`: there the send on the closed
channel is reachable as soon as `H` is dropped (`close_race_without_H`; reproduced on the real binary
by freezing the process for longer than the grace period, `e2e.stall_cycle`).

Since the F27 repair the dump of `shutdown()` is guarded by an atomic "loaded" flag that `run()` sets right after it
has assigned the loaded cache to the package-level variable.  `run()` and `shutdown()` are two goroutines with only the
signal in between, and `GetCache` takes as long as the file of the previous run is large, so the model's reader starts
BEFORE those statements (`RPc.starting`): `dump_only_after_load` says that in no interleaving the file is rewritten
from a cache that has not been loaded, `skipped_dump_loses_nothing` that a skipped dump leaves the file as it was in a
run that never read a datagram.  On the programs before the repair (`unguardedProgs`) the wipe is reachable under
every combination of the timing assumptions, in a run that ends normally (`early_dump_wipes_unguarded`; on the real
binary: `e2e.early_stop_cycle`).

The pid file (F28) is a separate, sequential model (`Vflow.Model.PidFile`, facts `Vflow.Gen.PidFile`):
`is_running_spec` and its corollaries at the end of this file.

What the model cannot exhibit (labelled partial in the manifest): wall-clock seconds, signal
delivery, the non-atomic `stop` flag.  Survival of the templates across the restart is the
composition with C10 (dump under the shard read locks = one consistent snapshot) and C11
(`load_save`): `dump_after_stop_and_sleep` says the dump is taken after the read loop has been told
to stop and the grace period has elapsed.
-/
namespace Vflow.C15
open Vflow.Shutdown Vflow.Gen.ShutdownIR

/-- the statements that matter for synchronisation -/
def essential (p : List SStep) : List SStep := p.filter fun s => s ≠ .guardEnabled ∧ s ≠ .log

/-! ## Obligations over the regenerated facts -/

/-- `shutdown()` sets the stop flag, sleeps, dumps **if the cache has been loaded** (F27 repair) — and does **not**
close the queue (F21 repair) -/
theorem gen_ipfix_shutdown : essential ipfixShutdown = [.setStop, .sleep1s, .dumpIfLoaded] := by decide
theorem gen_v9_shutdown : essential netflowV9Shutdown = [.setStop, .sleep1s, .dumpIfLoaded] := by decide
theorem gen_v5_shutdown : essential netflowV5Shutdown = [.setStop, .sleep1s] := by decide
theorem gen_sflow_shutdown : essential sflowShutdown = [.setStop, .sleep1s, .closeConn] := by decide

def canonicalReadLoop : List RStep := [.whileNotStop, .getBuf, .deadline1s, .read, .onErrorContinue, .countUDP, .enqueue]

/-- what follows the loop in `run()`: the reader closes the queue it sends on (the generator emits
`.closeQueue` only for `close(ch)` with `ch` the channel of the loop's send statement) -/
def canonicalAfterLoop : List RStep := [.closeQueue]

/-- all four read loops have the shape the model's reader implements: check `stop`, arm a 1 s
deadline, read, on error go back to the check, count, enqueue; after the loop: close the queue -/
theorem gen_read_loops :
    ipfixReadLoop = canonicalReadLoop ∧ netflowV9ReadLoop = canonicalReadLoop ∧
    netflowV5ReadLoop = canonicalReadLoop ∧ sflowReadLoop = canonicalReadLoop ∧
    ipfixAfterLoop = canonicalAfterLoop ∧ netflowV9AfterLoop = canonicalAfterLoop ∧
    netflowV5AfterLoop = canonicalAfterLoop ∧ sflowAfterLoop = canonicalAfterLoop := by decide

/-- what `run()` does with the template cache before its read loop: the cache variable `shutdown()` dumps is assigned
the result of `GetCache` on the file `shutdown()` dumps to, THEN the flag the dump tests is stored (atomically), then
(IPFIX) the loaded cache is handed to the RPC goroutine; the generator emits these steps only when the variable, the
file and the flag are the ones named in the dump statement of the same protocol's `shutdown()` -/
theorem gen_before_loops :
    ipfixBeforeLoop = [.loadCache, .markLoaded, .spawnRPC] ∧ netflowV9BeforeLoop = [.loadCache, .markLoaded] ∧
    netflowV5BeforeLoop = [] ∧ sflowBeforeLoop = [] := by decide

/-- in the whole of package vflow a template cache variable is assigned exactly once, by the `run()` of its protocol
(no initial value, no other assignment, its address is never taken), and a "loaded" flag is used in exactly two
places: the atomic store of 1 in that `run()` and the atomic load in that protocol's `shutdown()` (no plain read or
write, no initial value, no other store: once set it stays set, and it is set only after the assignment) -/
theorem gen_cache_writers :
    cacheWriters = [("IPFIX.run", "mCache = ipfix.GetCache(opts.IPFIXTplCacheFile)"),
                    ("NetflowV9.run", "mCacheNF9 = netflow9.GetCache(opts.NetflowV9TplCacheFile)")] ∧
    loadedFlagUses = [("IPFIX.run", "atomic.StoreInt32(&mCacheLoaded, 1)"), ("IPFIX.shutdown", "atomic.LoadInt32(&mCacheLoaded)"),
                      ("NetflowV9.run", "atomic.StoreInt32(&mCacheNF9Loaded, 1)"),
                      ("NetflowV9.shutdown", "atomic.LoadInt32(&mCacheNF9Loaded)")] := by decide

/-- in the whole of package vflow each UDP work queue has exactly one send statement and exactly one
`close`, both in the `run()` of its own protocol (so the model's two goroutines are all there is: no
other function sends on, closes, or is handed a queue) -/
theorem gen_single_sender_and_closer :
    queueSenders = [("IPFIX.run", "ipfixUDPCh"), ("NetflowV5.run", "netflowV5UDPCh"),
                    ("NetflowV9.run", "netflowV9UDPCh"), ("SFlow.run", "sFlowUDPCh")] ∧
    queueClosers = queueSenders := by decide

/-- `main`, every statement: the signal channel is made with room for one signal and `signal.Notify` is the FIRST
statement after the declarations (F32 repair: it used to come after `opts = GetOptions()` and `runtime.GOMAXPROCS`, so a
signal that arrived while the options were being read had its default action); then the options, set-up statements that
synchronise with nothing; the information model (a global map read by the IPFIX and NetFlow v9 decoders) is replaced by
`LoadExtElements` BEFORE any run loop is started (F18 repair: it used to be replaced from inside `IPFIX.run()`,
concurrently with running NetFlow v9 workers), whenever the IPFIX OR the NetFlow v9 listener is switched on (F34 repair: the
guard used to name the IPFIX switch alone; `C20.gen_load_guard_covers_readers`); the run loops and, after the signal, the
shutdowns are all counted in the wait group; `main` returns (exit status 0) after `wg.Wait()` -/
theorem gen_main :
    mainSteps = [.makeSignalChan 1, .notifySigintSigterm, .getOptions, .setUp, .setUp, .setUp,
                 .loadElementsIf ["IPFIXEnabled", "NetflowV9Enabled"], .setUp,
                 .spawnRunsCounted, .spawnStats, .awaitSignal, .spawnShutdownsCounted, .waitAll] := by
  decide

/-! ## All interleavings of the generated programs -/

def progs : List Prog :=
  [⟨ipfixShutdown, ipfixBeforeLoop, ipfixAfterLoop⟩, ⟨netflowV9Shutdown, netflowV9BeforeLoop, netflowV9AfterLoop⟩,
   ⟨netflowV5Shutdown, netflowV5BeforeLoop, netflowV5AfterLoop⟩, ⟨sflowShutdown, sflowBeforeLoop, sflowAfterLoop⟩]

/-- the two protocols that keep a template cache (IPFIX, NetFlow v9) -/
def cacheProgs : List Prog := progs.take 2

/-- the programs as they were before the F21 repair (repository commit 4d10a36; IPFIX — NetFlow v9 had the
same one without the RPC statement —, then NetFlow v5, then sFlow): `shutdown()` closes the queue as its last
statement, nothing follows the read loop (and the dump is unguarded: see `unguardedProgs`) -/
def unrepairedProgs : List Prog :=
  [⟨[.guardEnabled, .setStop, .log, .sleep1s, .dump, .log, .closeQueue], [.loadCache, .spawnRPC], []⟩,
   ⟨[.guardEnabled, .setStop, .log, .sleep1s, .log, .closeQueue], [], []⟩,
   ⟨[.guardEnabled, .setStop, .log, .sleep1s, .closeConn, .log, .closeQueue], [], []⟩]

/-- the IPFIX and NetFlow v9 programs as they were before the F27 repair (repository commit 6770a64, as this
generator extracts them from that tree): the dump of `shutdown()` is unconditional and `run()` has no flag -/
def unguardedProgs : List Prog :=
  [⟨[.guardEnabled, .setStop, .log, .sleep1s, .dump, .log], [.loadCache, .spawnRPC], [.closeQueue]⟩,
   ⟨[.guardEnabled, .setStop, .log, .sleep1s, .dump, .log], [.loadCache], [.closeQueue]⟩]

/-- the assumptions under which the repaired programs are enumerated: none, or the fact about the two 1 s
constants; the hand-off hypothesis changes nothing for them (`handoff_irrelevant`) -/
def timing : List Assume := [.none, ⟨false, true⟩]

set_option synthInstance.maxSize 1024 in
/-- one enumeration per program, no assumption: the enumeration over state numbers (`Proofs/ShutdownReach`) gives exactly its
reachable states, and each of them satisfies the safety statements below -/
theorem safety_all_interleavings :
    ∀ p ∈ progs, certified p .none (explore p .none) = true ∧ ∀ s ∈ reachable p .none,
      s.panicked = false ∧
      (s.closed = true → s.stop = true ∧ s.pastLoop = true ∧ s.rpc ≠ .leaving 0) ∧
      s.readsAfterStop ≤ 1 ∧
      -- the dump and the load (F27)
      s.wiped = false ∧
      (s.dumped = true → s.cacheSet = true ∧ s.loadedFlag = true) ∧
      (s.loadedFlag = true → s.cacheSet = true) ∧
      (s.dumpSkipped = true → s.everRead = false ∧ s.dumped = false ∧ s.stop = true) ∧
      (s.spc = p.shutdown.length → s.everRead = true → p ∈ cacheProgs → s.dumped = true) := by decide +kernel

theorem progs_certified : ∀ p ∈ progs, certified p .none (explore p .none) = true :=
  fun p hp => (safety_all_interleavings p hp).1

/-- the search of the model has come to its end for each program: the reachable states are closed under every step -/
theorem reachable_closed : ∀ p ∈ progs, closedUnderNext p .none = true :=
  fun p hp => closedUnderNext_of_certified (progs_certified p hp)

/-- no `shutdown()` closes a queue (F21 repair; `gen_*_shutdown`), so the hand-off hypothesis has nothing to guard -/
theorem no_close_in_shutdown : ∀ p ∈ progs, SStep.closeQueue ∉ p.shutdown := by decide

/-- the hand-off hypothesis makes no difference to the repaired programs (their `shutdown()` has no `close`):
same reachable states, same steps (`Proofs/ShutdownReach`: it only guards a `closeQueue` of `shutdown()`) -/
theorem handoff_irrelevant :
    ∀ p ∈ progs, ∀ d ∈ [false, true], reachable p ⟨true, d⟩ = reachable p ⟨false, d⟩ ∧
      ∀ s ∈ reachable p ⟨false, d⟩, next p ⟨true, d⟩ s = next p ⟨false, d⟩ s :=
  fun p hp d _ => ⟨(reachable_handoff p (no_close_in_shutdown p hp) d).1, fun s _ => (reachable_handoff p (no_close_in_shutdown p hp) d).2 s⟩

/-- the fact about the 1 s constants only removes interleavings: whatever is reachable with it is reachable
without. So what holds in every state of `reachable p .none` holds under every combination of assumptions.
(`Proofs/ShutdownReach`: the fact only disables a step, and `reachable p .none` is closed under all steps.) -/
theorem deadlines_only_restrict :
    ∀ p ∈ progs, ∀ s ∈ reachable p ⟨false, true⟩, (reachable p .none).contains s = true :=
  fun p hp s hs => List.contains_iff_mem.mpr
    (reachable_deadlines_subset p false (reachable_closed p hp) s hs)

/-- remaining work once `stop` is set: reader distance to the return of `run()` + shutdown statements left -/
def measure (p : Prog) (s : St) : Nat :=
  (match s.rpc with
    | .exited => 0 | .leaving k => 1 + (p.afterLoop.length - k)
    | .starting k => 3 + p.afterLoop.length + (p.beforeLoop.length - k)
    | .atCheck => 2 + p.afterLoop.length | .havePacket => 3 + p.afterLoop.length | .inRead => 4 + p.afterLoop.length)
  + (p.shutdown.length - s.spc)

/-- **C15 (no panic)**: no interleaving sends on the closed queue or closes it twice — with no assumption on
timing or scheduling (`Assume.none`: every interleaving of the atomic steps): not the hand-off hypothesis `H`,
not the 1 s constants. (Of the program before the F21 repair this holds under `H` in the timed model only:
`unrepaired_no_send_under_H`, `close_race_without_H`.) -/
theorem no_send_on_closed_queue : ∀ p ∈ progs, ∀ s ∈ reachable p .none, s.panicked = false :=
  fun p hp s hs => ((safety_all_interleavings p hp).2 s hs).1

/-- whatever holds in every state reachable without assumptions holds under any combination of the assumptions
(they only remove interleavings: `deadlines_only_restrict`, `handoff_irrelevant`) -/
theorem safety_transfer {P : St → Prop} (p : Prog) (hp : p ∈ progs) (h : ∀ s ∈ reachable p .none, P s) :
    ∀ a ∈ Assume.all, ∀ s ∈ reachable p a, P s := by
  intro a ha s hs
  have key : ∀ d ∈ [false, true], ∀ s ∈ reachable p ⟨false, d⟩, P s := by
    intro d hd s hs
    simp only [List.mem_cons, List.not_mem_nil, or_false] at hd
    rcases hd with rfl | rfl
    · exact h s hs
    · exact h s (List.contains_iff_mem.mp (deadlines_only_restrict p hp s hs))
  simp only [Assume.all, List.mem_cons, List.not_mem_nil, or_false] at ha
  rcases ha with rfl | rfl | rfl | rfl
  · exact key false (by simp) s hs
  · exact key true (by simp) s hs
  · rw [(handoff_irrelevant p hp false (by simp)).1] at hs; exact key false (by simp) s hs
  · rw [(handoff_irrelevant p hp true (by simp)).1] at hs; exact key true (by simp) s hs

/-- the same under any combination of the assumptions (they only remove interleavings) -/
theorem no_send_on_closed_queue_assuming : ∀ p ∈ progs, ∀ a ∈ Assume.all, ∀ s ∈ reachable p a, s.panicked = false :=
  fun p hp => safety_transfer p hp (no_send_on_closed_queue p hp)

/-- the reason: the queue is closed only by the reader, after it has left its loop for good -/
theorem closed_only_after_loop :
    ∀ p ∈ progs, ∀ s ∈ reachable p .none, s.closed = true →
      s.stop = true ∧ s.pastLoop = true ∧ s.rpc ≠ .leaving 0 :=
  fun p hp s hs => ((safety_all_interleavings p hp).2 s hs).2.1

/-- regression witness (the code before the repair): without `H` the panic is reachable in every one of
the old programs, already in the timed model (a datagram arriving in the last instant of the deadline,
the reader descheduled between `ReadFromUDP` and the channel send until after `close`) … -/
theorem close_race_without_H : ∀ p ∈ unrepairedProgs, ∃ s ∈ reachable p ⟨false, true⟩, s.panicked = true := by decide +kernel

/-- … and `H`, together with the fact about the two 1 s constants, was exactly what excluded it -/
theorem unrepaired_no_send_under_H : ∀ p ∈ unrepairedProgs, ∀ s ∈ reachable p ⟨true, true⟩, s.panicked = false := by decide +kernel

/-- … while a process that does not run during the grace period (the 1 s sleep over before the read armed
before `stop` has returned: `deadlines := false`) reached the panic even under `H`: the read returns a datagram
after `shutdown()` has closed the queue (IPFIX / NetFlow v9 and NetFlow v5; the sFlow `shutdown()` closed the
socket first, so there the late read fails instead). This is the schedule the stalled stops of the e2e check
produce on the real binary. -/
theorem close_race_when_frozen : ∀ p ∈ unrepairedProgs.take 2, ∃ s ∈ reachable p ⟨true, false⟩, s.panicked = true := by decide +kernel

/-- a half-applied repair (the reader closes AND `shutdown()` still closes) panics on the second `close`,
even under both assumptions: the model is sensitive to who closes -/
theorem double_close_panics :
    ∃ s ∈ reachable ⟨[.guardEnabled, .setStop, .log, .sleep1s, .log, .closeQueue], [], [.closeQueue]⟩ ⟨true, true⟩,
      s.panicked = true := by decide +kernel

/-- **C15 (the read loop stops)**: after `stop` is set at most one more read completes, in every interleaving -/
theorem at_most_one_read_after_stop : ∀ p ∈ progs, ∀ s ∈ reachable p .none, s.readsAfterStop ≤ 1 :=
  fun p hp s hs => ((safety_all_interleavings p hp).2 s hs).2.2.1

/-! ## The dump and the load (F27) -/

/-- the F27 part of `safety_all_interleavings` -/
theorem load_all_interleavings :
    ∀ p ∈ progs, ∀ s ∈ reachable p .none,
      s.wiped = false ∧
      (s.dumped = true → s.cacheSet = true ∧ s.loadedFlag = true) ∧
      (s.loadedFlag = true → s.cacheSet = true) ∧
      (s.dumpSkipped = true → s.everRead = false ∧ s.dumped = false ∧ s.stop = true) ∧
      (s.spc = p.shutdown.length → s.everRead = true → p ∈ cacheProgs → s.dumped = true) :=
  fun p hp s hs => ((safety_all_interleavings p hp).2 s hs).2.2.2

/-- **C15 (the file of the previous run survives an early stop)**: in no interleaving of `run()` — started before it
has loaded the cache file, however long that takes — and `shutdown()` is the cache file rewritten from a cache that has
not been loaded: whenever the dump has been taken, the cache variable held the loaded templates and the flag was set;
the flag is never set before the variable is assigned. No assumption on timing or scheduling. -/
theorem dump_only_after_load :
    ∀ p ∈ progs, ∀ s ∈ reachable p .none,
      s.wiped = false ∧ (s.dumped = true → s.cacheSet = true ∧ s.loadedFlag = true) ∧ (s.loadedFlag = true → s.cacheSet = true) :=
  fun p hp s hs => ⟨(load_all_interleavings p hp s hs).1, (load_all_interleavings p hp s hs).2.1, (load_all_interleavings p hp s hs).2.2.1⟩

/-- the same under any combination of the assumptions -/
theorem dump_only_after_load_assuming : ∀ p ∈ progs, ∀ a ∈ Assume.all, ∀ s ∈ reachable p a, s.wiped = false :=
  fun p hp => safety_transfer p hp (fun s hs => (dump_only_after_load p hp s hs).1)

/-- a dump that is skipped (the flag was not set yet when `shutdown()` reached it) loses nothing: `stop` had been
set before, so the read loop of that run never arms a read — no datagram, hence no template, was received in this
run, and the file is left exactly as the previous run wrote it -/
theorem skipped_dump_loses_nothing :
    ∀ p ∈ progs, ∀ s ∈ reachable p .none, s.dumpSkipped = true → s.everRead = false ∧ s.dumped = false ∧ s.stop = true :=
  fun p hp s hs => (load_all_interleavings p hp s hs).2.2.2.1

/-- and conversely: once `shutdown()` of IPFIX / NetFlow v9 has run to its end in a run that has armed a read at
least once, the dump HAS been taken (the guard never suppresses the dump of a collector that was receiving) -/
theorem receiving_run_is_dumped :
    ∀ p ∈ cacheProgs, ∀ s ∈ reachable p .none, s.spc = p.shutdown.length → s.everRead = true → s.dumped = true :=
  fun p hp s hs h1 h2 => (load_all_interleavings p (List.mem_of_mem_take hp) s hs).2.2.2.2 h1 h2 hp

/-- regression witness (the code before the F27 repair, `unguardedProgs`): under EVERY combination of the timing
assumptions — nothing bounds the time `GetCache` takes — a run is reachable that ends normally (reader returned,
`shutdown()` at its end, no panic: exit status 0) with the cache file of the previous run replaced by the dump of
the nil cache. This is what `e2e.early_stop_cycle` shows on the real binary (117 MB file, SIGTERM right after
"ipfix is running": `{"Cache":null,"ShardNo":32}`). -/
theorem early_dump_wipes_unguarded :
    ∀ p ∈ unguardedProgs, ∀ a ∈ Assume.all, ∃ s ∈ reachable p a,
      s.wiped = true ∧ s.rpc = .exited ∧ s.spc = p.shutdown.length ∧ s.panicked = false ∧ s.everRead = false := by
  -- enumerated without the hand-off hypothesis; with it the reachable states are the same (no `close` in `shutdown()`)
  have key : ∀ p ∈ unguardedProgs, SStep.closeQueue ∉ p.shutdown ∧ ∀ d ∈ [false, true], ∃ s ∈ reachable p ⟨false, d⟩,
      s.wiped = true ∧ s.rpc = .exited ∧ s.spc = p.shutdown.length ∧ s.panicked = false ∧ s.everRead = false := by
    decide +kernel
  intro p hp a ha
  simp only [Assume.all, List.mem_cons, List.not_mem_nil, or_false] at ha
  rcases ha with rfl | rfl | rfl | rfl
  · exact (key p hp).2 false (by simp)
  · exact (key p hp).2 true (by simp)
  · rw [(reachable_handoff p (key p hp).1 false).1]; exact (key p hp).2 false (by simp)
  · rw [(reachable_handoff p (key p hp).1 true).1]; exact (key p hp).2 true (by simp)

/-- a half-applied repair is told apart: the guard without the store of the flag never dumps (templates learned in a
receiving run are lost), and the store placed BEFORE the assignment still wipes the file -/
theorem guard_needs_store_after_load :
    (∃ s ∈ reachable ⟨ipfixShutdown, [.loadCache, .spawnRPC], ipfixAfterLoop⟩ .none,
      s.spc = ipfixShutdown.length ∧ s.everRead = true ∧ s.dumped = false) ∧
    (∃ s ∈ reachable ⟨ipfixShutdown, [.markLoaded, .loadCache, .spawnRPC], ipfixAfterLoop⟩ .none, s.wiped = true) := by
  decide +kernel

set_option synthInstance.maxSize 1024 in
/-- one enumeration for the three statements below (each reachable state of each program, without and with the
fact about the 1 s constants) -/
theorem progress_all_interleavings :
    ∀ p ∈ progs, ∀ a ∈ timing, ∀ s ∈ reachable p a,
      (s.stop = true →
        (∀ t ∈ next p a s, measure p t < measure p s) ∧
        (next p a s = [] → s.rpc = .exited ∧ s.spc = p.shutdown.length ∧ s.closed = true ∧ s.panicked = false)) ∧
      (s.stop = false → s.spc ≤ 1 ∧ (shutdownSteps p a s ≠ [])) ∧
      (s.dumped = true → s.dumpedAfterStop = true ∧ s.stop = true) ∧
      (a.deadlines = true → s.dumped = true → s.rpc ≠ .inRead) := by decide +kernel

/-- **C15 (termination)**: once `stop` is set every step of every interleaving strictly decreases
`measure`, so the read loop exits, closes the queue, `run()` and `shutdown()` return after at most
`4 + lengths` further steps; and no state before the end is stuck (some step is always enabled); at the
end the queue is closed (the workers, which drain it until it is closed, terminate) and nothing panicked -/
theorem terminates_after_stop :
    ∀ p ∈ progs, ∀ a ∈ timing, ∀ s ∈ reachable p a, s.stop = true →
      (∀ t ∈ next p a s, measure p t < measure p s) ∧
      (next p a s = [] → s.rpc = .exited ∧ s.spc = p.shutdown.length ∧ s.closed = true ∧ s.panicked = false) :=
  fun p hp a ha s hs => (progress_all_interleavings p hp a ha s hs).1

/-- before the signal the shutdown goroutine does not exist; once it runs, `setStop` is its first
effective step and it is always enabled -/
theorem stop_always_reachable :
    ∀ p ∈ progs, ∀ a ∈ timing, ∀ s ∈ reachable p a, s.stop = false → s.spc ≤ 1 ∧ (shutdownSteps p a s ≠ []) :=
  fun p hp a ha s hs => (progress_all_interleavings p hp a ha s hs).2.1

/-- **C15 (dump)**: whenever the cache has been dumped, `stop` had been set (the dump statement comes after
`setStop` and `sleep1s`); and, given the fact about the two 1 s constants, the grace period has done its work:
when the dump is taken the read loop is not blocked in `ReadFromUDP` any more (it is handing over its last
datagram, leaving, or gone) and will not read again. The queue is not closed by `shutdown()` (F21 repair), so nothing orders
the close after the dump; what holds instead is `closed_only_after_loop`: the workers drain the queue whichever of dump and close comes
first. -/
theorem dump_after_stop_and_sleep :
    ∀ p ∈ progs, ∀ a ∈ timing, ∀ s ∈ reachable p a,
      (s.dumped = true → s.dumpedAfterStop = true ∧ s.stop = true) ∧
      (a.deadlines = true → s.dumped = true → s.rpc ≠ .inRead) :=
  fun p hp a ha s hs => (progress_all_interleavings p hp a ha s hs).2.2

/-- non-vacuity: the state spaces are not trivial, and the final state (reader exited, queue closed by it,
shutdown done, no panic) is reachable -/
example : (reachable ⟨ipfixShutdown, ipfixBeforeLoop, ipfixAfterLoop⟩ .none).length > 20 ∧
    (reachable ⟨ipfixShutdown, ipfixBeforeLoop, ipfixAfterLoop⟩ .none).any (fun s => s.rpc == .exited && s.spc == ipfixShutdown.length && s.dumped && s.everRead && s.closed && !s.panicked) = true ∧
    -- the early stop: shutdown() ran to its end before the cache was loaded; the dump was skipped, nothing wiped
    (reachable ⟨ipfixShutdown, ipfixBeforeLoop, ipfixAfterLoop⟩ .none).any (fun s => s.rpc == .exited && s.spc == ipfixShutdown.length && s.dumpSkipped && !s.dumped && !s.wiped && s.closed && !s.panicked) = true := by
  refine ⟨?_, List.any_eq_true.mpr (by decide +kernel), List.any_eq_true.mpr (by decide +kernel)⟩
  -- twenty-one different states of the enumeration over numbers, all of them reachable
  have h21 : (((explore ⟨ipfixShutdown, ipfixBeforeLoop, ipfixAfterLoop⟩ .none).take 21).map St.ofCode).Nodup ∧
      (((explore ⟨ipfixShutdown, ipfixBeforeLoop, ipfixAfterLoop⟩ .none).take 21).map St.ofCode).length = 21 := by decide +kernel
  refine Nat.lt_of_lt_of_le (by rw [h21.2]; decide) (List.Nodup.length_le_of_subset h21.1 fun s hs => ?_)
  obtain ⟨c, hc, rfl⟩ := List.mem_map.mp hs
  exact (mem_reachable_iff (progs_certified _ (by simp [progs])) _).mpr ⟨c, List.mem_of_mem_take hc, rfl⟩

/-! ## `main` and the signal (F32): a signal at any moment from `main`'s first statement on

`Vflow.Model.MainSignal`: the regenerated `main` runs next to the goroutines it starts (`run()` from `spawnRunsCounted`
on, `shutdown()` from `spawnShutdownsCounted` on: the programs above) and next to an environment that sends the signal at
ANY moment, also before `signal.Notify` has run (then the process is `killed`: default action, the wait status is the
signal).  `SysReach` = every interleaving. Every reachable state is a pair of a state of `main` alone (`amReachable`,
enumerated) and a protocol state of the enumeration above (`Proofs/MainSignal`); the kernel checks an inductive
invariant that ties the two parts (`mainInv`) and every claim below on all pairs that satisfy it (`pairCheck`). -/

/-- what ties the state of `main` to the state of a protocol's goroutines: nothing has moved before `run()` is started,
`shutdown()` has not moved before it is started, it is started after `run()`, and once `wg.Wait()` has returned both
have returned -/
def mainInv (p : Prog) (m : MSt) (s : St) : Bool :=
  (m.runsStarted || decide (s = {})) && (m.stopsStarted || (s.spc == 0 && !s.stop)) && (!m.stopsStarted || m.runsStarted) &&
  (!m.waited || ((!m.runsStarted || decide (s.rpc = .exited)) && (!m.stopsStarted || s.spc == p.shutdown.length)))

/-- the claims about one state (see `signal_during_options_is_handled`) -/
def mainGood (ms : List MStep) (p : Prog) (x : Sys) : Bool :=
  (!x.m.killed || (decide (x.m.killedAt ≤ 1) && !x.m.optsRead && !x.m.caught)) &&
  (!x.m.optsRead || x.m.handler) &&
  (!x.m.sigInOptions || (x.m.caught && !x.m.killed)) &&
  (!(x.m.caught && !x.s.stop && !x.m.over) ||
    (!(mMain ms (wgDone p x) x.m).isEmpty || (x.m.stopsStarted && !(shutdownSteps p .none x.s).isEmpty))) &&
  (!(sysNext ms p .none x).isEmpty || (x.m.killed || x.m.exited0)) &&
  (!x.m.exited0 || (x.m.caught && !x.m.killed && x.m.stopsStarted && decide (x.s.rpc = .exited) &&
    x.s.spc == p.shutdown.length && x.s.closed)) &&
  (!x.s.stop || (x.m.caught && x.m.stopsStarted))

/-- the claims about one step -/
def mainGoodStep (ms : List MStep) (p : Prog) (x t : Sys) : Bool :=
  (if t.s.rpc = x.s.rpc then decide (ctlMeasure ms p t < ctlMeasure ms p x) else ctlMeasure ms p t == ctlMeasure ms p x) &&
  (!x.s.stop || decide (sysMeasure ms p t < sysMeasure ms p x))

/-- the invariant holds initially; from every pair (state of `main` alone, protocol state) that satisfies it every step
leads to a pair that satisfies it, and the claims hold for the pair and for the step. Until `run()` is started the
invariant admits the initial protocol state only, so the other pairs are not looked at. -/
def pairCheck (ms : List MStep) (p : Prog) (n : Nat) : Bool :=
  mainInv p { sigsLeft := n } {} &&
  (amReachable ms n).all fun m => (if m.runsStarted then (explore p .none).map St.ofCode else [{}]).all fun s =>
    !mainInv p m s || (mainGood ms p ⟨m, s⟩ && (sysNext ms p .none ⟨m, s⟩).all fun t => mainInv p t.m t.s && mainGoodStep ms p ⟨m, s⟩ t)

/-- one evaluation for the statements below, for one and for two signals: the enumeration of `main` alone is complete, and all
pairs check, for each protocol (the kernel runs the search over the states of `main` once per number of signals) -/
theorem main_checked : ∀ n ∈ [1, 2], amClosed mainSteps n = true ∧ ∀ p ∈ progs, pairCheck mainSteps p n = true := by
  decide +kernel

/-- every reachable state of `main` + a protocol + one or two signals: its protocol part is a state of the protocol-level
enumeration, the claims hold for it and for each of its steps -/
theorem main_all_interleavings :
    ∀ p ∈ progs, ∀ n ∈ [1, 2], ∀ x, SysReach mainSteps p .none n x →
      x.s ∈ reachable p .none ∧ mainGood mainSteps p x = true ∧
      ∀ t ∈ sysNext mainSteps p .none x, mainGoodStep mainSteps p x t = true := by
  intro p hp n hn x hx
  obtain ⟨hA, hc⟩ := main_checked n hn
  replace hc := hc p hp
  simp only [pairCheck, Bool.and_eq_true, List.all_eq_true] at hc
  have hC := reachable_closed p hp
  have unpack : ∀ m ∈ amReachable mainSteps n, ∀ s ∈ reachable p .none, mainInv p m s = true →
      mainGood mainSteps p ⟨m, s⟩ = true ∧
      ∀ t ∈ sysNext mainSteps p .none ⟨m, s⟩, mainInv p t.m t.s = true ∧ mainGoodStep mainSteps p ⟨m, s⟩ t = true := by
    intro m hm s hs hi
    have hs' : s ∈ if m.runsStarted then (explore p .none).map St.ofCode else [{}] := by
      cases hr : m.runsStarted
      · simp only [mainInv, hr, Bool.false_or, Bool.and_eq_true, decide_eq_true_eq] at hi
        simp [hi.1.1.1]
      · simpa using (mem_reachable_iff (progs_certified p hp) s).mp hs
    have h2 := imp_of_not_or (hc.2 m hm s hs') hi
    rw [Bool.and_eq_true, List.all_eq_true] at h2
    exact ⟨h2.1, fun t ht => Bool.and_eq_true _ _ ▸ h2.2 t ht⟩
  have key := sysReach_invariant hA hC (mainInv p) hc.1 (fun m hm s hs hi t ht => ((unpack m hm s hs hi).2 t ht).1) x hx
  have h2 := unpack x.m key.1 x.s key.2.1 key.2.2
  exact ⟨key.2.1, h2.1, fun t ht => (h2.2 t ht).2⟩

/-- **C15 (all signal arrival times: a signal during start-up)**: in every interleaving (`SysReach`) of the regenerated
`main`, the goroutines it starts and a signal (or two) sent at ANY moment,
* the signal ends the process by its default action only while `main` is at one of its first two statements — the
  declaration of the channel and `signal.Notify` itself (`killedAt ≤ 1`, `gen_main`) —, never once the options phase has
  begun; what `GetOptions` leaves behind (the pid file: `optsRead`) implies an installed handler — this is what the
  start-up stops of the e2e check judge by;
* a signal that arrives while `main` is reading its options (`sigInOptions`) is caught: it waits in the channel (which
  has room for it) and is taken by `<-signalCh` once the listeners have been started;
* once a signal is caught the run ends through the stop protocol with exit status 0: every step other than one of the
  read loop decreases `ctlMeasure`, which no step of the read loop changes; until `stop` is set such a step is always
  enabled (`main` is never blocked, then `shutdown()` is not); from then on EVERY step decreases `sysMeasure`; the only
  states without a successor are "killed" (see above) and "returned from `main`", and `main` returns only after a
  signal was caught, the shutdowns were started, `run()` has returned having closed its queue and `shutdown()` has
  returned;
* on the way nothing panics and `dump_only_after_load` still holds — the shutdown goroutines may well run before
  `run()` has loaded the cache file (the signal was waiting when the listeners were started): the guarded dump (F27)
  leaves the file alone; the protocol part of every reachable state is a state of the protocol-level enumeration
  above, so every statement about `reachable p .none` carries over.
No assumption on timing or scheduling. What is outside: the instants before `main` runs (exec, start of the Go runtime)
are the operating system's. -/
theorem signal_during_options_is_handled :
    ∀ p ∈ progs, ∀ n ∈ [1, 2], ∀ x, SysReach mainSteps p .none n x →
      (x.m.killed = true → x.m.killedAt ≤ 1 ∧ x.m.optsRead = false ∧ x.m.caught = false) ∧
      (x.m.optsRead = true → x.m.handler = true) ∧
      (x.m.sigInOptions = true → x.m.caught = true ∧ x.m.killed = false) ∧
      (x.m.caught = true → x.s.stop = false → x.m.over = false →
        mMain mainSteps (wgDone p x) x.m ≠ [] ∨ (x.m.stopsStarted = true ∧ shutdownSteps p .none x.s ≠ [])) ∧
      (∀ t ∈ sysNext mainSteps p .none x,
        (t.s.rpc = x.s.rpc → ctlMeasure mainSteps p t < ctlMeasure mainSteps p x) ∧
        (t.s.rpc ≠ x.s.rpc → ctlMeasure mainSteps p t = ctlMeasure mainSteps p x) ∧
        (x.s.stop = true → sysMeasure mainSteps p t < sysMeasure mainSteps p x)) ∧
      (sysNext mainSteps p .none x = [] → x.m.killed = true ∨ x.m.exited0 = true) ∧
      (x.m.exited0 = true → x.m.caught = true ∧ x.m.killed = false ∧ x.m.stopsStarted = true ∧
        x.s.rpc = .exited ∧ x.s.spc = p.shutdown.length ∧ x.s.closed = true) ∧
      (x.s.stop = true → x.m.caught = true ∧ x.m.stopsStarted = true) ∧
      x.s ∈ reachable p .none ∧ x.s.panicked = false ∧
      x.s.wiped = false ∧ (x.s.dumped = true → x.s.cacheSet = true ∧ x.s.loadedFlag = true) ∧ (x.s.loadedFlag = true → x.s.cacheSet = true) := by
  intro p hp n hn x hx
  obtain ⟨hs, hg, hst⟩ := main_all_interleavings p hp n hn x hx
  simp only [mainGood, Bool.and_eq_true] at hg
  obtain ⟨⟨⟨⟨⟨⟨g1, g2⟩, g3⟩, g4⟩, g5⟩, g6⟩, g7⟩ := hg
  refine ⟨?_, imp_of_not_or g2, ?_, ?_, ?_, ?_, ?_, ?_, hs, no_send_on_closed_queue p hp x.s hs, dump_only_after_load p hp x.s hs⟩
  · intro h; have := imp_of_not_or g1 h; simpa [Bool.and_eq_true, and_assoc] using this
  · intro h; have := imp_of_not_or g3 h; simpa [Bool.and_eq_true] using this
  · intro h1 h2 h3
    have := imp_of_not_or g4 (by simp [h1, h2, h3])
    simpa [List.isEmpty_iff] using this
  · intro t ht
    have := hst t ht
    simp only [mainGoodStep, Bool.and_eq_true] at this
    refine ⟨fun h => ?_, fun h => ?_, fun h => ?_⟩
    · simpa [h] using this.1
    · simpa [h] using this.1
    · simpa using imp_of_not_or this.2 h
  · intro h
    have := imp_of_not_or g5 (by simp [h])
    simpa using this
  · intro h; have := imp_of_not_or g6 h; simpa [Bool.and_eq_true, and_assoc] using this
  · intro h; have := imp_of_not_or g7 h; simpa [Bool.and_eq_true] using this

/-- `main` as it was before the F32 repair (repository commit 3fdfe98, as this generator extracts it from that tree):
`signal.Notify` after `opts = GetOptions()` and `runtime.GOMAXPROCS(…)` -/
def f32_old_main : List MStep :=
  [.makeSignalChan 1, .getOptions, .setUp, .notifySigintSigterm, .setUp, .setUp, .loadElementsIf ["IPFIXEnabled"], .setUp,
   .spawnRunsCounted, .spawnStats, .awaitSignal, .spawnShutdownsCounted, .waitAll]

/-- regression witness (the code before the F32 repair): a signal that arrives while `main` is reading its options is
not handled — the process is killed by it —, and so is one that arrives between the return of `GetOptions` (the pid file
already holds the process's PID: what the e2e start-up stops observe) and `signal.Notify` -/
theorem f32_old_main_kills :
    ∀ p ∈ progs,
      (∃ x, SysReach f32_old_main p .none 1 x ∧ (x.m.sigInOptions && x.m.killed && !x.m.caught && !x.m.optsRead) = true) ∧
      (∃ x, SysReach f32_old_main p .none 1 x ∧ (x.m.killed && x.m.optsRead && x.m.killedAt == 3 && !x.m.handler) = true) := by
  have key : ∀ p ∈ progs,
      (follow f32_old_main p .none ⟨{ sigsLeft := 1 }, {}⟩ [1, 0]).any
        (fun x => x.m.sigInOptions && x.m.killed && !x.m.caught && !x.m.optsRead) = true ∧
      (follow f32_old_main p .none ⟨{ sigsLeft := 1 }, {}⟩ [1, 1, 1, 0]).any
        (fun x => x.m.killed && x.m.optsRead && x.m.killedAt == 3 && !x.m.handler) = true := by decide +kernel
  exact fun p hp => ⟨exists_of_follow _ _ (key p hp).1, exists_of_follow _ _ (key p hp).2⟩

/-- the repair needs the buffered channel: with `make(chan os.Signal)` a signal relayed while `main` is still reading
its options finds no room and no receiver and is dropped (package os/signal never blocks), and `main` then waits in
`<-signalCh` for a signal that has already been sent -/
theorem unbuffered_channel_loses_signal :
    ∃ x, SysReach (MStep.makeSignalChan 0 :: mainSteps.drop 1) ⟨ipfixShutdown, ipfixBeforeLoop, ipfixAfterLoop⟩ .none 1 x ∧
      (x.m.sigInOptions && x.m.lost && !x.m.caught && x.m.sigsLeft == 0 && !x.m.over &&
        decide (mainSteps[x.m.mpc]? = some MStep.awaitSignal) &&
        (mMain (MStep.makeSignalChan 0 :: mainSteps.drop 1) true x.m).isEmpty && (mSignal mainSteps x.m).isEmpty) = true :=
  exists_of_follow [1, 1, 0, 0, 0, 0, 0, 0, 0, 0, 0] _ (by decide +kernel)

/-- non-vacuity: a run in which the signal arrived during the options phase and the collector then came up, stopped and
returned from `main` exists (IPFIX: with the dump skipped because the cache had not been loaded yet, and with the dump
taken in a run that armed a read), and so does the run that is killed before `signal.Notify` has returned -/
example :
    (∃ x, SysReach mainSteps ⟨ipfixShutdown, ipfixBeforeLoop, ipfixAfterLoop⟩ .none 1 x ∧
      (x.m.sigInOptions && x.m.exited0 && x.s.dumpSkipped && !x.s.wiped) = true) ∧
    (∃ x, SysReach mainSteps ⟨ipfixShutdown, ipfixBeforeLoop, ipfixAfterLoop⟩ .none 1 x ∧
      (x.m.sigInOptions && x.m.exited0 && x.s.dumped && x.s.everRead) = true) ∧
    (∃ x, SysReach mainSteps ⟨ipfixShutdown, ipfixBeforeLoop, ipfixAfterLoop⟩ .none 1 x ∧ (x.m.killed && x.m.killedAt == 1) = true) :=
  ⟨exists_of_follow [1, 1, 0, 0, 0, 0, 0, 0, 0, 0, 0, 0, 0, 0, 1, 1, 1, 1, 1, 0, 0, 0, 0, 0, 0, 0, 0, 0] _ (by decide +kernel),
   exists_of_follow [1, 1, 0, 0, 0, 0, 0, 0, 0, 0, 0, 0, 0, 0, 0, 0, 0, 0, 0, 1, 1, 0, 0, 0, 0, 0, 0, 0, 0, 0] _ (by decide +kernel),
   exists_of_follow [1, 0] _ (by decide +kernel)⟩

/-! ## The pid file (F28) -/

section PidFile
open Vflow.PidFile Vflow.Gen.PidFile

/-- `vFlowIsRunning`: read the pid file (unreadable ⇒ not running); a recorded PID equal to the process's own PID
⇒ not running (F28 repair); otherwise `kill -0` on the recorded text decides -/
theorem gen_is_running :
    isRunningSteps = [.readPidFile, .unreadableNotRunning, .ownPidNotRunning, .probeKill0, .runProbe, .runningIffProbeOk] := by decide

/-- `vFlowPIDWrite` writes `os.Getpid()` in decimal, with nothing after it, over whatever the file held — the text
the own-PID test compares with (`strconv.Itoa(os.Getpid())`); `GetOptions` tests first and writes after; no other
function of package vflow touches the pid file (nothing removes it at exit) -/
theorem gen_pid_write :
    pidWriteSteps = [.openTruncCreate, .openErrorLogReturn, .writeOwnPidDecimal, .writeErrorLog] ∧
    getOptionsPidSteps = [.refuseIfRunning, .writePidFile] ∧
    pidFileUsers = [("GetOptions", "vFlowIsRunning"), ("GetOptions", "vFlowPIDWrite"), ("NewOptions", "PIDFile"),
                    ("Options.flagSet", "PIDFile"), ("Options.vFlowIsRunning", "PIDFile"), ("Options.vFlowPIDWrite", "PIDFile")] := by decide

/-- **C15 (repeated stop/start cycles: the pid file)**: for every content of the pid file, every own PID and every
set of live PIDs, the regenerated `vFlowIsRunning` answers "running" exactly when the file records the PID of a live
process OTHER than the one that is starting -/
theorem is_running_spec (e : Env) :
    isRunning isRunningSteps e = some (match e.file with
      | .pid n => decide (n ≠ e.own) && e.alive n
      | _ => false) := by
  rw [gen_is_running]
  cases hf : e.file with
  | absent => simp [isRunning, hf]
  | garbage => simp [isRunning, afterRead, hf]
  | pid n =>
    by_cases h : n = e.own
    · simp [isRunning, afterRead, hf, h]
    · simp [isRunning, afterRead, hf, h]

/-- a restart that gets the PID of the previous run (a container: the pid file is stale and records the new
process's own PID, which `kill -0` finds alive) is not refused … -/
theorem same_pid_restart_not_refused (e : Env) (h : e.file = .pid e.own) : isRunning isRunningSteps e = some false := by
  rw [is_running_spec, h]; simp

/-- … while a second instance is: the file records the PID of another process that is alive -/
theorem second_instance_refused (e : Env) (n : Nat) (h : e.file = .pid n) (hn : n ≠ e.own) (ha : e.alive n = true) :
    isRunning isRunningSteps e = some true := by
  rw [is_running_spec, h]; simp [hn, ha]

/-- `vFlowIsRunning` before the F28 repair (repository commit 6770a64) -/
def unrepairedIsRunning : List PStep := [.readPidFile, .unreadableNotRunning, .probeKill0, .runProbe, .runningIffProbeOk]

/-- regression witness: the old test refused EVERY restart under the PID of the previous run (a process is alive
to itself): `docker restart` with the shipped entrypoint never came up again -/
theorem same_pid_restart_refused_unrepaired (e : Env) (h : e.file = .pid e.own) (ha : e.alive e.own = true) :
    isRunning unrepairedIsRunning e = some true := by
  simp [unrepairedIsRunning, isRunning, afterRead, h, ha]

/-- non-vacuity: PID 3 recorded, own PID 3 (alive): start; own PID 7 and 3 alive: refused; 3 dead: start -/
example : isRunning isRunningSteps ⟨.pid 3, 3, fun _ => true⟩ = some false ∧
    isRunning isRunningSteps ⟨.pid 3, 7, fun _ => true⟩ = some true ∧
    isRunning isRunningSteps ⟨.pid 3, 7, fun n => n != 3⟩ = some false ∧
    isRunning unrepairedIsRunning ⟨.pid 3, 3, fun _ => true⟩ = some true := by decide

end PidFile

end Vflow.C15
