import Vflow.Model.Reader
import Vflow.Proofs.BigEndian
import Vflow.Gen.Sites
import Vflow.Gen.ReaderIR
import Vflow.Spec.Sites
/-!
# C19 — the byte reader never reads outside its buffer and accounts exactly

All theorems quantify over every buffer `b`, every finite operation sequence `ops`
and every length argument `n : Int` (negative included).
-/
namespace Vflow.C19
open Vflow

/-- the accounting invariant relative to the original buffer -/
def Good (b : Bytes) (r : Rd) : Prop := r.cnt ≤ b.length ∧ r.rem = b.drop r.cnt

theorem take?_some {r : Rd} {n : Int} {x : Bytes} (h : r.take? n = some x) :
    0 ≤ n ∧ n.toNat ≤ r.rem.length ∧ x = r.rem.take n.toNat := by
  unfold Rd.take? at h
  split at h
  · simp at h
  · split at h
    · simp at h
    · simp at h; exact ⟨by omega, by omega, h.symm⟩

theorem take?_nat (r : Rd) (k : Nat) :
    r.take? (k : Int) = if r.rem.length < k then none else some (r.rem.take k) := by
  unfold Rd.take?
  have : ¬ ((k : Int) < 0) := by omega
  simp only [this, if_false, Int.toNat_natCast]

theorem good_adv (b : Bytes) (r : Rd) (k : Nat) (h : Good b r) (hk : k ≤ r.rem.length) :
    Good b (r.adv k) := by
  obtain ⟨h1, h2⟩ := h
  have : r.rem.length = b.length - r.cnt := by rw [h2]; simp
  refine ⟨by simp [Rd.adv]; omega, ?_⟩
  simp [Rd.adv, h2, List.drop_drop]

theorem step_good (b : Bytes) (r : Rd) (o : ROp) (h : Good b r) : Good b (r.step o).1 := by
  cases o <;> simp only [Rd.step]
  case len => exact h
  case readCount => exact h
  all_goals
    split
    · rename_i x hx
      have := take?_some hx
      first
        | exact h
        | exact good_adv b r _ h (by simpa using this.2.1)
    · exact h

/-- every reachable state: the remainder is the suffix of the original buffer at the consumed count -/
theorem run_good (b : Bytes) (ops : List ROp) : Good b (Rd.run ⟨b, 0⟩ ops) := by
  suffices ∀ r, Good b r → Good b (Rd.run r ops) from this ⟨b, 0⟩ ⟨Nat.zero_le _, by simp⟩
  induction ops with
  | nil => intro r h; exact h
  | cons o os ih => intro r h; exact ih _ (step_good b r o h)

/-- **C19 (accounting)**: consumed + remaining = buffer length, after any operation sequence -/
theorem run_accounting (b : Bytes) (ops : List ROp) :
    (Rd.run ⟨b, 0⟩ ops).cnt + (Rd.run ⟨b, 0⟩ ops).rem.length = b.length := by
  have := run_good b ops
  have h1 := this.1
  rw [this.2]; simp; omega

/-- the shape of the consuming operations: `n` octets are taken, handed to `f` and advanced past, or the operation
fails and leaves the state unchanged — for every `n`, negative included -/
theorem take_adv_spec (b : Bytes) (r : Rd) (n : Int) (f : Bytes → ROut) (h : Good b r) :
    let s := match r.take? n with | some x => (r.adv n.toNat, f x) | none => (r, .fail)
    (s.2 = .fail ∧ s.1 = r) ∨
    (0 ≤ n ∧ s.2 = f ((b.drop r.cnt).take n.toNat) ∧ s.1.cnt = r.cnt + n.toNat ∧
      ((b.drop r.cnt).take n.toNat).length = n.toNat) := by
  intro s
  cases hx : r.take? n with
  | none => left; simp [s, hx]
  | some x =>
    have := take?_some hx
    right
    simp only [s, hx]
    refine ⟨this.1, by rw [this.2.2, h.2], rfl, ?_⟩
    rw [← h.2, List.length_take]; exact Nat.min_eq_left this.2.1

/-- **C19 (read)**: a read of `n` octets returns exactly the next `n` octets of the original buffer
and advances by `n`, or fails and leaves the state unchanged — for every `n`, negative included -/
theorem read_spec (b : Bytes) (r : Rd) (n : Int) (h : Good b r) :
    ((r.step (.read n)).2 = .fail ∧ (r.step (.read n)).1 = r) ∨
    (0 ≤ n ∧ (r.step (.read n)).2 = .bytes ((b.drop r.cnt).take n.toNat) ∧
      (r.step (.read n)).1.cnt = r.cnt + n.toNat ∧ ((b.drop r.cnt).take n.toNat).length = n.toNat) :=
  take_adv_spec b r n .bytes h

/-- width of the fixed-size integer reads -/
def width : ROp → Option Nat
  | .u8 => some 1 | .u16 => some 2 | .u32 => some 4 | .u64 => some 8 | _ => none

/-- a fixed-width integer read of `k` octets, as in `Rd.step` -/
def fixedRead (r : Rd) (k : Nat) : Rd × ROut :=
  match r.take? k with | some b => (r.adv k, .num (beN b)) | none => (r, .fail)

theorem step_of_width {o : ROp} {k : Nat} (hw : width o = some k) (r : Rd) : r.step o = fixedRead r k := by
  cases o <;> cases hw <;> rfl

/-- **C19 (integers)**: `UintK` returns the big-endian value of the next `K` octets of the original
buffer and advances by `K`, or fails and leaves the state unchanged -/
theorem uint_spec (b : Bytes) (r : Rd) (o : ROp) (k : Nat) (hw : width o = some k) (h : Good b r) :
    ((r.step o).2 = .fail ∧ (r.step o).1 = r) ∨
    ((r.step o).2 = .num (beN ((b.drop r.cnt).take k)) ∧ (r.step o).1.cnt = r.cnt + k ∧
      ((b.drop r.cnt).take k).length = k) := by
  rw [step_of_width hw]
  exact (take_adv_spec b r k (fun x => .num (beN x)) h).imp id And.right

/-- **C19 (failure)**: whatever the operation, a failed operation leaves the state unchanged -/
theorem fail_unchanged (r : Rd) (o : ROp) (h : (r.step o).2 = .fail) : (r.step o).1 = r := by
  cases o <;> simp only [Rd.step] at h ⊢ <;> (try rfl) <;> split <;> simp_all

/-- **C19 (peeks)**: `Peek`, `PeekUint16`, `Len`, `ReadCount` never change the state -/
theorem peek_no_advance (r : Rd) (n : Int) : (r.step (.peek n)).1 = r := by
  simp only [Rd.step]; split <;> rfl
theorem peekU16_no_advance (r : Rd) : (r.step .peekU16).1 = r := by
  simp only [Rd.step]; split <;> rfl
theorem len_no_advance (r : Rd) : (r.step .len).1 = r := rfl
theorem readCount_no_advance (r : Rd) : (r.step .readCount).1 = r := rfl

/-- a peek returns exactly what the read at the same position returns -/
theorem peek_then_read (r : Rd) (n : Int) : (r.step (.peek n)).2 = (r.step (.read n)).2 := by
  simp only [Rd.step]; split <;> rfl

/-- `Len()` reports the number of remaining octets and `ReadCount()` the number consumed,
and in every reachable state they add up to the buffer length -/
theorem len_readCount (b : Bytes) (ops : List ROp) :
    ∃ l c, ((Rd.run ⟨b, 0⟩ ops).step .len).2 = .num l ∧
      ((Rd.run ⟨b, 0⟩ ops).step .readCount).2 = .num c ∧ c + l = b.length :=
  ⟨_, _, rfl, rfl, run_accounting b ops⟩

/-- the `Nat`-indexed read the decoders use is the `Int` read at a non-negative length -/
theorem readN_eq_read (r : Rd) (n : Nat) :
    (r.readN n).map (·.1) = r.take? (n : Int) ∧
    ∀ b r', r.readN n = some (b, r') → r' = r.adv n := by
  unfold Rd.readN Rd.take? Rd.adv
  constructor
  · have : ¬ ((n : Int) < 0) := by omega
    simp only [this, if_false, Int.toNat_natCast]
    split <;> simp
  · intro b r' h; split at h <;> simp at h; exact h.2.symm

/-- non-vacuity: a concrete run exercising a failed read, a negative read, a peek and integer reads -/
example : Rd.outs ⟨[1,2,3,4,5], 0⟩ [.u16, .read (-1), .peek 2, .read 9, .u8, .len, .readCount, .read 2, .u8] =
    [.num 258, .fail, .bytes [3,4], .fail, .num 3, .num 2, .num 3, .bytes [4,5], .fail] := by decide +kernel

theorem beN_append (a b : Bytes) : beN (a ++ b) = beN a * 256 ^ b.length + beN b := Vflow.beN_append a b

theorem take?_add (r : Rd) (j k : Nat) :
    r.take? ((j + k : Nat) : Int) = (r.take? j).bind fun x => ((r.adv j).take? k).map (x ++ ·) := by
  simp only [take?_nat, Rd.adv, List.length_drop]
  by_cases h1 : r.rem.length < j
  · simp [h1, show r.rem.length < j + k by omega]
  · by_cases h2 : r.rem.length < j + k
    · simp [h1, h2, show r.rem.length - j < k by omega]
    · simp [h1, h2, show ¬ r.rem.length - j < k by omega, List.take_add]

theorem adv_adv (r : Rd) (j k : Nat) : (r.adv j).adv k = r.adv (j + k) := by
  simp [Rd.adv, List.drop_drop, Nat.add_assoc]

/-- **C19 (integers in big-endian order, compositional form)**: an integer read of `j + k` octets is an integer read
of `j` octets followed by one of `k` octets, the first the more significant — and it fails, leaving the reader where it
was, exactly when either of the two would fail.  For every reader state. -/
theorem fixed_split (r : Rd) (j k : Nat) :
    fixedRead r (j + k) =
      match fixedRead r j with
      | (r1, .num a) =>
        match fixedRead r1 k with
        | (r2, .num b) => (r2, .num (a * 256 ^ k + b))
        | _ => (r, .fail)
      | _ => (r, .fail) := by
  unfold fixedRead
  rw [take?_add]
  cases r.take? j with
  | none => rfl
  | some x =>
    cases h : (r.adv j).take? k with
    | none => simp [h]
    | some y =>
      have hy : y.length = k := by
        obtain ⟨_, hl, rfl⟩ := take?_some h
        rw [List.length_take]; exact Nat.min_eq_left hl
      simp [beN_append, hy, adv_adv, h]

/-- **C19 (reads compose)**: `Read(m+n)` is `Read(m)` followed by `Read(n)` — the same octets, the same final position
and count — and fails without moving exactly when either of the two would fail (a decoder that reads a record field by
field consumes what one read of the record's length consumes).  For every reader state and all `m`, `n`. -/
theorem read_split (r : Rd) (m n : Nat) :
    r.step (.read ((m + n : Nat) : Int)) =
      match r.step (.read m) with
      | (r1, .bytes x1) =>
        match r1.step (.read n) with
        | (r2, .bytes x2) => (r2, .bytes (x1 ++ x2))
        | _ => (r, .fail)
      | _ => (r, .fail) := by
  simp only [Rd.step, take?_add, Int.toNat_natCast]
  cases r.take? m with
  | none => rfl
  | some x => cases h : (r.adv m).take? n <;> simp [adv_adv, h]

/-- `Uint16` is two `Uint8`s, `Uint32` two `Uint16`s, `Uint64` two `Uint32`s, most significant first; a short buffer
fails the wide read and leaves the reader unmoved even when the first half could be read -/
theorem u16_is_two_u8 (r : Rd) :
    r.step .u16 = match r.step .u8 with
      | (r1, .num a) => (match r1.step .u8 with | (r2, .num b) => (r2, .num (a * 256 + b)) | _ => (r, .fail))
      | _ => (r, .fail) := fixed_split r 1 1
theorem u32_is_two_u16 (r : Rd) :
    r.step .u32 = match r.step .u16 with
      | (r1, .num a) => (match r1.step .u16 with | (r2, .num b) => (r2, .num (a * 65536 + b)) | _ => (r, .fail))
      | _ => (r, .fail) := fixed_split r 2 2
theorem u64_is_two_u32 (r : Rd) :
    r.step .u64 = match r.step .u32 with
      | (r1, .num a) => (match r1.step .u32 with | (r2, .num b) => (r2, .num (a * 4294967296 + b)) | _ => (r, .fail))
      | _ => (r, .fail) := fixed_split r 4 4

/-- non-vacuity: the composition laws on a buffer where the second half is missing, and on one where it is there -/
example : (Rd.step ⟨[1,2,3], 0⟩ .u32).2 = .fail ∧ (Rd.step ⟨[1,2,3], 0⟩ .u16).2 = .num 258 ∧
    (Rd.step ⟨[1,2,3,4], 7⟩ .u32) = (⟨[], 11⟩, .num 16909060) ∧ 16909060 = 258 * 65536 + 772 := by decide +kernel

/-! ## Tie (translation): the methods of `reader/reader.go`, translated on every run, are the steps of the model

`Gen.ReaderIR` is regenerated from the Go AST by `factgen` (`reader_ir.go`); `ReaderIR.Body.run` gives the translated
statements Go's slice semantics, with `none` for an index or slice bound out of range.  Each theorem below is for every
state and every `int` argument: the translated method returns exactly what `Rd.step` returns — in particular it never
reaches `none` (no panic, no octet beyond `len(r.data)`), a failing call leaves the reader untouched, and the
theorems above are about what the current source says. -/
section Translation
open ReaderIR

/-- the translated method, run on state `r` with argument `n` -/
def runGen (m : Method) (r : Rd) (n : Int) : Option (Rd × ROut) :=
  m.body.run Gen.ReaderIR.advance Gen.ReaderIR.peek.body r n

/-- a translated fixed-width read (`if len(r.data) < k { … }; d := v; r.advance(k); return d, nil`) whose value expression
gives the big-endian value of the first `k` octets is the model's -/
theorem fixed_step (r : Rd) (k : Nat) (n : Int) (v : Val)
    (hv : ∀ d : Bytes, k ≤ d.length → v.eval d n = some (.num (beN (d.take k)))) :
    Body.runSimple (.readLike ⟨false, .k k⟩ v (.k k)) [.reslice, .countAdd] r n = some (fixedRead r k) := by
  unfold Body.runSimple Guard.fails fixedRead Rd.take? Rd.adv
  have h0 : ¬ ((k : Int) < 0) := by omega
  by_cases h : r.rem.length < k
  · have : ((r.rem.length : Int) < (k : Int)) := by omega
    simp [Width.eval, h, this]
  · have h' : ¬ ((r.rem.length : Int) < (k : Int)) := by omega
    have hv' := hv r.rem (by omega)
    simp [Width.eval, h, h', hv', runAdv, AdvStmt.run, h0, Int.toNat_natCast]
    omega

theorem be_eval (k : Nat) (n : Int) (d : Bytes) (hd : k ≤ d.length) :
    (Val.be k).eval d n = some (.num (beN (d.take k))) := if_neg (Nat.not_lt.2 hd)

theorem gen_reader_uint8 (r : Rd) (n : Int) : runGen Gen.ReaderIR.uint8 r n = some (r.step .u8) :=
  fixed_step r 1 n .index0 fun d hd => match d, hd with
    | x :: t, _ => by simp [Val.eval, beN]

theorem gen_reader_uint16 (r : Rd) (n : Int) : runGen Gen.ReaderIR.uint16 r n = some (r.step .u16) :=
  fixed_step r 2 n (.be 2) (be_eval 2 n)

theorem gen_reader_uint32 (r : Rd) (n : Int) : runGen Gen.ReaderIR.uint32 r n = some (r.step .u32) :=
  fixed_step r 4 n (.be 4) (be_eval 4 n)

theorem gen_reader_uint64 (r : Rd) (n : Int) : runGen Gen.ReaderIR.uint64 r n = some (r.step .u64) :=
  fixed_step r 8 n (.be 8) (be_eval 8 n)

theorem peek_simple (r : Rd) (n : Int) :
    Body.runSimple (.peekLike ⟨true, .arg⟩ (.pfx .arg)) [.reslice, .countAdd] r n =
      some (match r.take? n with | some b => (r, .bytes b) | none => (r, .fail)) := by
  unfold Body.runSimple Guard.fails Rd.take?
  by_cases hn : n < 0
  · simp [hn]
  · have hn' : n = (n.toNat : Int) := by omega
    by_cases h : r.rem.length < n.toNat
    · have : ((r.rem.length : Int) < n) := by omega
      simp [Width.eval, hn, h, this]
    · have : ¬ ((r.rem.length : Int) < n) := by omega
      simp [Width.eval, hn, h, this, Val.eval]

theorem gen_reader_peek (r : Rd) (n : Int) : runGen Gen.ReaderIR.peek r n = some (r.step (.peek n)) := by
  unfold runGen
  simp only [Gen.ReaderIR.peek, Gen.ReaderIR.advance, Body.run]
  rw [peek_simple]; rfl

theorem gen_reader_read (r : Rd) (n : Int) : runGen Gen.ReaderIR.read r n = some (r.step (.read n)) := by
  unfold runGen
  simp only [Gen.ReaderIR.read, Gen.ReaderIR.advance, Body.run]
  unfold Body.runSimple Guard.fails Rd.step Rd.take? Rd.adv
  by_cases hn : n < 0
  · simp [hn]
  · have hn' : n = (n.toNat : Int) := by omega
    by_cases h : r.rem.length < n.toNat
    · have : ((r.rem.length : Int) < n) := by omega
      simp [Width.eval, hn, h, this]
    · have : ¬ ((r.rem.length : Int) < n) := by omega
      simp [Width.eval, hn, h, this, Val.eval, runAdv, AdvStmt.run]
      omega

theorem gen_reader_peekUint16 (r : Rd) (n : Int) :
    runGen Gen.ReaderIR.peekUint16 r n = some (r.step .peekU16) := by
  unfold runGen
  simp only [Gen.ReaderIR.peekUint16, Gen.ReaderIR.peek, Gen.ReaderIR.advance, Body.run]
  rw [peek_simple]
  unfold Rd.step
  cases h : r.take? 2 with
  | none => rfl
  | some b =>
    have hl := take?_some h
    have hb : b.length = 2 := by
      rw [hl.2.2]; simp [List.length_take]; omega
    have : ¬ (b.length < 2) := by omega
    simp only [this, if_false]
    rw [List.take_of_length_le (by omega)]

theorem gen_reader_len (r : Rd) (n : Int) : runGen Gen.ReaderIR.len r n = some (r.step .len) := rfl
theorem gen_reader_readCount (r : Rd) (n : Int) : runGen Gen.ReaderIR.readCount r n = some (r.step .readCount) := rfl

/-- signatures and fields: `count` is an `int` (a narrower counter wraps on long buffers), the integer reads return
the full-width unsigned types, `Read` / `Peek` take an `int`; `NewReader` starts with the whole buffer and count 0
(the start state of `run_accounting`); the package has no other function that could touch the fields -/
theorem gen_reader_signatures :
    Gen.ReaderIR.fields = [("data", "[]byte"), ("count", "int")] ∧
    Gen.ReaderIR.advanceParamType = "int" ∧
    Gen.ReaderIR.newReader = .dataFromArgCountZero ∧
    Gen.ReaderIR.otherFuncs = [] ∧
    [Gen.ReaderIR.uint8, Gen.ReaderIR.uint16, Gen.ReaderIR.uint32, Gen.ReaderIR.uint64, Gen.ReaderIR.read,
      Gen.ReaderIR.peek, Gen.ReaderIR.peekUint16, Gen.ReaderIR.len, Gen.ReaderIR.readCount].map
        (fun m => (m.params, m.results)) =
      [("", "uint8, error"), ("", "uint16, error"), ("", "uint32, error"), ("", "uint64, error"),
       ("int", "[]byte, error"), ("int", "[]byte, error"), ("", "uint16, error"), ("", "int"), ("", "int")] :=
  ⟨rfl, rfl, rfl, rfl, rfl⟩

end Translation

/-- **Tie (control-flow skeleton)**: every branch / loop condition, switch case and `break` / `continue` of the
sources this model mirrors, re-extracted on every run, is exactly the reviewed inventory in `Spec/Sites.lean`
(which names the model clause of each).  A changed bound, a new or dropped branch breaks this obligation. -/
theorem guards_reviewed : Gen.Sites.guardsReader = Spec.Sites.guardsReader := rfl

end Vflow.C19
