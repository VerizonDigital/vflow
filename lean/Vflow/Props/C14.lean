import Vflow.Proofs.Producer
import Vflow.Proofs.SaramaLoop
import Vflow.Gen.ProducerFacts
import Vflow.Gen.ProducerRun
/-!
# C14 — the producer delivers every message once, unmodified, newline-terminated, in order

Model: `Vflow.Producer.run wo dl retryMax ms` (`Model/Producer.lean`), the loop of
`producer/rawSocket.go inputMsg` against an arbitrary *outcome script*: `wo j` is the outcome of the
`j`-th write of the run (`ok`, `lost` = write returned nil but the octets never arrive,
`errPipe`, `errOther`), `dl j` the outcome of the `j`-th redial.

Every theorem quantifies over **every** message list (any octets), **every** script (functions
`Nat → WOut`, `Nat → DOut`, so also infinite ones) and **every** `retryMax : Nat`.

What the outcome script abstracts (trusted, not proved): a write whose outcome is `ok` puts the whole
framed message on the wire; a write that returns an error has put no *complete* line on the wire (Go's
`Write` reports an error for a partial write, and the sink counts only complete lines); `lost` covers
a write the kernel accepted for a connection/port that is already dead. A write that is cut off
half-way (large message, stalled sink, connection closed or reset while the producer is blocked in the
write: event `s<k>` of the socket harness) is such a failed write — the part of the line already on the
wire has no newline and dies with the connection, and the retry sends the whole message again, which
is what `sendOne` does (it always frames the full `m`). Kernel timing decides *which*
script occurs; the theorems hold for all of them.

A sink that stays connected but reads nothing for a while (event `z<k>` of the socket harness: seconds of
silence while a message larger than the socket buffers is being written) is **not** a new kind of outcome:
the loop sets no write deadline, the write blocks and returns nil when the sink reads again, so such a run
is a script in which that write is `ok` — every theorem below already quantifies over it, and a run in which
the sink only stalls is the all-`ok` script of `no_fault_all_delivered` (everything arrives once, in order,
on the first connection, no error counted; after the last real fault: `resumption`). What the stall *tests*
is the trusted clause above, "a failed write leaves no part of a line in front of the retry": it holds
because a write fails only on a connection that is gone. A write that could fail on a healthy connection
(a deadline, say) after putting part of the line on the wire would break it — the retry of the whole message
would land behind the fragment; the harness demands exact, duplicate-free, in-order delivery with a zero error
counter from every stalled run, and `gen_rawLoop_expected` pins that the loop consists of the write, the error
branch and nothing else.

The tie to the source is (A) the obligations on `Vflow.Gen.ProducerFacts` that open this file and on
`Vflow.Gen.ProducerRun` that close it (both regenerated from the Go source on every run) and (B) the `producer` correspondence
(`producer/verif_rawsocket_test.go` against real sockets).

The default backend, kafka (`producer/sarama.go`), has its own small model: `Vflow.Producer.runK lp sc ms`
(`Model/SaramaLoop.lean`) interprets the *regenerated description* `Gen.saramaLoop` of the send loop of
`KafkaSarama.inputMsg` against an arm script `sc` (which arm of the `select` the client library / the
scheduler lets the loop take, one entry per `select` executed). The theorems `kafka_*` below quantify
over **every** message list (of any type) and **every** script; they are about `Gen.saramaLoop`
itself, so they are re-proved against the current source by every `lake build`. On the loop as it
was before the F20 repair they are false (`f20_drop_counterexample`). Tie (B):
`producer/verif_sarama_test.go` runs the real `inputMsg` against sarama's own mock producer and
against a scripted `AsyncProducer` (correspondence kind `producerk`).
-/
namespace Vflow.C14
open Vflow Vflow.Producer

/-! ## Generated-fact obligations (re-checked against the current source by `lake build`) -/

/-- the message is written as a *value* (`fmt.Fprintf(conn, "%s\n", msg)`), never used as the
    printf format: this is what makes `frame m = m ++ [10]` the octets on the wire (F12) -/
theorem gen_rawWrite_verbatim : writeIsVerbatim Gen.rawWrite = true := by decide +kernel

/-- the receive / retry / redial skeleton of `RawSocket.inputMsg` is the one `sendOne`/`sendAll`
    transcribe: one write per attempt, leave on success, count the error, redial only on
    "broken pipe", give up when `i >= MaxRetry` -/
theorem gen_rawLoop_expected : Gen.rawLoop = expectedLoop := rfl

/-- kafka (sarama): the payload is the received message itself -/
theorem gen_sarama_payload : Gen.saramaPayload = .byteEncoderOfRecvVar := rfl
/-- kafka (segmentio): the payload is the received message itself -/
theorem gen_segmentio_payload : Gen.segmentioPayload = .recvVar := rfl
/-- nsq: the payload is the received message itself -/
theorem gen_nsq_payload : Gen.nsqPayload = .recvVar := rfl
/-- nats: the payload is the received message itself -/
theorem gen_nats_payload : Gen.natsPayload = .recvVar := rfl

/-- kafka (sarama): the send loop is the repaired one, token for token: `msg, ok = <-mCh`,
    `if !ok { break }`, then `offer: for { select { case Input() <- …: break offer;
    case err := <-Errors(): log; *ec++ } }` and nothing else -/
theorem gen_saramaLoop_expected : Gen.saramaLoop = expectedSaramaLoop := rfl

/-- kafka (sarama): under Go's control flow (`armAfter`) the regenerated loop offers the message in
    hand again after every error report, moves on only after `Input()` accepted it, and logs and
    counts each error report once -/
theorem gen_saramaLoop_retries : Gen.saramaLoop.retriesUntilAccepted :=
  ⟨⟨_, rfl, rfl, rfl⟩, ⟨_, rfl, rfl, rfl⟩⟩

/-- **C14 (kafka: every message is offered until accepted, once, in order)**: for every message list
and every arm script, what the client library has accepted on `Input()` is exactly the first `k`
handed-over messages, `k` the number of `select`s of the script in which the library accepts — no
message is skipped, repeated or reordered, whatever the error reports in between; the loop never
reaches an undefined state -/
theorem kafka_offered_is_prefix {α : Type} (sc : List Arm) (ms : List α) :
    (runK Gen.saramaLoop sc ms).offered = ms.take (inputArms sc) ∧
    (runK Gen.saramaLoop sc ms).stuck = false :=
  have h := runK_retrying Gen.saramaLoop gen_saramaLoop_retries sc ms
  ⟨h.1, h.2.1⟩

/-- **C14 (kafka: the sequence offered to the library = the sequence received)**: as soon as the
library has accepted as many inputs as messages were handed over, it has been offered exactly those
messages, each once, in the order they were handed over -/
theorem kafka_offered_eq_received {α : Type} (sc : List Arm) (ms : List α)
    (h : ms.length ≤ inputArms sc) :
    (runK Gen.saramaLoop sc ms).offered = ms := by
  rw [(kafka_offered_is_prefix sc ms).1, List.take_of_length_le h]

/-- **C14 (kafka: error counter)**: `MQErrorCount` and the number of logged error reports both equal
the number of error reports taken from `Errors()` in the `select`s the run executed; the run executes
`select`s exactly until every message has been accepted (or the script ends) -/
theorem kafka_counters_exact {α : Type} (sc : List Arm) (ms : List α) :
    let r := runK Gen.saramaLoop sc ms
    r.ec = errorArms (sc.take r.steps) ∧ r.logged = errorArms (sc.take r.steps) ∧
    r.steps ≤ sc.length ∧ inputArms (sc.take r.steps) = min ms.length (inputArms sc) :=
  have h := runK_retrying Gen.saramaLoop gen_saramaLoop_retries sc ms
  ⟨h.2.2.2.1, h.2.2.2.2.1, h.2.2.1, h.2.2.2.2.2⟩

/-- **F20**: on the loop as it was (`select` once per message, the error arm leaves it as well) the
property is false — an error report taken while message 0 is in hand discards message 0: the library
is offered message 1 only, although it accepts two inputs, and the run is not stuck -/
theorem f20_drop_counterexample :
    (runK saramaLoopBeforeF20 [.error, .input, .input] [0, 1]).offered = [1] ∧
    (runK saramaLoopBeforeF20 [.error, .input, .input] [0, 1]).stuck = false ∧
    (runK saramaLoopBeforeF20 [.error, .input, .input] [0, 1]).offered ≠ [0, 1].take (inputArms [.error, .input, .input]) := by
  decide +kernel

/-- non-vacuity: three messages, an error report while the second is in hand and two while the third
is: all three are offered, in order, three errors counted and logged, six `select`s -/
example :
    runK Gen.saramaLoop [.input, .error, .input, .error, .error, .input, .error] [10, 20, 30] =
      { offered := [10, 20, 30], ec := 3, logged := 3, steps := 6, stuck := false } := by
  decide +kernel

/-- fail closed: a loop the extractor could not read is given no meaning (`stuck`), so
    `kafka_offered_is_prefix` cannot be proved about it -/
example : (runK { recvFirst := true, offer := .unrecognised "x", extra := [] } [.input] [0]).stuck = true := by
  decide +kernel

/-- what the sink has received in a run is, with the indices, a subsequence of the framed messages -/
theorem run_delivered (wo : Nat → WOut) (dl : Nat → DOut) (rm : Nat) (ms : List Bytes) :
    ((run wo dl rm ms).delivered.map fun c => (c.data, c.idx)).Sublist ((ms.map frame).zipIdx 0) := by
  obtain ⟨cs, hd, hsub⟩ := (sendAll_spec rm ms 0 {} (acct_init wo dl)).2.2.2
  rw [run, hd]
  exact hsub

/-- **C14 (unmodified, newline-terminated, in order, no duplicates)**: every chunk the sink receives
is `msg ++ "\n"` for the handed-over message with that index, byte for byte; the indices of the
received chunks are strictly increasing (in order, none twice) -/
theorem delivered_in_order (wo : Nat → WOut) (dl : Nat → DOut) (rm : Nat) (ms : List Bytes) :
    (idxs (run wo dl rm ms)).Pairwise (· < ·) ∧
    ∀ e ∈ (run wo dl rm ms).delivered, ∃ m, ms[e.idx]? = some m ∧ e.data = m ++ [10] := by
  have hsub := run_delivered wo dl rm ms
  refine ⟨?_, fun e he => ?_⟩
  · -- the indices are a subsequence of 0, 1, 2, …
    have := hsub.map Prod.snd
    rw [List.map_map, List.zipIdx_map_snd] at this
    exact List.Pairwise.sublist this (List.pairwise_lt_range' 1)
  · have hm : (e.data, e.idx) ∈ (ms.map frame).zipIdx := hsub.subset (List.mem_map_of_mem he)
    rw [List.mk_mem_zipIdx_iff_getElem?, List.getElem?_map] at hm
    obtain ⟨m, hm, hf⟩ := Option.map_eq_some_iff.mp hm
    exact ⟨m, hm, hf.symm⟩

/-- **C14 (subsequence)**: the octet chunks received over all connections, in arrival order, are
exactly `sub.map (· ++ "\n")` for a subsequence `sub` of the handed-over list (order kept, nothing
invented, nothing twice, nothing altered) -/
theorem delivered_subsequence (wo : Nat → WOut) (dl : Nat → DOut) (rm : Nat) (ms : List Bytes) :
    ∃ sub : List Bytes, sub.Sublist ms ∧
      (run wo dl rm ms).delivered.map (·.data) = sub.map (fun m => m ++ [10]) := by
  have := (run_delivered wo dl rm ms).map Prod.fst
  rw [List.map_map, List.zipIdx_map_fst] at this
  obtain ⟨sub, hs, he⟩ := List.sublist_map_iff.mp this
  exact ⟨sub, hs, he⟩

/-- **C14 (bounded gap)**: the number of handed-over messages the sink does not have is at most the
number of write outcomes, among those consumed, that were not a delivery; and the run consumes at
most `retryMax + 1` writes per message -/
theorem bounded_gap (wo : Nat → WOut) (dl : Nat → DOut) (rm : Nat) (ms : List Bytes) :
    ms.length - (run wo dl rm ms).delivered.length ≤ countTo notDelivered wo (run wo dl rm ms).wi ∧
    (run wo dl rm ms).wi ≤ ms.length * (rm + 1) := by
  obtain ⟨h, h1, h2, _⟩ := sendAll_spec rm ms 0 {} (acct_init wo dl)
  have hs := countTo_split wo (run wo dl rm ms).wi
  have hd := h.dlv
  simp only [run, Nat.zero_add] at *
  exact ⟨by omega, h2⟩

/-- **C14 (error counter, reconnects)**: `MQErrorCount` equals the number of failed writes; a redial
is attempted exactly after each broken-pipe failure; the connection in use is the one established
by the last successful redial -/
theorem counters_exact (wo : Nat → WOut) (dl : Nat → DOut) (rm : Nat) (ms : List Bytes) :
    (run wo dl rm ms).ec = countTo isErr wo (run wo dl rm ms).wi ∧
    (run wo dl rm ms).di = countTo isPipe wo (run wo dl rm ms).wi ∧
    (run wo dl rm ms).conn = dialsOk dl (run wo dl rm ms).di := by
  have h := (sendAll_spec rm ms 0 {} (acct_init wo dl)).1
  exact ⟨h.ec, h.di, h.conn⟩

/-- **C14 (resumption)**: split the hand-over at any point; if no write fails or is lost after the
first part has been processed (the last failure outcome is behind us), then *every* later message
is delivered, in order, each with a single write, on the connection then in use, and the error
counter no longer moves -/
theorem resumption (wo : Nat → WOut) (dl : Nat → DOut) (rm : Nat) (ms1 ms2 : List Bytes)
    (hok : ∀ j, (run wo dl rm ms1).wi ≤ j → wo j = .ok) :
    (run wo dl rm (ms1 ++ ms2)).delivered =
      (run wo dl rm ms1).delivered ++ framesFrom (run wo dl rm ms1).conn ms1.length ms2 ∧
    (run wo dl rm (ms1 ++ ms2)).ec = (run wo dl rm ms1).ec := by
  have h := sendAll_all_ok wo dl rm ms2 (0 + ms1.length) (run wo dl rm ms1) hok
  simp only [run, sendAll_append] at *
  exact ⟨by simpa using h.1, h.2.1⟩

/-- with no fault at all every message arrives exactly once, in order, on the first connection,
and no error is counted -/
theorem no_fault_all_delivered (dl : Nat → DOut) (rm : Nat) (ms : List Bytes) :
    (run (fun _ => .ok) dl rm ms).delivered = framesFrom 0 0 ms ∧ (run (fun _ => .ok) dl rm ms).ec = 0 := by
  have h := sendAll_all_ok (fun _ => .ok) dl rm ms 0 {} (fun _ _ => rfl)
  exact ⟨by simpa [run] using h.1, by simpa [run] using h.2.1⟩

/-- three messages (one containing `%d`), the second write hits a broken pipe, the redial succeeds:
everything arrives, the second message on connection 1, one error counted -/
example :
    let r := run (scriptW [.ok, .errPipe, .ok, .ok]) (scriptD [.ok]) 2 [[37, 100], [1, 2], [255]]
    r.delivered = [⟨0, 0, [37, 100, 10]⟩, ⟨1, 1, [1, 2, 10]⟩, ⟨1, 2, [255, 10]⟩] ∧ r.ec = 1 ∧ r.conn = 1 := by
  decide +kernel

/-- retry-max 0 and the sink down: the message is given up after one write, the next one is not
held back; one silently lost write leaves a gap of exactly one -/
example :
    let r := run (scriptW [.errPipe, .lost, .ok]) (scriptD [.fail]) 0 [[1], [2], [3]]
    r.delivered = [⟨0, 2, [3, 10]⟩] ∧ r.ec = 1 ∧ r.wi = 3 := by
  decide +kernel

/-- what F12 did: with the message used as printf format, `%d` arrives as `%!d(MISSING)` — not
`frame m`; the repaired write expression is the generated fact `gen_rawWrite_verbatim` -/
example : writeIsVerbatim (.fprintf false "string(msg) + \"\\n\"" []) = false := by decide +kernel

/-! ## Tie: the hand-over between a worker's send and the backend's `inputMsg`

The hooks drive `setup` / `inputMsg` of the backends directly; what lies in between — `producer/producer.go` and the
block of each protocol's `run()` that constructs the producer — is regenerated on every run and obliged to be exactly
this: each backend name maps to its own type; `Run` sets the backend up (an error ends the start) and then calls
`inputMsg` once, with the producer's own topic, channel and error counter, and waits for it; each protocol hands its
producer its OWN message-queue channel, topic option and error counter; and nothing else in package `vflow` receives
from or sends on a message-queue channel (the worker's send, the producer's channel, the queue length in the stats). -/

/-- the producer block of a protocol's `run()` -/
def expectedWiring (stats chan topic : String) : List String :=
  ["if !opts.ProducerEnabled { return }",
   "p := producer.NewProducer(opts.MQName)",
   "p.MQConfigFile = path.Join(opts.VFlowConfigPath, opts.MQConfigFile)",
   "p.MQErrorCount = &" ++ stats ++ ".stats.MQErrorCount",
   "p.Logger = logger",
   "p.Chan = " ++ chan,
   "p.Topic = opts." ++ topic,
   "if err := p.Run(); err != nil { logger.Fatal(err) }"]

def expectedChanUses (file worker chan : String) : List String :=
  [file ++ " (package level): " ++ chan ++ " = make(chan []byte, 1000)",
   file ++ " " ++ worker ++ ": " ++ chan ++ " <- append([]byte{}, b...)",
   file ++ " run: p.Chan = " ++ chan,
   file ++ " status: MessageQueue: len(" ++ chan ++ ")"]

theorem gen_producer_registry :
    Gen.ProducerRun.registry =
      ["\"kafka\" => new(KafkaSarama)", "\"kafka.sarama\" => new(KafkaSarama)",
       "\"kafka.segmentio\" => new(KafkaSegmentio)", "\"nats\" => new(NATS)", "\"nsq\" => new(NSQ)",
       "\"rawSocket\" => new(RawSocket)"] ∧
    Gen.ProducerRun.newProducer =
      ["var mqRegistered = map[string]MQueue{…}", "return &Producer{ MQ: mqRegistered[mqName], }"] ∧
    Gen.ProducerRun.mqueue = ["setup(string, *log.Logger) error", "inputMsg(string, chan []byte, *uint64)"] :=
  ⟨rfl, rfl, rfl⟩

theorem gen_producer_run :
    Gen.ProducerRun.run =
      ["var ( wg sync.WaitGroup err error )",
       "err = p.MQ.setup(p.MQConfigFile, p.Logger)",
       "if err != nil { return err }",
       "wg.Add(1)",
       "go func() { defer wg.Done() topic := p.Topic p.MQ.inputMsg(topic, p.Chan, p.MQErrorCount) }()",
       "wg.Wait()",
       "return nil"] ∧
    Gen.ProducerRun.shutdown = ["close(p.Chan)"] :=
  ⟨rfl, rfl⟩

theorem gen_producer_wiring :
    Gen.ProducerRun.wiringIpfix = expectedWiring "i" "ipfixMQCh" "IPFIXTopic" ∧
    Gen.ProducerRun.wiringSflow = expectedWiring "s" "sFlowMQCh" "SFlowTopic" ∧
    Gen.ProducerRun.wiringV5 = expectedWiring "i" "netflowV5MQCh" "NetflowV5Topic" ∧
    Gen.ProducerRun.wiringV9 = expectedWiring "i" "netflowV9MQCh" "NetflowV9Topic" := by
  simp only [expectedWiring, String.reduceAppend]
  exact ⟨rfl, rfl, rfl, rfl⟩

theorem gen_mq_channel_uses :
    Gen.ProducerRun.mqChanUses =
      expectedChanUses "ipfix.go" "ipfixWorker" "ipfixMQCh" ++
      expectedChanUses "netflow_v5.go" "netflowV5Worker" "netflowV5MQCh" ++
      expectedChanUses "netflow_v9.go" "netflowV9Worker" "netflowV9MQCh" ++
      ["sflow.go (package level): sFlowMQCh = make(chan []byte, 1000)",
       "sflow.go run: p.Chan = sFlowMQCh",
       "sflow.go sFlowWorker: sFlowMQCh <- append([]byte{}, b...)",
       "sflow.go status: MessageQueue: len(sFlowMQCh)"] := by
  simp only [expectedChanUses, String.reduceAppend]
  rfl

end Vflow.C14
