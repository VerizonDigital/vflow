import Vflow.Proofs.SflowSafe
/-!
# C01 (sFlow + packet share) — no datagram and no sampled header can make the decoder panic

In the model every Go operation that can panic is an explicit check yielding `Res.panic`:
`at?` (index), `slice?` / `from?` (slice expressions) in `Vflow.Model.Packet`, `sh.Header[:HeaderLength]`
and `buff[4:]` in `Vflow.Model.Sflow`; the `make` with a wire-derived size is bounded by the length
validation (`decodeExtRouter`) and the 1500-octet cap (`decodeSampledHeader`).  The theorems are about
the code after the `fix:` commits F5 and F7 (before them the code panics on the corpus witnesses
`corpus/C01/sflow-F5-extrouter-len.txt`, `corpus/C01/sflow-F7-vlan-short.txt`) and F19 (a dissector error and
an extended-router record of another length are skipped, not fatal: the decoder goes on over those octet
strings too, and is panic-free on all of them).
-/
namespace Vflow.C01Sflow
open Vflow Vflow.Sflow Vflow.Packet

/-- **C01 (dissector)**: for every sampled header and every header protocol the dissector returns a
packet or an error — never a panic -/
theorem dissect_ne_panic (hdr : Bytes) (proto : Nat) : dissect hdr proto ≠ .panic :=
  (dissect_safe hdr proto).1

/-- **C01 (sFlow)**: for every filter list and every octet string the decoder returns a datagram or
an error — never a panic -/
theorem decode_ne_panic (f : List Nat) (bs : Bytes) : decode f bs ≠ .panic :=
  (decode_safe f bs).1

/-- every step function of the decoder is panic-free on its own, too -/
theorem steps_ne_panic (f : List Nat) (bs : Bytes) :
    sampleStep f bs ≠ .panic ∧ flowRecord bs ≠ .panic ∧ counterRecord bs ≠ .panic ∧
    decodeSampledHeader bs ≠ .panic ∧ (∀ l, decodeExtRouter l bs ≠ .panic) :=
  ⟨(sampleStep_good f bs).1.1, (flowRecord_good bs).1.1, (counterRecord_good bs).1.1,
   (decodeSampledHeader_good bs).1.1, fun l => (decodeExtRouter_good l bs).1.1⟩

/-- non-vacuity (F7 witness): an 802.1Q ethertype in a 14-octet sampled header is an error, not a panic -/
example : dissect [2,0,0,0,0,1, 2,0,0,0,0,2, 0x81,0] 1 = .err .ethShort := by decide +kernel

/-- non-vacuity (the slice `p.data[hlen:]` of the F17 repair): an IPv4 header that announces 60 octets
(IHL 15) in a 24-octet sampled header is an error, not a slice past the end; an IHL below 5 (here 0) is
read as 20 octets, as before the repair -/
example : dissect [0x4f,0,0,24, 0,1,0,0, 64,17,0,0, 192,0,2,1, 192,0,2,2, 0,53,0,54] 11 = .err .ip4Short ∧
    dissect [0x40,0,0,28, 0,1,0,0, 64,17,0,0, 192,0,2,1, 192,0,2,2, 0,53,0,54,0,8,0,0] 11 =
      .ok ⟨{}, .v4 ⟨4, 0, 28, 1, 0, 0, 64, 17, 0, [192,0,2,1], [192,0,2,2]⟩, .udp 53 54⟩ := by decide +kernel

/-- non-vacuity (F5 witness): an extended-router record of declared length 8 is an error of
`ExtRouterData.unmarshal`, not a panic; since the F19d repair the record loop does not even call it but
skips the record by its declared length — 8 octets, or 4 294 967 295 (the position runs past the end:
what is left is empty, the next read is an EOF error) -/
example : decodeExtRouter 8 [0,0,0,1, 192,0,2,9, 0,0,0,24, 0,0,0,16] = .err .rtrLen ∧
    flowRecord [0,0,3,234, 0,0,0,8, 0,0,0,1, 192,0,2,9, 0,0,0,24, 0,0,0,16] = .ok (none, [0,0,0,24, 0,0,0,16]) ∧
    flowRecord [0,0,3,234, 255,255,255,255, 0,0,0,1, 192,0,2,9, 0,0,0,24, 0,0,0,16] = .ok (none, []) := by decide +kernel

/-- non-vacuity (F19a, F33): a raw-header record whose sampled header is the F7 witness (802.1Q ethertype in 14
octets) is consumed — 8 + 16 + 14 + 2 octets — and yields the record's four words without a packet; what follows
is left -/
example : flowRecord ([0,0,0,1, 0,0,0,32, 0,0,0,1, 0,0,0,64, 0,0,0,4, 0,0,0,14,
    2,0,0,0,0,1, 2,0,0,0,0,2, 0x81,0, 0,0] ++ [9, 9]) = .ok (some (.raw ⟨1, 64, 4, 14, none⟩), [9, 9]) := by decide +kernel

/-- non-vacuity: a well-formed extended-router record decodes -/
example : decodeExtRouter 16 [0,0,0,1, 192,0,2,9, 0,0,0,24, 0,0,0,16] = .ok (⟨[192,0,2,9], 24, 16⟩, []) := by decide +kernel

end Vflow.C01Sflow
