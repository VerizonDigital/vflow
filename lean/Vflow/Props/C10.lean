import Vflow.Proofs.Locks
import Vflow.Proofs.LocksRun
import Vflow.Proofs.LocksDeadlock
import Vflow.Proofs.LocksExec
import Vflow.Proofs.LockIR
import Vflow.Gen.LockRegions
/-!
# C10 — concurrent decoding, dumping and peer lookups keep the template cache sound

Model: `Vflow.Locks` (`Model/Locks.lean`): any number of threads, each a straight-line program of
mutex calls and shard-map accesses, the shard maps, and **every** schedule (`Run init hist cur`:
`hist` is the list of steps taken, each with the state it was taken in).

The programs are the ones `factgen` extracts from the current Go source (`Vflow.Gen.LockRegions`,
regenerated on every run): the obligations `gen_*` below re-check, by evaluation, that every
extracted function is well bracketed for all `shardNo` shards (a dropped lock, an access outside
its lock, an unlocked iteration, a lock leaked past the end, a new function touching the cache: each
is a failed named obligation; `Dump` is compared with the region `isDumpRegion_dump` speaks of, and its
bracketing follows from `wb_dumpProg`: both hold for every number of shards). The general theorems are about *every* well-bracketed program and
do not depend on the generated values.
-/
namespace Vflow.C10
open Vflow Vflow.Locks

/-! ## Generated-fact obligations (re-checked against the current source by `lake build`) -/

/-- the functions of the three anchored files that touch the cache are exactly the ones below -/
theorem gen_functions_known : Gen.lockRegionNames =
    ["ipfixInsert", "ipfixRetrieve", "ipfixAllSetIds", "ipfixDump",
     "nf9Insert", "nf9Retrieve", "nf9Dump", "ipfixIRPCGet", "ipfixRPC"] := rfl

/-- `valid()` (added by the F9 repair) runs inside `GetCache`, before the cache is returned to — and so
before it can be shared with — any other goroutine; it only compares shard pointers and map headers
with nil.  Its exact statements are pinned here; it is not a concurrent cache operation. -/
theorem gen_load_time_checks : Gen.loadTimeChecks =
    [("ipfixValid", ["if len(m) != shardNo { return false }",
                     "for _, shard := range m { if shard == nil || shard.Templates == nil { return false } }",
                     "return true"]),
     ("nf9Valid", ["if len(m) != shardNo { return false }",
                   "for _, shard := range m { if shard == nil || shard.Templates == nil { return false } }",
                   "return true"])] := rfl

theorem gen_shardNo : Gen.ipfixShardNo = 32 ∧ Gen.nf9ShardNo = 32 := ⟨rfl, rfl⟩

/-- `ipfix.MemCache.insert`: write under the shard's write lock, released on return -/
theorem gen_ipfixInsert_wb : wbRegion Gen.ipfixShardNo Gen.ipfixInsert = true := by decide +kernel
/-- `ipfix.MemCache.retrieve`: read under the shard's read lock, released on return -/
theorem gen_ipfixRetrieve_wb : wbRegion Gen.ipfixShardNo Gen.ipfixRetrieve = true := by decide +kernel
theorem gen_nf9Insert_wb : wbRegion Gen.nf9ShardNo Gen.nf9Insert = true := by decide +kernel
theorem gen_nf9Retrieve_wb : wbRegion Gen.nf9ShardNo Gen.nf9Retrieve = true := by decide +kernel
/-- `Dump` is exactly: read-lock every shard in shard order, iterate every shard, release every shard -/
theorem gen_ipfixDump_shape : isDumpRegion Gen.ipfixShardNo Gen.ipfixDump = true := isDumpRegion_dump _
theorem gen_nf9Dump_shape : isDumpRegion Gen.nf9ShardNo Gen.nf9Dump = true := isDumpRegion_dump _
/-- `ipfix.MemCache.Dump`: every shard map is iterated (json.Marshal) under that shard's lock, locks
    taken in shard order, all released (F10: on the unrepaired code this is `false`) -/
theorem gen_ipfixDump_wb : wbRegion Gen.ipfixShardNo Gen.ipfixDump = true :=
  wbRegion_of_isDumpRegion gen_ipfixDump_shape
theorem gen_nf9Dump_wb : wbRegion Gen.nf9ShardNo Gen.nf9Dump = true :=
  wbRegion_of_isDumpRegion gen_nf9Dump_shape
/-- `retrieve` takes its lock first and afterwards only reads and releases (two-phase, read-only): with
    `twoPhaseRegion_sound` every call of it is a program `acq ++ rest` as `snapshot_at_lock_point` asks -/
theorem gen_ipfixRetrieve_twoPhase : twoPhaseRegion Gen.ipfixShardNo Gen.ipfixRetrieve = true := by decide +kernel
theorem gen_nf9Retrieve_twoPhase : twoPhaseRegion Gen.nf9ShardNo Gen.nf9Retrieve = true := by decide +kernel
/-- `IRPC.Get` (peer lookup) reaches the cache only through `retrieve` -/
theorem gen_ipfixIRPCGet : Gen.ipfixIRPCGet = [.once [.call "retrieve"]] := rfl
/-- `RPC` (answer from a peer) reaches the cache only through `insert` -/
theorem gen_ipfixRPC : Gen.ipfixRPC = [.once [.call "insert"]] := rfl

/-- `allSetIds` (debug helper, not called by the collector): today it reads `len(shard.Templates)`
    of every shard with no lock before iterating each shard under its read lock — reported, not part
    of the property's operations; the obligation accepts that exact shape or a well-bracketed one -/
theorem gen_ipfixAllSetIds_reported :
    (Gen.ipfixAllSetIds = [.each [.len], .each [.rlock, .iter, .runlock]] ∨
      wbRegion Gen.ipfixShardNo Gen.ipfixAllSetIds = true) ∧
    wbRegion Gen.ipfixShardNo [.each [.rlock, .iter, .runlock]] = true := ⟨.inl rfl, wbRegion_each_locked _⟩

/-! ## The library: one call of `insert`, `retrieve` (= `IRPC.Get`) or `Dump` -/

/-- a thread that runs one call of a function of library `lib` on some shard / key / value -/
def FromLibrary (n : Nat) (lib : List Region) (t : Thread) : Prop :=
  t.held = ⟨[], []⟩ ∧ t.obs = [] ∧
    ∃ r ∈ lib, ∃ (s k : Nat) (v : Val), s < n ∧ progOf n s k v r = some t.prog

def ipfixLibrary : List Region := [Gen.ipfixInsert, Gen.ipfixRetrieve, Gen.ipfixDump]
def nf9Library : List Region := [Gen.nf9Insert, Gen.nf9Retrieve, Gen.nf9Dump]

/-- a system all of whose threads run library calls starts in `Init` -/
theorem library_init {n : Nat} {lib : List Region} (hl : ∀ r ∈ lib, wbRegion n r = true) {σ : Sys}
    (h : ∀ t ∈ σ.threads, FromLibrary n lib t) : Init σ := by
  intro t ht
  obtain ⟨h1, h2, r, hr, s, k, v, hs, hp⟩ := h t ht
  obtain ⟨p, hp', hw⟩ := wbRegion_sound (hl r hr) (s := s) (k := k) (v := v) hs
  cases hp.symm.trans hp'
  exact ⟨h1, h2, hw⟩

theorem ipfixLibrary_wb : ∀ r ∈ ipfixLibrary, wbRegion Gen.ipfixShardNo r = true :=
  List.forall_mem_cons.mpr ⟨gen_ipfixInsert_wb, List.forall_mem_cons.mpr ⟨gen_ipfixRetrieve_wb,
    List.forall_mem_cons.mpr ⟨gen_ipfixDump_wb, nofun⟩⟩⟩

theorem nf9Library_wb : ∀ r ∈ nf9Library, wbRegion Gen.nf9ShardNo r = true :=
  List.forall_mem_cons.mpr ⟨gen_nf9Insert_wb, List.forall_mem_cons.mpr ⟨gen_nf9Retrieve_wb,
    List.forall_mem_cons.mpr ⟨gen_nf9Dump_wb, nofun⟩⟩⟩

/-- **C10 (1), no data race**: for any number of threads running any well-bracketed programs, in
every state reachable by any schedule no two threads are about to access the same shard map with
at least one of them writing -/
theorem no_data_race {init cur : Sys} {hist : List Ev} (h0 : Init init) (hr : Run init hist cur) :
    ¬ Race cur :=
  inv_no_race (run_linv h0 hr)

/-- the same for the code as extracted today: any number of concurrent `insert` / `retrieve` /
`IRPC.Get` / `Dump` calls on the IPFIX cache, any keys, any schedule -/
theorem ipfix_no_data_race {init cur : Sys} {hist : List Ev}
    (h : ∀ t ∈ init.threads, FromLibrary Gen.ipfixShardNo ipfixLibrary t) (hr : Run init hist cur) :
    ¬ Race cur :=
  no_data_race (library_init ipfixLibrary_wb h) hr

theorem nf9_no_data_race {init cur : Sys} {hist : List Ev}
    (h : ∀ t ∈ init.threads, FromLibrary Gen.nf9ShardNo nf9Library t) (hr : Run init hist cur) :
    ¬ Race cur :=
  no_data_race (library_init nf9Library_wb h) hr

/-- non-vacuity: a concrete system of an inserter, a lookup and a dump is in `Init` -/
example : Init ⟨[⟨⟨[], []⟩, [.lock 1, .wr 1 7 3, .unlock 1], []⟩,
                 ⟨⟨[], []⟩, [.rlock 1, .rd 1 7, .runlock 1], []⟩,
                 ⟨⟨[], []⟩, [.rlock 0, .rlock 1, .iter 0, .iter 1, .runlock 1, .runlock 0], []⟩],
                fun _ _ => none⟩ := by
  intro t ht
  simp at ht
  rcases ht with rfl | rfl | rfl <;> exact ⟨rfl, rfl, by decide⟩

/-- what F10 was: `Dump` iterating every shard map with no lock is not well bracketed, and next to
an inserter it is a data race in the very first state -/
example : wbRegion 32 [.once [.marshalAll]] = false := by decide +kernel
example : Race ⟨[⟨⟨[], []⟩, [.iter 0, .iter 1], []⟩, ⟨⟨[0], []⟩, [.wr 0 7 3, .unlock 0], []⟩],
                fun _ _ => none⟩ :=
  ⟨1, 0, _, _, .wr 0 7 3, .iter 0, by decide, rfl, rfl, rfl, rfl, rfl⟩

/-- **C10 (2), atomic visibility**: take any run and any lookup step in it (`rd s k` by thread `i`,
taken in state `σ`, `pre` = the steps before it). Then
* the lookup returns, and the thread records, `σ.mem s k` — nothing, or one whole value;
* that is the value of the latest write to exactly that key in the step order (`lastWrite`);
* at that instant no other thread is inside a write critical section of the shard, i.e.
* every insert by another thread that had written into the shard before had also completed
  (released the shard's lock): the value is that of the latest *completed* insert on that key. -/
theorem lookup_atomic {init cur : Sys} {hist : List Ev} (h0 : Init init) (hr : Run init hist cur)
    {post pre : List Ev} {σ : Sys} {i s k : Nat} (hs : hist = post ++ ⟨σ, i, .rd s k⟩ :: pre) :
    (∃ σ' t t', Step σ i (.rd s k) σ' ∧ σ.threads[i]? = some t ∧ σ'.threads[i]? = some t' ∧
        t'.obs = .got s k (σ.mem s k) :: t.obs) ∧
    σ.mem s k = lastWrite init.mem pre s k ∧
    (∀ j tj, j ≠ i → σ.threads[j]? = some tj → s ∉ tj.held.w) ∧
    (∀ p2 p1 σ2 j k' v, j ≠ i → pre = p2 ++ ⟨σ2, j, .wr s k' v⟩ :: p1 →
        ∃ e ∈ p2, e.tid = j ∧ e.act = .unlock s) := by
  obtain ⟨hpre, σ', st⟩ := run_split hr post pre _ hs
  have hinv := run_linv h0 hpre
  obtain ⟨t, p, hi, hp, hi'⟩ := step_self st
  -- the reader holds the shard's lock, so no other thread write-holds it
  have hexcl : ∀ j tj, j ≠ i → σ.threads[j]? = some tj → s ∉ tj.held.w := by
    intro j tj hji hj hc
    have ex := hinv.excl j i tj t s hj hi hji hc
    exact (hinv.permits hi hp).elim ex.1 ex.2
  refine ⟨⟨σ', t, _, st, hi, hi', rfl⟩, run_mem hpre s k, hexcl, ?_⟩
  intro p2 p1 σ2 j k' v hji hsplit
  -- a writer that had not unlocked would still hold it
  apply Classical.byContradiction
  intro hno
  obtain ⟨tj, htj, hw⟩ := wrote_holds (linv_init h0) hpre p2 p1 σ2 j s k' v hsplit
    (fun e he hc => hno ⟨e, he, hc⟩)
  exact hexcl j tj hji htj hw

/-- **C10 (2), not superseded**: if a write of `v2` to the key precedes the lookup's read (in
particular: an insert that completed before the lookup began), the lookup returns `v2` or the value of
a write that came after it — never an older one, never nothing -/
theorem lookup_not_superseded {init cur : Sys} {hist : List Ev} (h0 : Init init) (hr : Run init hist cur)
    {post mid old : List Ev} {σ σ2 : Sys} {i j s k : Nat} {v2 : Val}
    (hs : hist = post ++ ⟨σ, i, .rd s k⟩ :: (mid ++ ⟨σ2, j, .wr s k v2⟩ :: old)) :
    σ.mem s k = some v2 ∨ ∃ e ∈ mid, ∃ v, e.act = .wr s k v ∧ σ.mem s k = some v := by
  have h := (lookup_atomic h0 hr hs).2.1
  rw [h]
  exact lastWrite_mid init.mem s k v2 σ2 j old mid

/-- **C10 (3), snapshot at the lock point** (general form): a thread that first takes all its locks
(`acq`) and then only reads, iterates and releases (`rest`) has, at every point of every run, either
recorded nothing yet, or there is **one** visited state `σ` such that everything it has recorded is
exactly what executing the finished part `done` of `rest` against `σ`'s shard maps gives, and the
shards it still holds have not changed since `σ` -/
theorem snapshot_at_lock_point {init cur : Sys} {hist : List Ev} (h0 : Init init) (hr : Run init hist cur)
    {i : Nat} {t0 : Thread} {acq rest : List Act} (hi0 : init.threads[i]? = some t0)
    (hprog : t0.prog = acq ++ rest) (hacq : ∀ a ∈ acq, isAcq a = true) (hrest : ∀ a ∈ rest, quiet a = true) :
    ∃ t, cur.threads[i]? = some t ∧
      ((t.obs = [] ∧ ∃ acq', acq' ≠ [] ∧ t.prog = acq' ++ rest) ∨
       (∃ σ done, Visited σ hist cur ∧ rest = done ++ t.prog ∧
          (∀ s, (s ∈ t.held.w ∨ s ∈ t.held.r) → cur.mem s = σ.mem s) ∧
          t.obs = (done.filterMap (obsOf σ.mem)).reverse)) :=
  two_phase h0 hr hi0 hprog hacq hrest

/-- **C10 (3), dump consistency**: a thread running the repaired `Dump` (`dumpProg n`: read-lock
every shard, iterate every shard, release) in any system, under any schedule: once it has finished,
what it has read is, shard by shard, the content of the whole cache at **one** instant `σ` of the
run (so by C11 the file loads back as exactly those templates) -/
theorem dump_consistent {init cur : Sys} {hist : List Ev} (h0 : Init init) (hr : Run init hist cur)
    {n i : Nat} {t0 t : Thread} (hi0 : init.threads[i]? = some t0) (hprog : t0.prog = dumpProg n)
    (hi : cur.threads[i]? = some t) (hfin : t.prog = []) :
    ∃ σ, Visited σ hist cur ∧ t.obs = ((List.range n).map fun s => Obs.snap s (σ.mem s)).reverse := by
  have hacq : ∀ a ∈ (List.range n).map Act.rlock, isAcq a = true :=
    List.forall_mem_map.mpr fun _ _ => rfl
  have hrest : ∀ a ∈ (List.range n).map Act.iter ++ (List.range n).map Act.runlock, quiet a = true :=
    List.forall_mem_append.mpr ⟨List.forall_mem_map.mpr fun _ _ => rfl, List.forall_mem_map.mpr fun _ _ => rfl⟩
  obtain ⟨t', ht', h⟩ := two_phase h0 hr hi0 hprog hacq hrest
  cases hi.symm.trans ht'
  rcases h with ⟨_, acq', hne, hp⟩ | ⟨σ, done, hv, hd, _, hobs⟩
  · -- a finished thread is past its lock point
    rw [hfin] at hp
    exact absurd (List.append_eq_nil_iff.mp hp.symm).1 hne
  · -- everything of `rest` is done: the iterations recorded the shards of `σ`, the releases nothing
    refine ⟨σ, hv, ?_⟩
    rw [hfin, List.append_nil] at hd
    rw [hobs, ← hd]
    simp [List.filterMap_append, List.filterMap_map, Function.comp_def, obsOf]

/-- the same for a region of the `Dump` shape, called on shard `s` of a cache of `n` shards -/
theorem region_dump_consistent {n : Nat} {r : Region} (hshape : isDumpRegion n r = true)
    {init cur : Sys} {hist : List Ev} (h0 : Init init) (hr : Run init hist cur)
    {i s k : Nat} {v : Val} {t0 t : Thread} (hs : s < n) (hi0 : init.threads[i]? = some t0)
    (hprog : progOf n s k v r = some t0.prog) (hi : cur.threads[i]? = some t) (hfin : t.prog = []) :
    ∃ σ, Visited σ hist cur ∧ t.obs = ((List.range n).map fun s => Obs.snap s (σ.mem s)).reverse :=
  dump_consistent h0 hr hi0 (Option.some.inj (hprog.symm.trans (isDumpRegion_sound hshape hs))) hi hfin

/-- the same for the `Dump` extracted from the current source, called on any cache of
`Gen.ipfixShardNo` shards -/
theorem ipfix_dump_consistent {init cur : Sys} {hist : List Ev} (h0 : Init init) (hr : Run init hist cur)
    {i s k : Nat} {v : Val} {t0 t : Thread} (hs : s < Gen.ipfixShardNo) (hi0 : init.threads[i]? = some t0)
    (hprog : progOf Gen.ipfixShardNo s k v Gen.ipfixDump = some t0.prog)
    (hi : cur.threads[i]? = some t) (hfin : t.prog = []) :
    ∃ σ, Visited σ hist cur ∧
      t.obs = ((List.range Gen.ipfixShardNo).map fun s => Obs.snap s (σ.mem s)).reverse :=
  region_dump_consistent gen_ipfixDump_shape h0 hr hs hi0 hprog hi hfin

theorem nf9_dump_consistent {init cur : Sys} {hist : List Ev} (h0 : Init init) (hr : Run init hist cur)
    {i s k : Nat} {v : Val} {t0 t : Thread} (hs : s < Gen.nf9ShardNo) (hi0 : init.threads[i]? = some t0)
    (hprog : progOf Gen.nf9ShardNo s k v Gen.nf9Dump = some t0.prog)
    (hi : cur.threads[i]? = some t) (hfin : t.prog = []) :
    ∃ σ, Visited σ hist cur ∧
      t.obs = ((List.range Gen.nf9ShardNo).map fun s => Obs.snap s (σ.mem s)).reverse :=
  region_dump_consistent gen_nf9Dump_shape h0 hr hs hi0 hprog hi hfin

/-- **C10 (4), deadlock freedom**: in every state reachable by any schedule from well-bracketed
threads (locks taken one at a time or in increasing shard order), if some thread has not finished
then some thread can move — even under Go's writer preference (`StepStrict`: an `RLock` also waits
for waiting writers) -/
theorem no_deadlock {init cur : Sys} {hist : List Ev} (h0 : Init init) (hr : Run init hist cur)
    (hne : ∃ t ∈ cur.threads, t.prog ≠ []) :
    ∃ i a nxt, StepStrict cur i a nxt ∧ Step cur i a nxt := by
  obtain ⟨i, a, nxt, h⟩ := deadlock_free (run_linv h0 hr) hne
  exact ⟨i, a, nxt, h, stepStrict_step h⟩

/-- every schedule terminates: steps taken + actions left = total program length -/
theorem all_schedules_terminate {init cur : Sys} {hist : List Ev} (hr : Run init hist cur) :
    hist.length + remaining cur = remaining init :=
  run_length hr

/-- what `vfmodel` (`Driver/Locks.lean`) executes for the `cachestress` correspondence is a run of
the step relation above, and a `race` it prints is a `Race` state reachable in the model -/
theorem driver_schedule_sound (pick : Nat → Nat) (fuel : Nat) (init : Sys) :
    ∃ hist, Run init hist (schedule pick fuel 0 init).2 ∧
      ((schedule pick fuel 0 init).1 = .race → Race (schedule pick fuel 0 init).2) :=
  schedule_sound pick fuel 0 init init [] Run.start

theorem driver_scheduleFreeze_sound (i fuel : Nat) (init : Sys) :
    ∃ hist, Run init hist (scheduleFreeze i fuel init).2 ∧
      ((scheduleFreeze i fuel init).1 = .race → Race (scheduleFreeze i fuel init).2) :=
  scheduleFreeze_sound i fuel init init [] Run.start

/-! ## Non-vacuity: a concrete run with a completed insert followed by a lookup -/

private def m0 : Mem := fun _ _ => none
private def s0 : Sys := ⟨[⟨⟨[], []⟩, [.lock 1, .wr 1 7 3, .unlock 1], []⟩,
                          ⟨⟨[], []⟩, [.rlock 1, .rd 1 7, .runlock 1], []⟩], m0⟩
private def s1 : Sys := after s0 0 ⟨⟨[], []⟩, [.lock 1, .wr 1 7 3, .unlock 1], []⟩ (.lock 1) [.wr 1 7 3, .unlock 1]
private def s2 : Sys := after s1 0 ⟨⟨[1], []⟩, [.wr 1 7 3, .unlock 1], []⟩ (.wr 1 7 3) [.unlock 1]
private def s3 : Sys := after s2 0 ⟨⟨[1], []⟩, [.unlock 1], []⟩ (.unlock 1) []
private def s4 : Sys := after s3 1 ⟨⟨[], []⟩, [.rlock 1, .rd 1 7, .runlock 1], []⟩ (.rlock 1) [.rd 1 7, .runlock 1]
private def s5 : Sys := after s4 1 ⟨⟨[], [1]⟩, [.rd 1 7, .runlock 1], []⟩ (.rd 1 7) [.runlock 1]

theorem nonvacuity_s0_init : Init s0 := by
  intro t ht
  simp [s0] at ht
  rcases ht with rfl | rfl <;> exact ⟨rfl, rfl, by decide⟩

/-- the hypotheses of `lookup_atomic` and `lookup_not_superseded` are satisfiable: insert completes,
then the lookup reads — and, as the theorems say, it sees the inserted value -/
example : ∃ hist cur post pre σ, Run s0 hist cur ∧ hist = post ++ ⟨σ, 1, .rd 1 7⟩ :: pre ∧
    σ.mem 1 7 = some 3 := by
  have e0 : Step s0 0 (.lock 1) s1 := ⟨_, _, rfl, rfl, ⟨by
      rintro ⟨t, ht, hs⟩; simp [s0] at ht; rcases ht with rfl | rfl <;> simp at hs, by
      rintro ⟨t, ht, hs⟩; simp [s0] at ht; rcases ht with rfl | rfl <;> simp at hs⟩, rfl⟩
  have e1 : Step s1 0 (.wr 1 7 3) s2 := ⟨_, _, rfl, rfl, trivial, rfl⟩
  have e2 : Step s2 0 (.unlock 1) s3 := ⟨_, _, rfl, rfl, trivial, rfl⟩
  have e3 : Step s3 1 (.rlock 1) s4 := ⟨_, _, rfl, rfl, by
      rintro ⟨t, ht, hs⟩
      simp [s3, s2, s1, s0, after, heldAfter] at ht
      rcases ht with rfl | rfl <;> simp at hs, rfl⟩
  have e4 : Step s4 1 (.rd 1 7) s5 := ⟨_, _, rfl, rfl, trivial, rfl⟩
  refine ⟨_, s5, [], _, s4, Run.step (Run.step (Run.step (Run.step (Run.step Run.start e0) e1) e2) e3) e4, rfl, ?_⟩
  simp [s4, s3, s2, s1, after, memAfter]

end Vflow.C10
