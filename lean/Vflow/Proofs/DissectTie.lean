import Vflow.Proofs.PacketSafe
import Vflow.Gen.DissectIR
/-!
# The dissector model computes what the CURRENT source computes

`Gen.DissectIR.*` is the translation (by `go/cmd/factgen/dissect_ir.go`, on every run) of the right-hand sides
with which `packet/{ethernet,network,transport,icmp}.go` fill the header structs, of their length guards, and of
what each function hands to the next layer.  Each struct of the hand-written model is proved equal to the struct of
`Expr.eval` / `Expr.octets` of the regenerated expressions (a single field is a projection) — for EVERY octet
string, with no length hypothesis: both sides read an absent octet as 0 — and each model decoder to "guards, then
that struct".  The evaluator is unfolded on the generated terms and bit operations become arithmetic; a changed
offset, shift, mask or width in the source changes the generated term and breaks the proof of that struct.
-/
namespace Vflow.DissectTie
open Vflow Vflow.Packet Vflow.Sflow Vflow.DissectIR

theorem or_eq_add (a b k : Nat) (hb : b < 2 ^ k) (ha : a % 2 ^ k = 0) : a ||| b = a + b := by
  have : a = (a / 2 ^ k) <<< k := by
    rw [Nat.shiftLeft_eq]; have := Nat.div_add_mod a (2 ^ k); rw [ha] at this; rw [Nat.mul_comm]; omega
  rw [this, ← Nat.shiftLeft_add_eq_or_of_lt hb]

/-- `b & 0xf0 >> 4` -/
theorem and_240_shr (x : Nat) : (x &&& 240) >>> 4 = x / 16 % 16 := by
  rw [Nat.shiftRight_and_distrib, show 240 >>> 4 = 15 from rfl, Nat.and_two_pow_sub_one_eq_mod _ 4,
    Nat.shiftRight_eq_div_pow]

/-- `int(hi)<<8 | int(lo)` -/
theorem be16 (x y : Nat) (hy : y < 256) : x <<< 8 ||| y = x * 256 + y := by
  rw [← Nat.shiftLeft_add_eq_or_of_lt (by simpa using hy), Nat.shiftLeft_eq]

section
variable {α : Type} (a b : Nat) (t e : α)

theorem cond_of_iff {c : Bool} {p : Prop} [Decidable p] (h : c = true ↔ p) : (bif c then t else e) = if p then t else e := by
  cases c <;> simp_all

theorem cond_lt : (bif Cmp.holds .lt a b then t else e) = if a < b then t else e :=
  cond_of_iff t e (by simp [Cmp.holds])

theorem cond_le : (bif Cmp.holds .le a b then t else e) = if a ≤ b then t else e :=
  cond_of_iff t e (by simp [Cmp.holds])

theorem cond_eq : (bif Cmp.holds .eq a b then t else e) = if a = b then t else e :=
  cond_of_iff t e (by simp [Cmp.holds])

theorem cond_ne : (bif Cmp.holds .ne a b then t else e) = if a = b then e else t := by
  rw [show Cmp.holds .ne a b = !Cmp.holds .eq a b from rfl, Bool.cond_not, cond_eq]

theorem cond_gt : (bif Cmp.holds .gt a b then t else e) = if b < a then t else e :=
  cond_of_iff t e (by simp [Cmp.holds])

theorem cond_ge : (bif Cmp.holds .ge a b then t else e) = if b ≤ a then t else e :=
  cond_of_iff t e (by simp [Cmp.holds])

theorem cond_ble : (bif Nat.ble a b then t else e) = if a ≤ b then t else e :=
  cond_of_iff t e (by simp)

/-- `failIf` / `skipIf`: the row goes on iff the condition evaluates to 0 -/
theorem cond_beq0 : (bif Nat.beq a 0 then t else e) = if a = 0 then t else e :=
  cond_of_iff t e (by simp)

end

section
variable (d : Bytes)

/-- no `len(buf) < e` guard of the list fires on `d` -/
def pass (gs : List Expr) : Bool := (gs.map (fun g => g.eval d)).all (fun k => decide (k ≤ d.length))

/-- a decoder with the one guard `len(buf) < n`, in the model's and in the regenerated form -/
theorem guarded_ir {α : Type} (gs : List Expr) (n : Nat) (hg : gs.map (fun g => g.eval d) = [n]) (x y : Res α) :
    (if d.length < n then x else y) = if pass d gs then y else x := by
  unfold pass
  rw [hg]
  simp only [List.all_cons, List.all_nil, Bool.and_true, decide_eq_true_eq]
  by_cases h : d.length < n
  · rw [if_pos h, if_neg (by omega)]
  · rw [if_neg h, if_pos (by omega)]

/-! ## IPv4 (`Packet.decodeIPv4Header`) -/

def irIPv4 : IPv4Hdr :=
  { version := (field Gen.DissectIR.ipv4 "Version").eval d, tos := (field Gen.DissectIR.ipv4 "TOS").eval d,
    totalLen := (field Gen.DissectIR.ipv4 "TotalLen").eval d, id := (field Gen.DissectIR.ipv4 "ID").eval d,
    flags := (field Gen.DissectIR.ipv4 "Flags").eval d, fragOff := (field Gen.DissectIR.ipv4 "FragOff").eval d,
    ttl := (field Gen.DissectIR.ipv4 "TTL").eval d, protocol := (field Gen.DissectIR.ipv4 "Protocol").eval d,
    checksum := (field Gen.DissectIR.ipv4 "Checksum").eval d, src := (field Gen.DissectIR.ipv4 "Src").octets d,
    dst := (field Gen.DissectIR.ipv4 "Dst").octets d }

theorem ipv4At_eq : ipv4At d = irIPv4 d := by
  have h0 := oct_lt d 0
  unfold irIPv4
  simp only [field, Gen.DissectIR.ipv4, List.lookup_cons, String.reduceBEq, Expr.eval, Expr.octets, Expr.evalWith,
    Expr.octetsWith, ipv4At]
  rw [and_240_shr, Nat.mod_eq_of_lt (show oct d 0 / 16 < 16 by omega), be16 _ _ (oct_lt d 3), be16 _ _ (oct_lt d 5),
    be16 _ _ (oct_lt d 7), be16 _ _ (oct_lt d 11)]
  simp only [Nat.shiftRight_eq_div_pow, Nat.and_two_pow_sub_one_eq_mod _ 5, Nat.reducePow]

theorem ipv4_id : (ipv4At d).id = (field Gen.DissectIR.ipv4 "ID").eval d := by
  rw [ipv4At_eq, irIPv4]

/-- the addresses are rendered by `net.IP.String` -/
theorem ipv4_addr_text :
    (field Gen.DissectIR.ipv4 "Src").isIpText = true ∧ (field Gen.DissectIR.ipv4 "Dst").isIpText = true := by
  decide +kernel

/-- the two guards: `len(p.data) < IPv4HLen`, then `len(p.data) < hlen` with
`hlen := int(p.data[0]&0x0f) * 4; if hlen < IPv4HLen { hlen = IPv4HLen }` (F17) -/
theorem ipv4_guards : Gen.DissectIR.ipv4Guards.map (fun g => g.eval d) = [20, ihlOctets (oct d 0)] := by
  simp only [Gen.DissectIR.ipv4Guards, List.map, Expr.eval, Expr.evalWith, cond_lt, ihlOctets, Nat.and_two_pow_sub_one_eq_mod _ 4,
    Nat.reducePow]

/-- what the transport layer gets: `p.data[hlen:]` with the same `hlen` -/
theorem ipv4_rest : Gen.DissectIR.ipv4Rest.octets d = d.drop (ihlOctets (oct d 0)) := by
  simp only [Gen.DissectIR.ipv4Rest, Expr.octets, Expr.octetsWith, Expr.evalWith, cond_lt, ihlOctets, Nat.and_two_pow_sub_one_eq_mod _ 4,
    Nat.reducePow]

theorem decodeIPv4_ir :
    decodeIPv4 d = if pass d Gen.DissectIR.ipv4Guards then .ok (irIPv4 d, Gen.DissectIR.ipv4Rest.octets d)
      else .err .ip4Short := by
  have hge := ihlOctets_ge (oct d 0)
  unfold pass
  rw [decodeIPv4_eq, ipv4_guards, ← ipv4At_eq, ipv4_rest]
  simp only [List.all_cons, List.all_nil, Bool.and_true, Bool.and_eq_true, decide_eq_true_eq]
  by_cases h : d.length < ihlOctets (oct d 0)
  · rw [if_pos h, if_neg (by omega)]
  · rw [if_neg h, if_pos ⟨by omega, by omega⟩]

/-! ## IPv6 (`Packet.decodeIPv6Header`) -/

def irIPv6 : IPv6Hdr :=
  { version := (field Gen.DissectIR.ipv6 "Version").eval d,
    trafficClass := (field Gen.DissectIR.ipv6 "TrafficClass").eval d,
    flowLabel := (field Gen.DissectIR.ipv6 "FlowLabel").eval d,
    payloadLen := (field Gen.DissectIR.ipv6 "PayloadLen").eval d,
    nextHeader := (field Gen.DissectIR.ipv6 "NextHeader").eval d,
    hopLimit := (field Gen.DissectIR.ipv6 "HopLimit").eval d,
    src := (field Gen.DissectIR.ipv6 "Src").octets d, dst := (field Gen.DissectIR.ipv6 "Dst").octets d }

theorem ipv6At_eq : ipv6At d = irIPv6 d := by
  have h1 := oct_lt d 1; have h2 := oct_lt d 2; have h3 := oct_lt d 3; have h4 := oct_lt d 4; have h5 := oct_lt d 5
  unfold irIPv6
  simp only [field, Gen.DissectIR.ipv6, List.lookup_cons, String.reduceBEq, Expr.eval, Expr.octets, Expr.evalWith,
    Expr.octetsWith, ipv6At]
  simp only [Nat.shiftLeft_eq, Nat.shiftRight_eq_div_pow, Nat.and_two_pow_sub_one_eq_mod _ 4, Nat.reducePow]
  rw [or_eq_add _ (oct d 1 / 16) 4 (by omega) (by omega),
    or_eq_add (oct d 1 % 16 * 65536) _ 16 (by omega) (by omega), or_eq_add _ (oct d 3) 8 (by omega) (by omega),
    Nat.mod_eq_of_lt (show oct d 4 * 256 < 65536 by omega), or_eq_add _ (oct d 5) 8 (by omega) (by omega)]

theorem ipv6_addr_text :
    (field Gen.DissectIR.ipv6 "Src").isIpText = true ∧ (field Gen.DissectIR.ipv6 "Dst").isIpText = true := by
  decide +kernel

theorem decodeIPv6_ir :
    decodeIPv6 d = if pass d Gen.DissectIR.ipv6Guards then .ok (irIPv6 d, Gen.DissectIR.ipv6Rest.octets d)
      else .err .ip6Short := by
  rw [decodeIPv6_eq, ipv6At_eq, guarded_ir d Gen.DissectIR.ipv6Guards 40 rfl]
  rfl

/-! ## TCP, UDP, ICMP (`decodeTCP`, `decodeUDP`, `decodeICMP`) -/

def irTCP : L4 :=
  .tcp ((field Gen.DissectIR.tcp "SrcPort").eval d) ((field Gen.DissectIR.tcp "DstPort").eval d)
    ((field Gen.DissectIR.tcp "DataOffset").eval d) ((field Gen.DissectIR.tcp "Reserved").eval d)
    ((field Gen.DissectIR.tcp "Flags").eval d)

/-- ports, data offset, the three bits between the data offset and NS (F19c), the nine flag bits -/
theorem tcpAt_eq :
    L4.tcp (oct d 0 * 256 + oct d 1) (oct d 2 * 256 + oct d 3) (oct d 12 / 16) (oct d 12 / 2 % 8)
      ((oct d 12 * 256 + oct d 13) % 512) = irTCP d := by
  unfold irTCP
  simp only [field, Gen.DissectIR.tcp, List.lookup_cons, String.reduceBEq, Expr.eval, Expr.evalWith]
  rw [be16 _ _ (oct_lt d 1), be16 _ _ (oct_lt d 3), be16 _ _ (oct_lt d 13)]
  simp only [Nat.shiftRight_eq_div_pow, Nat.and_two_pow_sub_one_eq_mod _ 3, Nat.and_two_pow_sub_one_eq_mod _ 9, Nat.reducePow]

theorem tcp_flags : (oct d 12 * 256 + oct d 13) % 512 = (field Gen.DissectIR.tcp "Flags").eval d :=
  (L4.tcp.inj (tcpAt_eq d)).2.2.2.2

theorem decodeTCP_ir :
    decodeTCP d = if pass d Gen.DissectIR.tcpGuards then .ok (irTCP d) else .err .tcpShort := by
  rw [decodeTCP_eq, tcpAt_eq, guarded_ir d Gen.DissectIR.tcpGuards 20 rfl]

def irUDP : L4 := .udp ((field Gen.DissectIR.udp "SrcPort").eval d) ((field Gen.DissectIR.udp "DstPort").eval d)

theorem udpAt_eq : L4.udp (oct d 0 * 256 + oct d 1) (oct d 2 * 256 + oct d 3) = irUDP d := by
  unfold irUDP
  simp only [field, Gen.DissectIR.udp, List.lookup_cons, String.reduceBEq, Expr.eval, Expr.evalWith]
  rw [be16 _ _ (oct_lt d 1), be16 _ _ (oct_lt d 3)]

theorem decodeUDP_ir :
    decodeUDP d = if pass d Gen.DissectIR.udpGuards then .ok (irUDP d) else .err .udpShort := by
  rw [decodeUDP_eq, udpAt_eq, guarded_ir d Gen.DissectIR.udpGuards 8 rfl]

def irICMP : L4 :=
  .icmp ((field Gen.DissectIR.icmp "Type").eval d) ((field Gen.DissectIR.icmp "Code").eval d)
    ((field Gen.DissectIR.icmp "RestHeader").octets d)

theorem icmpAt_eq : L4.icmp (oct d 0) (oct d 1) (d.drop 4) = irICMP d := by
  unfold irICMP
  simp only [field, Gen.DissectIR.icmp, List.lookup_cons, String.reduceBEq, Expr.eval, Expr.octets, Expr.evalWith,
    Expr.octetsWith]

theorem decodeICMP_ir :
    decodeICMP d = if pass d Gen.DissectIR.icmpGuards then .ok (irICMP d) else .err .icmpShort := by
  rw [decodeICMP_eq, icmpAt_eq, guarded_ir d Gen.DissectIR.icmpGuards 5 rfl]

/-! ## Ethernet (`decodeIEEE802`, `Packet.decodeEthernet` and its 802.1Q branch) -/

/-- `uint16(b[13]) | uint16(b[12])<<8` -/
theorem et_bits : oct d 13 ||| oct d 12 <<< 8 % 2 ^ 16 = oct d 12 * 256 + oct d 13 := by
  have := oct_lt d 12; have := oct_lt d 13
  rw [Nat.shiftLeft_eq, Nat.mod_eq_of_lt (by omega), Nat.or_comm, or_eq_add _ _ 8 (by omega) (by omega)]

/-- the `Datalink` of `decodeIEEE802` as the regenerated expressions compute it (`Vlan` is not set there) -/
def irL2 : L2 :=
  { srcMAC := (field Gen.DissectIR.ieee802 "SrcMAC").octets d, dstMAC := (field Gen.DissectIR.ieee802 "DstMAC").octets d,
    vlan := 0, etherType := (field Gen.DissectIR.ieee802 "EtherType").eval d }

/-- the value the MAC fields are conditioned on is the `EtherType` just assigned, and the constant is 0x8100 -/
theorem l2At_eq : l2At d = irL2 d := by
  unfold irL2
  simp only [field, Gen.DissectIR.ieee802, List.lookup_cons, String.reduceBEq, Expr.eval, Expr.octets, Expr.evalWith,
    Expr.octetsWith, cond_ne, l2At]
  rw [et_bits]
  by_cases h : oct d 12 * 256 + oct d 13 = 0x8100
  · rw [if_neg (fun hne => hne h), if_pos h, if_pos h]
  · rw [if_pos h, if_neg h, if_neg h]; rfl

theorem ieee802_mac_text :
    (field Gen.DissectIR.ieee802 "DstMAC").isHwText = true ∧ (field Gen.DissectIR.ieee802 "SrcMAC").isHwText = true := by
  decide +kernel

theorem decodeIEEE802_ir :
    decodeIEEE802 d = if pass d Gen.DissectIR.ieee802Guards then .ok (irL2 d) else .err .ieeeShort := by
  rw [decodeIEEE802_eq, l2At_eq, guarded_ir d Gen.DissectIR.ieee802Guards 14 rfl]

/-- F15: the VLAN identifier is the low 12 bits of the tag control information -/
theorem vlan_id : (oct d 14 * 256 + oct d 15) % 4096 = (field Gen.DissectIR.vlan "Vlan").eval d := by
  simp only [field, Gen.DissectIR.vlan, List.lookup_cons, String.reduceBEq, Expr.eval, Expr.evalWith]
  rw [be16 _ _ (oct_lt d 15), Nat.and_two_pow_sub_one_eq_mod _ 12]

/-- the buffer after `p.data[12], p.data[13] = p.data[16], p.data[17]` and
`append(p.data[:14], p.data[18:]...)` is the model's `untag` -/
theorem vlan_data : untag d = Gen.DissectIR.vlanData.octets d := by
  have : d.drop 18 = (d.drop 16).drop 2 := by rw [List.drop_drop]
  simp only [Gen.DissectIR.vlanData, Expr.octets, Expr.evalWith, Expr.octetsWith]
  rw [untag, List.append_assoc, this, List.take_append_drop]

theorem eth_rest : Gen.DissectIR.ethRest.octets d = d.drop 14 := rfl

theorem decodeVlan_ir :
    decodeVlan d =
      if pass d Gen.DissectIR.vlanGuards then
        .ok ({ irL2 (Gen.DissectIR.vlanData.octets d) with vlan := (field Gen.DissectIR.vlan "Vlan").eval d },
             Gen.DissectIR.ethRest.octets (Gen.DissectIR.vlanData.octets d))
      else .err .ethShort := by
  rw [decodeVlan_eq, ← vlan_data, ← l2At_eq, ← vlan_id, eth_rest, guarded_ir d Gen.DissectIR.vlanGuards 18 rfl]

theorem decodeEthernet_ir :
    decodeEthernet d =
      if pass d Gen.DissectIR.ethGuards then
        if Gen.DissectIR.ethTagged.evalWith (fun _ => (irL2 d).etherType) d ≠ 0 then decodeVlan d
        else .ok (irL2 d, Gen.DissectIR.ethRest.octets d)
      else .err .ethShort := by
  have htag : (Gen.DissectIR.ethTagged.evalWith (fun _ => (irL2 d).etherType) d ≠ 0) =
      (oct d 12 * 256 + oct d 13 = 0x8100) := by
    rw [← l2At_eq, l2At_etherType]
    simp only [Gen.DissectIR.ethTagged, Expr.evalWith, cond_eq]
    split <;> simp [*]
  simp only [htag]
  rw [decodeEthernet_eq, guarded_ir d Gen.DissectIR.ethGuards 14 rfl, l2At_eq, eth_rest]

/-- every field of every struct is translated; `decodeEthernet` holds no extraction outside its 802.1Q branch and
calls `decodeIEEE802(p.data)` once outside and once inside it -/
theorem all_known :
    allKnown Gen.DissectIR.ieee802 = true ∧ allKnown Gen.DissectIR.vlan = true ∧ allKnown Gen.DissectIR.ipv4 = true ∧
    allKnown Gen.DissectIR.ipv6 = true ∧ allKnown Gen.DissectIR.tcp = true ∧ allKnown Gen.DissectIR.udp = true ∧
    allKnown Gen.DissectIR.icmp = true ∧ Gen.DissectIR.eth = [] ∧ Gen.DissectIR.ethCalls = (1, 1) :=
  ⟨rfl, rfl, rfl, rfl, rfl, rfl, rfl, rfl, rfl⟩

/-- the struct fields of each function are exactly the fields of the Go struct, in source order -/
theorem field_names :
    Gen.DissectIR.ieee802.map (·.1) = ["EtherType", "DstMAC", "SrcMAC"] ∧ Gen.DissectIR.vlan.map (·.1) = ["Vlan"] ∧
    Gen.DissectIR.ipv4.map (·.1) =
      ["Version", "TOS", "TotalLen", "ID", "Flags", "FragOff", "TTL", "Protocol", "Checksum", "Src", "Dst"] ∧
    Gen.DissectIR.ipv6.map (·.1) =
      ["Version", "TrafficClass", "FlowLabel", "PayloadLen", "NextHeader", "HopLimit", "Src", "Dst"] ∧
    Gen.DissectIR.tcp.map (·.1) = ["SrcPort", "DstPort", "DataOffset", "Reserved", "Flags"] ∧
    Gen.DissectIR.udp.map (·.1) = ["SrcPort", "DstPort"] ∧
    Gen.DissectIR.icmp.map (·.1) = ["Type", "Code", "RestHeader"] :=
  ⟨rfl, rfl, rfl, rfl, rfl, rfl, rfl⟩

/-- every constant index / slice bound of a function lies below the bound of its first length guard: the octets
the expressions read are the ones the Go code has checked for -/
theorem within_guards :
    needOf Gen.DissectIR.ieee802 ≤ 14 ∧ needOf Gen.DissectIR.vlan ≤ 18 ∧ Gen.DissectIR.vlanData.need ≤ 18 ∧
    needOf Gen.DissectIR.ipv4 ≤ 20 ∧ needOf Gen.DissectIR.ipv6 ≤ 40 ∧ needOf Gen.DissectIR.tcp ≤ 20 ∧
    needOf Gen.DissectIR.udp ≤ 8 ∧ needOf Gen.DissectIR.icmp ≤ 5 ∧
    Gen.DissectIR.ethRest.need ≤ 14 ∧ Gen.DissectIR.ipv6Rest.need ≤ 40 ∧ Gen.DissectIR.ipv4Rest.need ≤ 20 := by
  decide +kernel

end
end Vflow.DissectTie
