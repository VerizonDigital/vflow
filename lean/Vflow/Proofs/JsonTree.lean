import Vflow.Spec.Json
import Vflow.Spec.JsonProgs
import Vflow.Model.JsonOut
import Vflow.Model.V5
import Vflow.Proofs.JsonScan
import Vflow.Proofs.StrOctets
/-!
# The JSON trees of the published messages and the proof that the encoders render them

`ipfixTree`, `v9Tree`, `v5Tree` are the *meaning* of a published message: which members, in which
order, carrying which decoded value in which text form.  The encoders (models of the Go code, run
through the write programs regenerated from the Go source) are proved to produce exactly
`render tree`, and the trees are well-formed, hence the output derives in the RFC 8259 grammar.
-/
namespace Vflow.JsonTree
open Vflow Vflow.Spec Vflow.JsonLex
open Vflow.JsonScan (commaMembers renderMembers_cons)

/-! ## Tree builders -/

/-- the octets of a text given in pieces (examples only; in short pieces, because what the kernel spends on the octets of a
literal grows with the square of its length: `ByteArray.toList`, which `txt_eq` removes, and the `List.toByteArray` of the
literal's encoding, which stays) -/
def txt (l : List String) : Bytes := (l.map fun s => s.toUTF8.toList).flatten

theorem txt_eq (l : List String) : txt l = (l.map fun s => s.toUTF8.data.toList).flatten := by
  simp only [txt, byteArray_toList]

def listOf : List Json → JList
  | [] => .nil
  | x :: xs => .cons x (listOf xs)

def objOf : List (Bytes × Json) → JMembers
  | [] => .nil
  | (k, v) :: ms => .cons k v (objOf ms)

def jnum (n : Nat) : Json := .num (natDigits n)

/-- the value of a decoded field: booleans as `true`/`false`; unsigned / signed integers as their exact
decimal text; finite floats as the number text `ftext`, non-finite ones (`NaN`, `+Inf`, `-Inf`) as a
string; strings escaped as `encoding/json` does; addresses in canonical text (`net.IP.String`,
`net.HardwareAddr.String`); uninterpreted octets as `"0x<hex>"` -/
def valJson (v : Val) (ftext : Bytes) : Json :=
  match v with
  | .bool b => .bool b
  | .u8 n | .u16 n | .u32 n | .u64 n => .num (natDigits n)
  | .i8 n | .i16 n | .i32 n | .i64 n => .num (intDigits n)
  | .f32 bits => if f32Finite bits then .num ftext else .str ftext
  | .f64 bits => if f64Finite bits then .num ftext else .str ftext
  | .str s => .str (escString s)
  | .ip b => .str (ipBytes b)
  | .mac b => .str (macBytes b)
  | .raw b => .str (48 :: 120 :: hexBytes b)

/-- `{"I":<element id>,"V":<value>}` plus `,"E":<enterprise number>` exactly when it is non-zero -/
def fieldTree (f : JField) : Json :=
  .obj (objOf ([(Key.I, jnum f.id), (Key.V, valJson f.val f.ftext)] ++
    (if f.ent ≠ 0 then [(Key.E, jnum f.ent)] else [])))

def recordTree (r : List JField) : Json := .arr (listOf (r.map fieldTree))

def dataSetsTree (recs : List (List JField)) : Json := .arr (listOf (recs.map recordTree))

def memberTree (fk : FK) (v : Nat) : Json :=
  match fk with
  | .num => jnum v
  | .ip => .str (ip4Bytes (encBE 4 v))

def membersOf : List (Bytes × FK) → Nat → List Nat → JMembers
  | [], _, _ => .nil
  | (k, fk) :: ks, i, vals => .cons k (memberTree fk (vals.getD i 0)) (membersOf ks (i + 1) vals)

/-- **IPFIX message**: `{"AgentID":"<exporter address>","Header":{…five fields…},"DataSets":[[field,…],…]}` -/
def ipfixTree (a : Bytes) (hdr : List Nat) (recs : List (List JField)) : Json :=
  .obj (objOf [
    (Key.AgentID, .str (ipBytes a)),
    (Key.Header, .obj (objOf [
      (Key.Version, jnum (hdr.getD 0 0)),
      (Key.Length, jnum (hdr.getD 1 0)),
      (Key.ExportTime, jnum (hdr.getD 2 0)),
      (Key.SequenceNo, jnum (hdr.getD 3 0)),
      (Key.DomainID, jnum (hdr.getD 4 0))])),
    (Key.DataSets, dataSetsTree recs)])

def v9Tree (a : Bytes) (hdr : List Nat) (recs : List (List JField)) : Json :=
  .obj (objOf [
    (Key.AgentID, .str (ipBytes a)),
    (Key.Header, .obj (objOf [
      (Key.Version, jnum (hdr.getD 0 0)),
      (Key.Count, jnum (hdr.getD 1 0)),
      (Key.SysUpTime, jnum (hdr.getD 2 0)),
      (Key.UNIXSecs, jnum (hdr.getD 3 0)),
      (Key.SeqNum, jnum (hdr.getD 4 0)),
      (Key.SrcID, jnum (hdr.getD 5 0))])),
    (Key.DataSets, dataSetsTree recs)])

/-- the generic form the proofs work with -/
def flowMsgTree (keys : List (Bytes × FK)) (a : Bytes) (hdr : List Nat) (recs : List (List JField)) : Json :=
  .obj (.cons Key.AgentID (.str (ipBytes a)) (.cons Key.Header (.obj (membersOf keys 0 hdr))
    (.cons Key.DataSets (dataSetsTree recs) .nil)))

theorem ipfixTree_eq (a hdr recs) : ipfixTree a hdr recs = flowMsgTree ipfixHeaderKeys a hdr recs := rfl
theorem v9Tree_eq (a hdr recs) : v9Tree a hdr recs = flowMsgTree v9HeaderKeys a hdr recs := rfl

/-- a NetFlow v5 flow record: 20 members, the three addresses as dotted-quad strings -/
def v5FlowTree (f : List Nat) : Json :=
  .obj (objOf [
    (Key.SrcAddr, .str (ip4Bytes (encBE 4 (f.getD 0 0)))),
    (Key.DstAddr, .str (ip4Bytes (encBE 4 (f.getD 1 0)))),
    (Key.NextHop, .str (ip4Bytes (encBE 4 (f.getD 2 0)))),
    (Key.Input, jnum (f.getD 3 0)),
    (Key.Output, jnum (f.getD 4 0)),
    (Key.PktCount, jnum (f.getD 5 0)),
    (Key.L3Octets, jnum (f.getD 6 0)),
    (Key.StartTime, jnum (f.getD 7 0)),
    (Key.EndTime, jnum (f.getD 8 0)),
    (Key.SrcPort, jnum (f.getD 9 0)),
    (Key.DstPort, jnum (f.getD 10 0)),
    (Key.Padding1, jnum (f.getD 11 0)),
    (Key.TCPFlags, jnum (f.getD 12 0)),
    (Key.ProtType, jnum (f.getD 13 0)),
    (Key.Tos, jnum (f.getD 14 0)),
    (Key.SrcAsNum, jnum (f.getD 15 0)),
    (Key.DstAsNum, jnum (f.getD 16 0)),
    (Key.SrcMask, jnum (f.getD 17 0)),
    (Key.DstMask, jnum (f.getD 18 0)),
    (Key.Padding2, jnum (f.getD 19 0))])

/-- **NetFlow v5 message**: `{"AgentID":…,"Header":{…nine fields…},"Flows":[{…twenty fields…},…]}` -/
def v5Tree (a : Bytes) (m : V5.Msg) : Json :=
  .obj (objOf [
    (Key.AgentID, .str (ipBytes a)),
    (Key.Header, .obj (objOf [
      (Key.Version, jnum (m.hdr.getD 0 0)),
      (Key.Count, jnum (m.hdr.getD 1 0)),
      (Key.SysUpTimeMSecs, jnum (m.hdr.getD 2 0)),
      (Key.UNIXSecs, jnum (m.hdr.getD 3 0)),
      (Key.UNIXNSecs, jnum (m.hdr.getD 4 0)),
      (Key.SeqNum, jnum (m.hdr.getD 5 0)),
      (Key.EngType, jnum (m.hdr.getD 6 0)),
      (Key.EngID, jnum (m.hdr.getD 7 0)),
      (Key.SmpInt, jnum (m.hdr.getD 8 0))])),
    (Key.Flows, .arr (listOf (m.flows.map v5FlowTree)))])

theorem v5FlowTree_eq (f) : v5FlowTree f = .obj (membersOf v5FlowKeys 0 f) := rfl
theorem v5Tree_eq (a m) : v5Tree a m =
    .obj (.cons Key.AgentID (.str (ipBytes a)) (.cons Key.Header (.obj (membersOf v5HeaderKeys 0 m.hdr))
      (.cons Key.Flows (.arr (listOf (m.flows.map v5FlowTree))) .nil))) := rfl

/-! ## The key octets are the key names -/

/-- every key constant of `Vflow.Spec.Key` is the UTF-8 text of its name -/
theorem keys_are_their_names :
    [(Key.AgentID, "AgentID"),
     (Key.Header, "Header"),
     (Key.DataSets, "DataSets"),
     (Key.Flows, "Flows"),
     (Key.I, "I"),
     (Key.V, "V"),
     (Key.E, "E"),
     (Key.Version, "Version"),
     (Key.Length, "Length"),
     (Key.ExportTime, "ExportTime"),
     (Key.SequenceNo, "SequenceNo"),
     (Key.DomainID, "DomainID"),
     (Key.Count, "Count"),
     (Key.SysUpTime, "SysUpTime"),
     (Key.UNIXSecs, "UNIXSecs"),
     (Key.SeqNum, "SeqNum"),
     (Key.SrcID, "SrcID"),
     (Key.SysUpTimeMSecs, "SysUpTimeMSecs"),
     (Key.UNIXNSecs, "UNIXNSecs"),
     (Key.EngType, "EngType"),
     (Key.EngID, "EngID"),
     (Key.SmpInt, "SmpInt"),
     (Key.SrcAddr, "SrcAddr"),
     (Key.DstAddr, "DstAddr"),
     (Key.NextHop, "NextHop"),
     (Key.Input, "Input"),
     (Key.Output, "Output"),
     (Key.PktCount, "PktCount"),
     (Key.L3Octets, "L3Octets"),
     (Key.StartTime, "StartTime"),
     (Key.EndTime, "EndTime"),
     (Key.SrcPort, "SrcPort"),
     (Key.DstPort, "DstPort"),
     (Key.Padding1, "Padding1"),
     (Key.TCPFlags, "TCPFlags"),
     (Key.ProtType, "ProtType"),
     (Key.Tos, "Tos"),
     (Key.SrcAsNum, "SrcAsNum"),
     (Key.DstAsNum, "DstAsNum"),
     (Key.SrcMask, "SrcMask"),
     (Key.DstMask, "DstMask"),
     (Key.Padding2, "Padding2")].all
      (fun p => p.1 == p.2.toUTF8.toList) = true := by simp only [byteArray_toList]; decide +kernel

/-! ## Write programs: normalisation and the two interpreters -/

/-- an interpreter that emits its writes one after the other gives the same octets before and after merging adjacent
literal writes -/
theorem run_normalize (run : List W → Bytes) (hcons : ∀ w ws, run (w :: ws) = run [w] ++ run ws)
    (hlit : ∀ a b, run [.lit (a ++ b)] = run [.lit a] ++ run [.lit b]) (p : List W) : run (normalize p) = run p := by
  induction p with
  | nil => rfl
  | cons w ws ih =>
    rw [hcons w ws, ← ih]
    cases w with
    | lit a =>
      simp only [normalize]
      split
      · rename_i b r e; rw [e, hcons, hlit, List.append_assoc, ← hcons (.lit b) r]
      · rw [hcons]
    | _ => simp only [normalize]; rw [hcons]

theorem runWrites_normalize (a : Bytes) (h : List Nat) (p : List W) :
    V5.runWrites a h (normalize p) = V5.runWrites a h p :=
  run_normalize _ (fun w ws => by cases w <;> simp [V5.runWrites]) (fun _ _ => by simp [V5.runWrites]) p

theorem runHdrWrites_normalize (a : Bytes) (h : List Nat) (p : List W) :
    runHdrWrites a h (normalize p) = runHdrWrites a h p :=
  run_normalize _ (fun w ws => by cases w <;> simp [runHdrWrites]) (fun _ _ => by simp [runHdrWrites]) p

def noIp : List W → Bool
  | [] => true
  | .ip _ :: _ => false
  | _ :: ws => noIp ws

theorem runHdrWrites_eq_runWrites (a : Bytes) (h : List Nat) (p : List W) (hp : noIp p = true) :
    runHdrWrites a h p = V5.runWrites a h p := by
  induction p with
  | nil => rfl
  | cons w ws ih =>
    cases w <;> simp_all [noIp, runHdrWrites, V5.runWrites, V5.fieldAt]

theorem runWrites_append (a : Bytes) (h : List Nat) (p p' : List W) :
    V5.runWrites a h (p ++ p') = V5.runWrites a h p ++ V5.runWrites a h p' := by
  induction p with
  | nil => rfl
  | cons w ws ih => cases w <;> simp [V5.runWrites, ih]

/-! ## Rendering

A members program is one `memberProg` per key, and `memberProg` writes `[,]"k":` and then the member's value: the same
concatenation as `renderMembers` in the form `"k":v ++ commaMembers …` (`JsonScan.renderMembers_cons`).  After the
rewriting steps below both sides are that concatenation; the closing `simp` re-associates `++` and unfolds `q`. -/

theorem render_memberTree (a : Bytes) (fk : FK) (i : Nat) (vals : List Nat) (first : Bool) (k : Bytes) :
    V5.runWrites a vals (memberProg first k fk i) =
      (if first then [] else [44]) ++ (q :: k ++ [q, 58]) ++ render (memberTree fk (vals.getD i 0)) := by
  cases fk <;> simp [memberProg, V5.runWrites, memberTree, jnum, render, V5.fieldAt, q]

theorem run_membersProg_false (a : Bytes) (vals : List Nat) (ks : List (Bytes × FK)) (i : Nat) :
    V5.runWrites a vals (membersProg ks i false) = commaMembers (membersOf ks i vals) := by
  induction ks generalizing i with
  | nil => rfl
  | cons kf ks ih =>
    obtain ⟨k, fk⟩ := kf
    simp only [membersProg, membersOf, commaMembers, runWrites_append, render_memberTree, ih]
    simp

theorem run_membersProg (a : Bytes) (vals : List Nat) (ks : List (Bytes × FK)) :
    V5.runWrites a vals (membersProg ks 0 true) = renderMembers (membersOf ks 0 vals) := by
  cases ks with
  | nil => rfl
  | cons kf ks =>
    obtain ⟨k, fk⟩ := kf
    simp only [membersProg, membersOf, renderMembers_cons, runWrites_append, render_memberTree,
      run_membersProg_false]
    simp

theorem run_headerProg (a : Bytes) (vals : List Nat) (ks : List (Bytes × FK)) :
    V5.runWrites a vals (headerProg ks) =
      (q :: Key.Header ++ [q, 58]) ++ render (.obj (membersOf ks 0 vals)) ++ [44] := by
  simp [headerProg, runWrites_append, V5.runWrites, run_membersProg, render, q]

theorem run_agentProg (a : Bytes) (vals : List Nat) :
    V5.runWrites a vals agentProg = (q :: Key.AgentID ++ [q, 58]) ++ render (.str a) ++ [44] := by
  simp [agentProg, V5.runWrites, render, q]

theorem noIp_agentProg : noIp agentProg = true := by decide
theorem noIp_ipfixHeaderProg : noIp ipfixHeaderProg = true := by decide
theorem noIp_v9HeaderProg : noIp v9HeaderProg = true := by decide

/-! ## Data sets -/

theorem renderList_listOf (l : List Json) : renderList (listOf l) = joinComma (l.map render) := by
  induction l with
  | nil => rfl
  | cons x xs ih =>
    cases xs with
    | nil => rfl
    | cons y ys =>
      simp only [listOf, renderList, List.map, joinComma] at ih ⊢
      rw [ih]

theorem render_valJson (v : Val) (ft : Bytes) : render (valJson v ft) = writeValue v ft := by
  cases v with
  | bool b => cases b <;> simp [valJson, writeValue, render]
  | f32 bits => simp only [valJson, writeValue]; split <;> simp [render, quoted, q]
  | f64 bits => simp only [valJson, writeValue]; split <;> simp [render, quoted, q]
  | _ => simp [valJson, writeValue, render, quoted, q]

theorem render_fieldTree (f : JField) : render (fieldTree f) = fieldJson f := by
  simp only [fieldTree, fieldJson]
  split <;> simp [objOf, render, renderMembers, render_valJson, jnum, q, Key.I, Key.V, Key.E]

theorem render_recordTree (r : List JField) : render (recordTree r) = recordJson r := by
  simp [recordTree, recordJson, render, renderList_listOf, List.map_map, Function.comp_def, render_fieldTree]

theorem render_dataSetsTree (recs : List (List JField)) :
    (q :: Key.DataSets ++ [q, 58]) ++ render (dataSetsTree recs) = dataSetsJson recs := by
  simp [dataSetsTree, dataSetsJson, render, renderList_listOf, List.map_map, Function.comp_def,
    render_recordTree, dataSetsKey, Key.DataSets, q]

theorem marshalFlow_spec (keys : List (Bytes × FK)) (hk : noIp (headerProg keys) = true)
    (a : Bytes) (hdr : List Nat) (recs : List (List JField)) :
    marshalFlow agentProg (headerProg keys) (ipBytes a) hdr recs = render (flowMsgTree keys a hdr recs) := by
  simp only [marshalFlow, runHdrWrites_eq_runWrites _ _ _ noIp_agentProg, runHdrWrites_eq_runWrites _ _ _ hk,
    run_agentProg, run_headerProg, ← render_dataSetsTree, flowMsgTree]
  simp [render, renderMembers, q]

/-! ## Well-formedness -/

/-- **the assumption on float text** (`strconv.FormatFloat(f,'E',-1,bits)` is not modelled): for a finite
bit pattern the text is a JSON number (Go prints `-?D(.D+)?E[+-]DD`), for a non-finite one it is a
string body (`NaN`, `+Inf`, `-Inf`).  Vacuous for every non-float field. -/
def FloatOk (f : JField) : Prop :=
  match f.val with
  | .f32 bits => if f32Finite bits then isNumber f.ftext = true else isStrBody f.ftext = true
  | .f64 bits => if f64Finite bits then isNumber f.ftext = true else isStrBody f.ftext = true
  | _ => True

instance (f : JField) : Decidable (FloatOk f) := by
  unfold FloatOk; split <;> infer_instance

theorem wf_listOf (l : List Json) (h : ∀ x ∈ l, WF x) : WFL (listOf l) := by
  induction l with
  | nil => trivial
  | cons x xs ih =>
    obtain ⟨hx, hxs⟩ := List.forall_mem_cons.mp h
    exact ⟨hx, ih hxs⟩

theorem depthL_listOf (l : List Json) (k : Nat) (h : ∀ x ∈ l, JsonScan.depth x ≤ k) : JsonScan.depthL (listOf l) ≤ k := by
  induction l with
  | nil => exact Nat.zero_le _
  | cons x xs ih =>
    obtain ⟨hx, hxs⟩ := List.forall_mem_cons.mp h
    exact Nat.max_le.mpr ⟨hx, ih hxs⟩

theorem wf_jnum (n : Nat) : WF (jnum n) := natDigits_isNumber n

theorem wf_valJson (f : JField) (h : FloatOk f) : WF (valJson f.val f.ftext) := by
  unfold FloatOk at h
  cases hv : f.val with
  | f32 bits | f64 bits => rw [hv] at h; simp only [valJson]; split <;> simp_all [WF]
  | _ => simp [valJson, WF, natDigits_isNumber, intDigits_isNumber, escString_isStrBody, ipBytes_isStrBody,
      macBytes_isStrBody, rawText_isStrBody]

theorem wf_fieldTree (f : JField) (h : FloatOk f) : WF (fieldTree f) := by
  simp only [fieldTree]
  split
  · exact ⟨by decide, wf_jnum _, by decide, wf_valJson f h, by decide, wf_jnum _, trivial⟩
  · exact ⟨by decide, wf_jnum _, by decide, wf_valJson f h, trivial⟩

theorem wf_recordTree (r : List JField) (h : ∀ f ∈ r, FloatOk f) : WF (recordTree r) :=
  wf_listOf _ (List.forall_mem_map.mpr fun f hf => wf_fieldTree f (h f hf))

theorem wf_dataSetsTree (recs : List (List JField)) (h : ∀ r ∈ recs, ∀ f ∈ r, FloatOk f) :
    WF (dataSetsTree recs) :=
  wf_listOf _ (List.forall_mem_map.mpr fun r hr => wf_recordTree r (h r hr))

theorem wf_memberTree (fk : FK) (v : Nat) : WF (memberTree fk v) := by
  cases fk
  · exact wf_jnum v
  · exact ip4Bytes_isStrBody _

def keysOk (ks : List (Bytes × FK)) : Bool := ks.all fun k => isStrBody k.1

theorem wf_membersOf (ks : List (Bytes × FK)) (i : Nat) (vals : List Nat) (h : keysOk ks = true) :
    WFM (membersOf ks i vals) := by
  induction ks generalizing i with
  | nil => trivial
  | cons kf ks ih =>
    simp only [keysOk, List.all_cons, Bool.and_eq_true] at h
    exact ⟨h.1, wf_memberTree _ _, ih _ h.2⟩

theorem wf_flowMsgTree (keys : List (Bytes × FK)) (hk : keysOk keys = true) (a : Bytes) (hdr : List Nat)
    (recs : List (List JField)) (h : ∀ r ∈ recs, ∀ f ∈ r, FloatOk f) : WF (flowMsgTree keys a hdr recs) :=
  ⟨by decide, ipBytes_isStrBody a, by decide, wf_membersOf _ _ _ hk, by decide, wf_dataSetsTree recs h, trivial⟩


/-! ## NetFlow v5 -/

theorem render_v5FlowTree (a : Bytes) (f : List Nat) :
    render (v5FlowTree f) = [123] ++ V5.runWrites a f v5FlowProg ++ [125] := by
  simp [v5FlowTree_eq, render, v5FlowProg, run_membersProg]

theorem renderList_flows (a : Bytes) (fs : List (List Nat)) :
    renderList (listOf (fs.map v5FlowTree)) = V5.flowsJson a v5FlowProg fs := by
  induction fs with
  | nil => rfl
  | cons f fs ih =>
    cases fs with
    | nil => simp [listOf, renderList, V5.flowsJson, render_v5FlowTree a]
    | cons g gs =>
      simp only [listOf, renderList, List.map, V5.flowsJson] at ih ⊢
      rw [ih, render_v5FlowTree a]; simp

theorem marshalWith_spec (a : Bytes) (m : V5.Msg) :
    V5.marshalWith agentProg (headerProg v5HeaderKeys) v5FlowProg (ipBytes a) m = render (v5Tree a m) := by
  simp only [V5.marshalWith, run_agentProg, run_headerProg, v5Tree_eq]
  simp [render, renderMembers, q, renderList_flows (ipBytes a), V5.flowsKey, Key.Flows]

theorem wf_v5Tree (a : Bytes) (m : V5.Msg) : WF (v5Tree a m) := by
  rw [v5Tree_eq]
  exact ⟨by decide, ipBytes_isStrBody a, by decide, wf_membersOf _ _ _ (by decide), by decide,
    wf_listOf _ (List.forall_mem_map.mpr fun f _ => v5FlowTree_eq f ▸ wf_membersOf v5FlowKeys 0 f (by decide)), trivial⟩


/-! ## From the regenerated programs to the specification programs -/

theorem marshalFlow_congr {pa pa' ph ph' : List W} (ha : normalize pa = normalize pa')
    (hh : normalize ph = normalize ph') (a : Bytes) (hdr : List Nat) (recs : List (List JField)) :
    marshalFlow pa ph a hdr recs = marshalFlow pa' ph' a hdr recs := by
  simp only [marshalFlow]
  rw [← runHdrWrites_normalize a hdr pa, ← runHdrWrites_normalize a hdr ph, ha, hh,
    runHdrWrites_normalize, runHdrWrites_normalize]

theorem marshalWith_congr {pa pa' ph ph' pf pf' : List W} (ha : normalize pa = normalize pa')
    (hh : normalize ph = normalize ph') (hf : normalize pf = normalize pf') (a : Bytes) (m : V5.Msg) :
    V5.marshalWith pa ph pf a m = V5.marshalWith pa' ph' pf' a m := by
  have hfl : ∀ fs, V5.flowsJson a pf fs = V5.flowsJson a pf' fs := by
    intro fs
    induction fs with
    | nil => rfl
    | cons f fs ih =>
      have e : V5.runWrites a f pf = V5.runWrites a f pf' := by
        rw [← runWrites_normalize a f pf, hf, runWrites_normalize]
      cases fs with
      | nil => simp only [V5.flowsJson, e]
      | cons g gs => simp only [V5.flowsJson, e] at ih ⊢; rw [ih]
  simp only [V5.marshalWith, hfl]
  rw [← runWrites_normalize a m.hdr pa, ← runWrites_normalize a m.hdr ph, ha, hh,
    runWrites_normalize, runWrites_normalize]

end Vflow.JsonTree
