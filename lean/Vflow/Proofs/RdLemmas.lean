import Vflow.Model.Flow
import Vflow.Proofs.BigEndian
/-!
# How the flow decoders move their reader

`Drops`: what every read is proved to do — a prefix of the octets removed and counted.  `Sfx`: the reader is a suffix
of the datagram, for the linear allocation bound (K4), which names template records by their offset.  `Adv`: the
lengths alone, all the fuel and allocation arguments need.  `Reads`: the shape in which every composite read is
specified.  (`Takes` / `Local` of `ReaderLemmas` speak of octets appended behind the reader.)
-/
namespace Vflow

/-- case analysis on an `if` that stands on one side of an equation (much cheaper to check than `split at`, which
rewrites the whole hypothesis) -/
theorem ite_eq_cases {α : Sort _} {c : Prop} [Decidable c] {a b x : α} (h : (if c then a else b) = x) :
    c ∧ a = x ∨ ¬c ∧ b = x := by
  split at h
  · exact .inl ⟨‹_›, h⟩
  · exact .inr ⟨‹_›, h⟩

theorem readN_some {r r' : Rd} {n : Nat} {b : Bytes} (h : r.readN n = some (b, r')) :
    n ≤ r.rem.length ∧ b = r.rem.take n ∧ r' = ⟨r.rem.drop n, r.cnt + n⟩ := by
  unfold Rd.readN at h
  split at h
  · cases h
  · cases h; exact ⟨by omega, rfl, rfl⟩

def Adv (r r' : Rd) : Prop := r'.cnt + r'.rem.length = r.cnt + r.rem.length ∧ r.cnt ≤ r'.cnt

theorem Adv.refl (r : Rd) : Adv r r := ⟨rfl, Nat.le_refl _⟩
theorem Adv.trans {a b c : Rd} (h1 : Adv a b) (h2 : Adv b c) : Adv a c :=
  ⟨by rw [h2.1, h1.1], Nat.le_trans h1.2 h2.2⟩

theorem Adv.rem_le {r r' : Rd} (h : Adv r r') : r'.rem.length ≤ r.rem.length := by
  have := h.1; have := h.2; omega

theorem Adv.rem_lt {r r' : Rd} (h : Adv r r') (hc : r'.cnt ≠ r.cnt) : r'.rem.length < r.rem.length := by
  have := h.1; have := h.2; omega

def Drops (r r' : Rd) : Prop := ∃ m, m ≤ r.rem.length ∧ r' = ⟨r.rem.drop m, r.cnt + m⟩

theorem Drops.refl (r : Rd) : Drops r r := ⟨0, Nat.zero_le _, rfl⟩

theorem Drops.trans {a b c : Rd} (h1 : Drops a b) (h2 : Drops b c) : Drops a c := by
  obtain ⟨m, hm, rfl⟩ := h1
  obtain ⟨n, hn, rfl⟩ := h2
  rw [List.length_drop] at hn
  exact ⟨m + n, by omega, by rw [List.drop_drop, Nat.add_assoc]⟩

theorem Drops.adv {r r' : Rd} (h : Drops r r') : Adv r r' := by
  obtain ⟨m, hm, rfl⟩ := h
  exact ⟨by simp only [List.length_drop]; omega, Nat.le_add_right _ _⟩

theorem Drops.cnt_le {r r' : Rd} (h : Drops r r') : r.cnt ≤ r'.cnt := h.adv.2

theorem Drops.rem_le {r r' : Rd} (h : Drops r r') : r'.rem.length ≤ r.rem.length := by
  obtain ⟨m, _, rfl⟩ := h
  exact List.length_drop ▸ Nat.sub_le _ _

theorem drops_readN {r r' : Rd} {n : Nat} {b : Bytes} (h : r.readN n = some (b, r')) :
    Drops r r' ∧ r'.cnt = r.cnt + n := by
  obtain ⟨h1, _, rfl⟩ := readN_some h
  exact ⟨⟨n, h1, rfl⟩, rfl⟩

/-- the fixed-width reads are `readN` followed by a conversion of the octets -/
theorem drops_readN_map {r r' : Rd} {n v : Nat} {f : Bytes → Nat}
    (h : (r.readN n).map (fun (b, r') => (f b, r')) = some (v, r')) : Drops r r' ∧ r'.cnt = r.cnt + n := by
  obtain ⟨⟨b, r1⟩, h1, h2⟩ := Option.map_eq_some_iff.mp h
  cases h2
  exact drops_readN h1

theorem drops_rU8 {r r' : Rd} {v : Nat} (h : r.rU8 = some (v, r')) : Drops r r' ∧ r'.cnt = r.cnt + 1 :=
  drops_readN_map h
theorem drops_rU16 {r r' : Rd} {v : Nat} (h : r.rU16 = some (v, r')) : Drops r r' ∧ r'.cnt = r.cnt + 2 :=
  drops_readN_map h
theorem drops_rU32 {r r' : Rd} {v : Nat} (h : r.rU32 = some (v, r')) : Drops r r' ∧ r'.cnt = r.cnt + 4 :=
  drops_readN_map h

theorem adv_rU16 {r r' : Rd} {v : Nat} (h : r.rU16 = some (v, r')) : Adv r r' ∧ r'.cnt = r.cnt + 2 :=
  ⟨(drops_rU16 h).1.adv, (drops_rU16 h).2⟩

def Sfx (bs : Bytes) (r : Rd) : Prop := r.cnt ≤ bs.length ∧ r.rem = bs.drop r.cnt

theorem Sfx.init (bs : Bytes) : Sfx bs ⟨bs, 0⟩ := ⟨Nat.zero_le _, rfl⟩

theorem Sfx.drops {bs : Bytes} {r r' : Rd} (h : Sfx bs r) (hd : Drops r r') : Sfx bs r' := by
  obtain ⟨m, hm, rfl⟩ := hd
  obtain ⟨h1, h2⟩ := h
  rw [h2, List.length_drop] at hm
  exact ⟨by simp only; omega, by simp only; rw [h2, List.drop_drop]⟩

theorem Sfx.eq {bs : Bytes} {r : Rd} (h : Sfx bs r) : r = ⟨bs.drop r.cnt, r.cnt⟩ := by
  obtain ⟨rem, cnt⟩ := r
  exact congrArg (Rd.mk · cnt) h.2

/-- the outcome `x` of a composite read started at `r`: the reader moved forward (after a failure too — the Go decoders
use the position a failed read left to skip the rest of a set), a failure is one of `E`, a success satisfies `Q` -/
def Reads {α : Type} (r : Rd) (x : Except Err α × Rd) (E : Err → Prop) (Q : α → Rd → Prop) : Prop :=
  Drops r x.2 ∧ match x.1 with
    | .ok a => Q a x.2
    | .error e => E e

section
variable {α : Type} {r r' : Rd} {x : Except Err α × Rd} {E : Err → Prop} {Q : α → Rd → Prop}

theorem Reads.ok {a : α} (d : Drops r r') (q : Q a r') : Reads r (.ok a, r') E Q := ⟨d, q⟩
theorem Reads.fail {e : Err} (d : Drops r r') (he : E e) : Reads r (.error e, r') E Q := ⟨d, he⟩

theorem Reads.drops_of {res : Except Err α} (h : Reads r x E Q) (hx : x = (res, r')) : Drops r r' := by
  subst hx; exact h.1
theorem Reads.ok_of {a : α} (h : Reads r x E Q) (hx : x = (.ok a, r')) : Q a r' := by
  subst hx; exact h.2
theorem Reads.err_of {e : Err} (h : Reads r x E Q) (hx : x = (.error e, r')) : E e := by
  subst hx; exact h.2
theorem Reads.adv_of {res : Except Err α} (h : Reads r x E Q) (hx : x = (res, r')) :
    Adv r r' ∧ ∀ a, res = .ok a → Q a r' := by
  subst hx; exact ⟨h.1.adv, fun a ha => by subst ha; exact h.2⟩

theorem Reads.mono {E' : Err → Prop} {Q' : α → Rd → Prop} (h : Reads r x E Q) (hE : ∀ e, E e → E' e)
    (hQ : ∀ a r', Q a r' → Q' a r') : Reads r x E' Q' := by
  obtain ⟨res, r'⟩ := x
  refine ⟨h.1, ?_⟩
  cases res with
  | ok a => exact hQ a r' h.2
  | error e => exact hE e h.2

theorem Reads.after {r1 : Rd} {Q' : α → Rd → Prop} (d : Drops r r1) (h : Reads r1 x E Q)
    (hQ : ∀ a r', Q a r' → Q' a r') : Reads r x E Q' :=
  ⟨d.trans h.1, (h.mono (fun _ he => he) hQ).2⟩
end


theorem readN_append (b rest : Bytes) (c : Nat) :
    Rd.readN ⟨b ++ rest, c⟩ b.length = some (b, ⟨rest, c + b.length⟩) := by
  simp [Rd.readN]

theorem readN_append' (b rest : Bytes) (c n : Nat) (h : b.length = n) :
    Rd.readN ⟨b ++ rest, c⟩ n = some (b, ⟨rest, c + n⟩) := by
  subst h; exact readN_append b rest c

theorem readN_encBE (k n : Nat) (h : n < 256 ^ k) (rest : Bytes) (c : Nat) :
    (Rd.readN ⟨encBE k n ++ rest, c⟩ k).map (fun (b, r') => (beN b, r')) = some (n, ⟨rest, c + k⟩) := by
  simp only [readN_append' _ rest c k (encBE_length k n), Option.map_some, beN_encBE k n h]

/-- The information-model lookup as a search of the table read as a list.  The kernel evaluates `List.find?` in time
linear in the row found, `Array.find?` in quadratic time (every index access walks the list behind the array): a
concrete lookup is decided on this form. -/
theorem lookupElem_eq (ent id : Nat) : lookupElem ent id =
    match Gen.InfoModelTbl.infoModelTbl.toList.find? (fun e => e.1 = ent ∧ e.2.1 = id) with
    | some e => some (e.2.2.1, e.2.2.2)
    | none => (extElems.find? (fun e => e.1 = ent ∧ e.2.1 = id)).map fun e => (e.2.2.1, e.2.2.2) := by
  unfold lookupElem
  rw [← Array.find?_toList]
  rfl

end Vflow
