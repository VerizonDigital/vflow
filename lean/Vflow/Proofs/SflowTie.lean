import Vflow.Proofs.SflowSafe
import Vflow.Proofs.DissectTie
import Vflow.Gen.SflowLayouts
/-!
# The fixed-layout readers of the sFlow model read what the CURRENT source reads

`Gen.SflowLayouts.{datagramHeader, sampleInfo, flowSample, counterSample, sampledHeader, extRouter}` are the
statement-by-statement translations (`go/cmd/factgen/sflow_layouts.go`, on every run) of `sfHeaderDecode`,
`getSampleInfo` and the four `unmarshal` functions that are more than a chain of fixed-width reads; `DissectIR.run`
interprets a row list over the reader state of the model.  Each theorem states that a hand-written reader of
`Model/Sflow.lean` IS that interpretation, its result built from the values BY FIELD NAME: a reordered, dropped,
widened or added read, a changed shift, mask, cap or padding rule in the Go source breaks a proof here.  The
`switch` dispatches are regenerated as tables, the model's dispatch is the lookup.  A reader proof interprets its
row list once; both sides are then the same chain of reads, followed with one `rcases` per read.
-/
namespace Vflow.SflowTie
open Vflow Vflow.Packet Vflow.Sflow Vflow.DissectIR Vflow.DissectTie

/-- the outcome of a row list as the model's result type, for a reader that ends with its row list (`decodeHeader`,
`decodeExtRouter`); one that goes on in the `done` branch — record loop, dissector, dispatch — states its `match` in place -/
def outcomeAs {α : Type} (f : Env → α) : Outcome → Res (α × Bytes)
  | .done ρ r => .ok (f ρ, r)
  | .fail e => failAs e
  | .skip _ _ => .panic
  | .stuck => .panic

theorem failAs_of {α : Type} {n : String} {e : Err} (h : errClass n = some e) : (failAs n : Res α) = .err e := by
  rw [failAs, h]

theorem failAs_io {α : Type} : (failAs "io" : Res α) = .err .eof := failAs_of (by decide +kernel)
theorem failAs_version {α : Type} : (failAs "errSFVersionNotSupport" : Res α) = .err .version := failAs_of (by decide +kernel)
theorem failAs_noLen {α : Type} : (failAs "errDataLengthUnknown" : Res α) = .err .noLen := failAs_of (by decide +kernel)
theorem failAs_hdrLen {α : Type} : (failAs "errMaxOutEthernetLength" : Res α) = .err .hdrLen := failAs_of (by decide +kernel)
theorem failAs_rtrLen {α : Type} : (failAs "errExtRouterDataLength" : Res α) = .err .rtrLen := failAs_of (by decide +kernel)

/-- a condition rendered as a number (`.ite op a b 1 0`) and tested against 0 by `failIf` / `skipIf` -/
theorem ite10_eq_zero (p : Prop) [Decidable p] : ((if p then 1 else 0 : Nat) = 0) = ¬ p := by
  split <;> simp [*]
theorem ite0_eq_zero (p : Prop) [Decidable p] (n : Nat) : ((if p then 0 else n : Nat) = 0) = (p ∨ n = 0) := by
  split <;> simp [*]

/-! ## the datagram header (`SFDecoder.sfHeaderDecode`) -/

/-- `SFDatagram`'s fixed part by field name -/
def headerOf (ρ : Env) : Header :=
  ⟨ρ.num "Version", ρ.num "IPVersion", ρ.octets "IPAddress", ρ.num "AgentSubID", ρ.num "SequenceNo",
   ρ.num "SysUpTime", ρ.num "SamplesNo"⟩

/-- version (must be 5), address type, agent address of 4 octets — 16 when the type is 2 — read with
`Reader.Read`, sub-agent id, sequence number, uptime, sample count -/
theorem decodeHeader_ir (bs : Bytes) :
    decodeHeader bs = outcomeAs headerOf (run Gen.SflowLayouts.datagramHeader {} bs) := by
  unfold Gen.SflowLayouts.datagramHeader decodeHeader
  simp only [run, readThen, unless0, outcomeAs, Env.num, Env.octets, List.lookup_cons, String.reduceBEq,
    Option.getD_some, Expr.evalWith, Expr.octetsWith, cond_eq, cond_ne, cond_beq0, cond_true, cond_false,
    ite0_eq_zero, Nat.one_ne_zero, or_false, ite_not, u32, readFields, List.drop_zero]
  rcases full 4 bs with _ | ⟨b1, r1⟩
  · exact failAs_io.symm
  dsimp only
  split
  case isFalse => exact failAs_version.symm
  rcases full 4 r1 with _ | ⟨b2, r2⟩
  · exact failAs_io.symm
  dsimp only
  rcases rawRead _ r2 with _ | ⟨b3, r3⟩
  · exact failAs_io.symm
  dsimp only
  rcases full 4 r3 with _ | ⟨b4, r4⟩
  · exact failAs_io.symm
  dsimp only
  rcases full 4 r4 with _ | ⟨b5, r5⟩
  · exact failAs_io.symm
  dsimp only
  rcases full 4 r5 with _ | ⟨b6, r6⟩
  · exact failAs_io.symm
  dsimp only
  rcases full 4 r6 with _ | ⟨b7, r7⟩
  · exact failAs_io.symm
  rfl

/-! ## the 24-bit source id index (`FlowSample.unmarshal`, `CounterSample.unmarshal`: F19b) -/

/-- `uint32(buf[2]) | uint32(buf[1])<<8 | uint32(buf[0])<<16` over the three octets read is their big-endian value -/
theorem idx24 (b : Bytes) (h : b.length = 3) :
    (oct b 2 ||| oct b 1 <<< 8 % 2 ^ 32) ||| oct b 0 <<< 16 % 2 ^ 32 = beN b := by
  match b, h with
  | [x, y, z], _ =>
    have hx := x.toNat_lt; have hy := y.toNat_lt; have hz := z.toNat_lt
    show (z.toNat ||| y.toNat <<< 8 % 2 ^ 32) ||| x.toNat <<< 16 % 2 ^ 32 = ((0 * 256 + x.toNat) * 256 + y.toNat) * 256 + z.toNat
    rw [Nat.shiftLeft_eq, Nat.shiftLeft_eq, Nat.mod_eq_of_lt (by omega), Nat.mod_eq_of_lt (by omega),
      Nat.or_comm z.toNat, or_eq_add (y.toNat * 2 ^ 8) _ 8 (by omega) (by omega), Nat.or_comm,
      or_eq_add (x.toNat * 2 ^ 16) _ 16 (by omega) (by omega)]
    omega

/-! ## the flow sample header (`FlowSample.unmarshal`) -/

def flowSampleOf (ρ : Env) (recs : FlowRecs) : FlowSample :=
  ⟨ρ.num "SequenceNo", ρ.num "SourceID", ρ.num "SourceIDIdx", ρ.num "SamplingRate", ρ.num "SamplePool", ρ.num "Drops",
   ρ.num "Input", ρ.num "Output", ρ.num "RecordsNo", recs⟩

/-- sequence number, source id type (one octet), the 24-bit index assembled from the next three, sampling rate,
pool, drops, input, output, record count — then the record loop over `RecordsNo` -/
theorem decodeFlowSample_ir (bs : Bytes) :
    decodeFlowSample bs =
      match run Gen.SflowLayouts.flowSample {} bs with
      | .done ρ r1 =>
        (match loopN flowRecord (r1.length + 1) (ρ.num "RecordsNo") r1 with
         | .ok (items, r2) => .ok (flowSampleOf ρ (FlowRecs.ofList items), r2)
         | .err e => .err e
         | .panic => .panic
         | .fuel => .fuel)
      | .fail e => failAs e
      | _ => .panic := by
  unfold Gen.SflowLayouts.flowSample decodeFlowSample
  simp only [run, readThen, Env.num, Env.octets, List.lookup_cons, String.reduceBEq, Option.getD_some, Expr.evalWith,
    cond_true, readFields]
  rcases full 4 bs with _ | ⟨b1, r1⟩
  · exact failAs_io.symm
  dsimp only
  rcases full 1 r1 with _ | ⟨b2, r2⟩
  · exact failAs_io.symm
  dsimp only
  rcases h3 : full 3 r2 with _ | ⟨b3, r3⟩
  · exact failAs_io.symm
  dsimp only
  rw [idx24 b3 (full_some_length h3).2]
  rcases full 4 r3 with _ | ⟨b4, r4⟩
  · exact failAs_io.symm
  dsimp only
  rcases full 4 r4 with _ | ⟨b5, r5⟩
  · exact failAs_io.symm
  dsimp only
  rcases full 4 r5 with _ | ⟨b6, r6⟩
  · exact failAs_io.symm
  dsimp only
  rcases full 4 r6 with _ | ⟨b7, r7⟩
  · exact failAs_io.symm
  dsimp only
  rcases full 4 r7 with _ | ⟨b8, r8⟩
  · exact failAs_io.symm
  dsimp only
  rcases full 4 r8 with _ | ⟨b9, r9⟩
  · exact failAs_io.symm
  rfl

/-! ## the counter sample header (`CounterSample.unmarshal`) -/

def counterSampleOf (ρ : Env) (recs : CounterRecs) : CounterSample :=
  ⟨ρ.num "SequenceNo", ρ.num "SourceIDType", ρ.num "SourceIDIdx", ρ.num "RecordsNo", recs⟩

theorem decodeCounterSample_ir (bs : Bytes) :
    decodeCounterSample bs =
      match run Gen.SflowLayouts.counterSample {} bs with
      | .done ρ r1 =>
        (match loopN counterRecord (r1.length + 1) (ρ.num "RecordsNo") r1 with
         | .ok (items, r2) => .ok (counterSampleOf ρ (CounterRecs.ofList items), r2)
         | .err e => .err e
         | .panic => .panic
         | .fuel => .fuel)
      | .fail e => failAs e
      | _ => .panic := by
  unfold Gen.SflowLayouts.counterSample decodeCounterSample
  simp only [run, readThen, Env.num, Env.octets, List.lookup_cons, String.reduceBEq, Option.getD_some, Expr.evalWith,
    cond_true, readFields]
  rcases full 4 bs with _ | ⟨b1, r1⟩
  · exact failAs_io.symm
  dsimp only
  rcases full 1 r1 with _ | ⟨b2, r2⟩
  · exact failAs_io.symm
  dsimp only
  rcases h3 : full 3 r2 with _ | ⟨b3, r3⟩
  · exact failAs_io.symm
  dsimp only
  rw [idx24 b3 (full_some_length h3).2]
  rcases full 4 r3 with _ | ⟨b4, r4⟩
  · exact failAs_io.symm
  rfl

/-! ## the sample tag (`SFDecoder.getSampleInfo`) and the sample dispatch (`SFDecoder.SFDecode`) -/

/-- the function the `switch` of the regenerated table calls for `fmt` -/
def callee (tbl : List (Nat × String × String)) (fmt : Nat) : Option String := (tbl.lookup fmt).map (·.1)

theorem callee_nil (fmt : Nat) : callee [] fmt = none := rfl

theorem callee_cons (k : Nat) (fn key : String) (tbl : List (Nat × String × String)) (fmt : Nat) :
    callee ((k, fn, key) :: tbl) fmt = if fmt = k then some fn else callee tbl fmt := by
  unfold callee
  rw [List.lookup_cons]
  by_cases h : fmt = k
  · rw [if_pos h, beq_iff_eq.mpr h]; rfl
  · rw [if_neg h, beq_eq_false_iff_ne.mpr h]

/-- one iteration of the sample loop: the tag word is split by the regenerated expressions
(`sfTypeEnterprise = sfType >> 12`, `sfTypeFormat = sfType & 0xfff`), an enterprise-specific sample is skipped by
its declared length inside `getSampleInfo` (the `skipIf` row), then filter and the regenerated `switch` -/
theorem sampleStep_ir (f : List Nat) (bs : Bytes) :
    sampleStep f bs =
      match run Gen.SflowLayouts.sampleInfo {} bs with
      | .done ρ r =>
        if ρ.num "sfTypeFormat" ∈ f then .ok (none, r.drop (ρ.num "sfDataLength"))
        else if callee Gen.SflowLayouts.sampleDispatch (ρ.num "sfTypeFormat") = some "decodeFlowSample" then
          (decodeFlowSample r).mapFst (fun s => some (.flow s))
        else if callee Gen.SflowLayouts.sampleDispatch (ρ.num "sfTypeFormat") = some "decodeFlowCounter" then
          (decodeCounterSample r).mapFst (fun c => some (.counter c))
        else .ok (none, r.drop (ρ.num "sfDataLength"))
      | .fail e => failAs e
      | .skip _ r => .ok (none, r)
      | .stuck => .panic := by
  unfold Gen.SflowLayouts.sampleInfo sampleStep sampleInfo
  simp only [run, readThen, unless0, Env.num, List.lookup_cons, String.reduceBEq, Option.getD_some, Expr.evalWith,
    cond_ne, cond_beq0, cond_true, cond_false, ite0_eq_zero, Nat.one_ne_zero, or_false, ite_not, u32]
  rcases full 4 bs with _ | ⟨b1, r1⟩
  · exact failAs_io.symm
  dsimp only
  rcases full 4 r1 with _ | ⟨b2, r2⟩
  · exact failAs_noLen.symm
  dsimp only
  simp only [Nat.shiftRight_eq_div_pow, Nat.and_two_pow_sub_one_eq_mod _ 12, Nat.reducePow]
  by_cases he : beN b1 / 4096 = 0
  · rw [if_pos he, if_pos he]
    simp only [List.lookup_cons, String.reduceBEq, Option.getD_some, Gen.SflowLayouts.sampleDispatch, callee_cons,
      callee_nil]
    by_cases h1 : beN b1 % 4096 = 1
    · simp [h1]
    · by_cases h2 : beN b1 % 4096 = 2 <;> simp [h1, h2]
  · rw [if_neg he, if_neg he]

/-! ## the raw-packet-header record (`SampledHeader.unmarshal`) -/

/-- `tmp := (4 - sh.HeaderLength) % 4` in `uint32` is the XDR padding -/
theorem pad32 (hl : Nat) (h : hl ≤ 1500) :
    (if hl ≤ 4 then 4 - hl else 4 + 2 ^ 32 - hl) % 4 = (4 - hl % 4) % 4 := by
  split <;> omega

/-- the field of the `SampledHeader` just read that the regenerated composite literal `&RawHeader{F: h.G, …}` of
`decodeSampledHeader` fills the record's field `F` from (`""` — a name nothing is read into — when the literal has no
such element) -/
def rawSrc (f : String) : String := (Gen.SflowLayouts.rawHeaderLiteral.lookup f).getD ""

/-- `sflow.RawHeader` by field name, through the regenerated literal (F33) -/
def rawHeaderOf (ρ : Env) (pkt : Option Pkt) : RawHeader :=
  ⟨ρ.num (rawSrc "Protocol"), ρ.num (rawSrc "FrameLength"), ρ.num (rawSrc "Stripped"), ρ.num (rawSrc "HeaderLength"), pkt⟩

/-- protocol, frame length, stripped, header length (at most 1500), then `HeaderLength` plus padding octets read
with `Reader.Read` unless there are none, cut back to `HeaderLength`; the record is built from the four words by
the regenerated literal; the dissector runs on exactly these octets under the protocol read first, its packet is
kept when it succeeds -/
theorem decodeSampledHeader_ir (bs : Bytes) :
    decodeSampledHeader bs =
      match run Gen.SflowLayouts.sampledHeader {} bs with
      | .done ρ r =>
        (match dissect (ρ.octets "Header") (ρ.num "Protocol") with
         | .ok p => .ok (rawHeaderOf ρ (some p), r)
         | .err _ => .ok (rawHeaderOf ρ none, r)
         | .panic => .panic
         | .fuel => .fuel)
      | .fail e => failAs e
      | _ => .panic := by
  unfold Gen.SflowLayouts.sampledHeader decodeSampledHeader
  simp only [run, readThen, unless0, Env.num, Env.octets, List.lookup_cons, String.reduceBEq, Option.getD_some,
    Expr.evalWith, Expr.octetsWith, cond_lt, cond_gt, cond_beq0, cond_ble, cond_true, ite10_eq_zero, ite_not,
    Nat.not_lt_zero, if_false, gt_iff_lt, readFields, List.drop_zero, Nat.sub_zero]
  rcases full 4 bs with _ | ⟨b1, r1⟩
  · exact failAs_io.symm
  dsimp only
  rcases full 4 r1 with _ | ⟨b2, r2⟩
  · exact failAs_io.symm
  dsimp only
  rcases full 4 r2 with _ | ⟨b3, r3⟩
  · exact failAs_io.symm
  dsimp only
  rcases full 4 r3 with _ | ⟨b4, r4⟩
  · exact failAs_io.symm
  dsimp only
  by_cases hc : 1500 < beN b4
  · rw [if_pos hc, if_pos hc]; exact failAs_hdrLen.symm
  rw [if_neg hc, if_neg hc, pad32 _ (by omega),
    Nat.mod_eq_of_lt (show beN b4 + (4 - beN b4 % 4) % 4 < 2 ^ 32 by omega)]
  rcases hr : readHdr (beN b4 + (4 - beN b4 % 4) % 4) r4 with _ | ⟨buf, r5⟩
  · exact failAs_io.symm
  dsimp only
  rw [slice?_le (Nat.zero_le _) (by rw [(readHdr_some hr).1]; omega)]
  rfl

/-! ## the extended-router record (`ExtRouterData.unmarshal`) -/

def extRouterOf (ρ : Env) : ExtRouter := ⟨ρ.octets "NextHop", ρ.num "SrcMask", ρ.num "DstMask"⟩

/-- the length rule (16 or 28, else `errExtRouterDataLength`), `l - 8` octets of address type and next hop read
at once, `NextHop = buff[4:]`, the two masks -/
theorem decodeExtRouter_ir (l : Nat) (bs : Bytes) :
    decodeExtRouter l bs =
      outcomeAs extRouterOf (run Gen.SflowLayouts.extRouter { nums := [("l", l)] } bs) := by
  unfold Gen.SflowLayouts.extRouter decodeExtRouter
  simp only [run, readThen, unless0, outcomeAs, Env.num, Env.octets, List.lookup_cons, String.reduceBEq,
    Option.getD_some, Expr.evalWith, Expr.octetsWith, cond_ne, cond_beq0, cond_ble, cond_true, ite0_eq_zero,
    Nat.one_ne_zero, or_false, readFields]
  by_cases h : l ≠ 16 ∧ l ≠ 28
  · rw [if_pos h, if_neg (by omega)]; exact failAs_rtrLen.symm
  rw [if_neg h, if_pos (by omega), if_pos (show 8 ≤ l by omega)]
  rcases hf : full (l - 8) bs with _ | ⟨b1, r1⟩
  · exact failAs_io.symm
  dsimp only
  rw [from?_le (by rw [(full_some_length hf).2]; omega)]
  dsimp only
  rcases full 4 r1 with _ | ⟨b2, r2⟩
  · exact failAs_io.symm
  dsimp only
  rcases full 4 r2 with _ | ⟨b3, r3⟩
  · exact failAs_io.symm
  rfl

/-- the extended-router length rule of the record loop: the regenerated skip condition of case 1002 -/
theorem flowRecordSkip_ir (len : Nat) :
    (Gen.SflowLayouts.flowRecordSkips.map (fun p => (p.1, decide (p.2.evalWith (fun _ => len) [] ≠ 0)))) =
      [(1002, decide (len ≠ 16 ∧ len ≠ 28))] := by
  simp only [Gen.SflowLayouts.flowRecordSkips, List.map, Expr.evalWith, cond_ne, ne_eq, ite0_eq_zero, Nat.one_ne_zero,
    or_false, not_or]

/-- one iteration of the record loop of `decodeFlowSample`: format and length words, then the regenerated
`switch` (raw header / extended switch / extended router, anything else skipped by its declared length) -/
theorem flowRecord_ir (bs : Bytes) :
    flowRecord bs =
      match u32 bs with
      | none => .err .eof
      | some (fmt, r1) =>
        match u32 r1 with
        | none => .err .eof
        | some (len, r2) =>
          if callee Gen.SflowLayouts.flowRecordDispatch fmt = some "decodeSampledHeader" then
            (decodeSampledHeader r2).mapFst (fun h => some (.raw h))
          else if callee Gen.SflowLayouts.flowRecordDispatch fmt = some "decodeExtSwitchData" then
            (decodeExtSwitch r2).mapFst (fun s => some (.sw s))
          else if callee Gen.SflowLayouts.flowRecordDispatch fmt = some "decodeExtRouterData" then
            if ((Gen.SflowLayouts.flowRecordSkips.lookup fmt).getD (.unrecognised "")).evalWith (fun _ => len) [] ≠ 0 then
              .ok (none, r2.drop len)
            else (decodeExtRouter len r2).mapFst (fun x => some (.rtr x))
          else .ok (none, r2.drop len) := by
  unfold flowRecord
  rcases u32 bs with _ | ⟨fmt, r1⟩
  · rfl
  dsimp only
  rcases u32 r1 with _ | ⟨len, r2⟩
  · rfl
  dsimp only
  simp only [Gen.SflowLayouts.flowRecordDispatch, callee_cons, callee_nil]
  by_cases h1 : fmt = 1
  · simp [h1]
  by_cases h2 : fmt = 1001
  · simp [h2]
  by_cases h3 : fmt = 1002
  · simp [h3, Gen.SflowLayouts.flowRecordSkips, Expr.evalWith, cond_ne]
  · simp [h1, h2, h3]

/-- the layout the regenerated tables select for a counter record format: `switch rTypeFormat` → the decoder
function → the struct whose `unmarshal` it runs → that struct's regenerated read sequence -/
def genCounterLayout (fmt : Nat) : Option Layout :=
  ((callee Gen.SflowLayouts.counterDispatch fmt).bind (fun f => List.lookup f Gen.SflowLayouts.counterDecoders)).bind
    (fun t => List.lookup t Gen.SflowLayouts.counterStructs)

theorem counterLayout_ir (fmt : Nat) : counterLayout fmt = genCounterLayout fmt := by
  have bind_ite {α β : Type} (c : Prop) [Decidable c] (a b : Option α) (g : α → Option β) :
      (if c then a else b).bind g = if c then a.bind g else b.bind g := by split <;> rfl
  unfold counterLayout genCounterLayout
  -- the three lookups one after the other, each pushed into the branches of the `switch` (the function names are
  -- looked up only once they are literals); what is left are the layouts themselves
  simp only [Gen.SflowLayouts.counterDispatch, callee_cons, callee_nil, bind_ite, Option.bind_some, Option.bind_none]
  simp only [Gen.SflowLayouts.counterDecoders, List.lookup_cons, String.reduceBEq, Option.bind_some]
  simp only [Gen.SflowLayouts.counterStructs, List.lookup_cons, String.reduceBEq]
  rfl

def namedVal (l : Layout) (vs : List Nat) (n : String) : Nat := (((l.map (·.1)).zip vs).lookup n).getD 0

/-- `ExtSwitchData.unmarshal`: the four words by field name (F6 was `DstPriority` landing in `SrcPriority`) -/
theorem decodeExtSwitch_ir (bs : Bytes) :
    decodeExtSwitch bs =
      match readFields (widths Gen.SflowLayouts.extSwitch) bs with
      | some (vs, r) =>
        .ok (⟨namedVal Gen.SflowLayouts.extSwitch vs "SrcVlan", namedVal Gen.SflowLayouts.extSwitch vs "SrcPriority",
              namedVal Gen.SflowLayouts.extSwitch vs "DstVlan", namedVal Gen.SflowLayouts.extSwitch vs "DstPriority"⟩, r)
      | none => .err .eof := by
  simp only [Gen.SflowLayouts.extSwitch, decodeExtSwitch, widths, List.map, readFields]
  rcases full 4 bs with _ | ⟨b1, r1⟩
  · rfl
  dsimp only
  rcases full 4 r1 with _ | ⟨b2, r2⟩
  · rfl
  dsimp only
  rcases full 4 r2 with _ | ⟨b3, r3⟩
  · rfl
  dsimp only
  rcases full 4 r3 with _ | ⟨b4, r4⟩
  · rfl
  rfl

/-- the dispatch constants by name, the `Records` keys, the default clauses (skip by declared length), what
`getSampleInfo` hands back, and nothing unrecognised in any row list -/
theorem tables :
    Gen.SflowLayouts.consts.lookup "DataFlowSample" = some 1 ∧ Gen.SflowLayouts.consts.lookup "DataCounterSample" = some 2 ∧
    Gen.SflowLayouts.consts.lookup "SFDataRawHeader" = some 1 ∧ Gen.SflowLayouts.consts.lookup "SFDataExtSwitch" = some 1001 ∧
    Gen.SflowLayouts.consts.lookup "SFDataExtRouter" = some 1002 ∧
    Gen.SflowLayouts.consts.lookup "SFGenericInterfaceCounters" = some 1 ∧
    Gen.SflowLayouts.consts.lookup "SFEthernetInterfaceCounters" = some 2 ∧
    Gen.SflowLayouts.consts.lookup "SFTokenRingInterfaceCounters" = some 3 ∧
    Gen.SflowLayouts.consts.lookup "SF100BaseVGInterfaceCounters" = some 4 ∧
    Gen.SflowLayouts.consts.lookup "SFVLANCounters" = some 5 ∧ Gen.SflowLayouts.consts.lookup "SFProcessorCounters" = some 1001 ∧
    Gen.SflowLayouts.flowRecordDispatch.map (fun p => (p.1, p.2.2)) = [(1, "RawHeader"), (1001, "ExtSwitch"), (1002, "ExtRouter")] ∧
    Gen.SflowLayouts.counterDispatch.map (fun p => (p.1, p.2.2)) =
      [(1, "GenInt"), (2, "EthInt"), (3, "TRInt"), (4, "VGInt"), (5, "Vlan"), (1001, "Proc")] ∧
    Gen.SflowLayouts.sampleDispatchDefault = "d.reader.Seek(int64(sfDataLength), 1)" ∧
    Gen.SflowLayouts.flowRecordDispatchDefault = "r.Seek(int64(rTypeLength), 1)" ∧
    Gen.SflowLayouts.counterDispatchDefault = "r.Seek(int64(rTypeLength), 1)" ∧
    Gen.SflowLayouts.sampleInfoReturns = ["sfTypeFormat", "sfDataLength"] ∧
    Gen.SflowLayouts.flowDecoders = [("decodeExtSwitchData", "ExtSwitchData"), ("decodeExtRouterData", "ExtRouterData")] ∧
    Gen.SflowLayouts.sampledHeaderDecoder =
      ["var ( h = new(SampledHeader) err error )", "if err = h.unmarshal(r); err != nil { return nil, err }",
       "rh := &RawHeader{ Protocol: h.Protocol, FrameLength: h.FrameLength, Stripped: h.Stripped, HeaderLength: h.HeaderLength, }",
       "p := packet.NewPacket()", "if d, err := p.Decoder(h.Header, h.Protocol); err == nil { rh.Packet = d }",
       "return rh, nil"] ∧
    Gen.SflowLayouts.rawHeaderLiteral =
      [("Protocol", "Protocol"), ("FrameLength", "FrameLength"), ("Stripped", "Stripped"), ("HeaderLength", "HeaderLength")] ∧
    (Gen.SflowLayouts.datagramHeader ++ Gen.SflowLayouts.sampleInfo ++ Gen.SflowLayouts.flowSample ++
      Gen.SflowLayouts.counterSample ++ Gen.SflowLayouts.sampledHeader ++ Gen.SflowLayouts.extRouter).all Row.known = true := by
  -- the eleven constants are looked up by name; the tables that follow are the literals written here
  simp only [Gen.SflowLayouts.consts, List.lookup_cons, String.reduceBEq, true_and]
  exact ⟨rfl, rfl, rfl, rfl, rfl, rfl, rfl, rfl, rfl, rfl⟩

end Vflow.SflowTie
