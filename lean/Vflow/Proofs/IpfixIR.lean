import Vflow.Model.IpfixProg
import Vflow.Proofs.IpfixIRExec
import Vflow.Proofs.FuelIpfix
/-!
# The translated `getDataLength`, `minRecordLen` and `decodeData` of `ipfix/decoder.go` are the model's

The other functions of the file: the `unmarshal` functions in `IpfixIRTpl`, `decodeSet` in `IpfixIRSet`, `Decode` in
`IpfixIRMsg`.

Straight-line code is executed by `ir_simp` (`Proofs/IpfixIRExec.lean`); a loop gets one lemma that relates `loopF` /
`rangeF` over the translated body to the model's recursive function.
-/
namespace Vflow.IpfixIR
open Vflow
attribute [local irreducible] Vflow.lookupElem

/-! ## error classes and results -/

/-! how `Ipfix.nonfatalErr` sorts the classes the translated functions produce -/
@[ir] theorem nonfatalErr_short : Ipfix.nonfatalErr .short = false := rfl
@[ir] theorem nonfatalErr_invalidSet : Ipfix.nonfatalErr .invalidSet = false := rfl
@[ir] theorem nonfatalErr_unknownElem : Ipfix.nonfatalErr .unknownElem = true := rfl
@[ir] theorem nonfatalErr_emptyRec : Ipfix.nonfatalErr .emptyRec = true := rfl
@[ir] theorem nonfatalErr_unknownTpl : Ipfix.nonfatalErr .unknownTpl = true := rfl
@[ir] theorem nonfatalErr_zeroRec : Ipfix.nonfatalErr .zeroRec = true := rfl

/-! the error classes of the format strings of `ipfix/decoder.go` -/
@[ir ↓ high] theorem errClass_version : errClasses.lookup "invalid ipfix version (%d)" = some .badVersion := by
  simp only [errClasses, lookup_cons_ite, String.reduceEq, if_false, if_true]
@[ir ↓ high] theorem errClass_invalidSet : errClasses.lookup "failed to decodeSet / invalid setID" = some .invalidSet := by
  simp only [errClasses, lookup_cons_ite, String.reduceEq, if_false, if_true]
@[ir ↓ high] theorem errClass_emptyRec : errClasses.lookup "failed to decodeData" = some .emptyRec := by
  simp only [errClasses, lookup_cons_ite, String.reduceEq, if_false, if_true]
@[ir ↓ high] theorem errClass_unknownTpl : errClasses.lookup "%s unknown ipfix template id# %d" = some .unknownTpl := by
  simp only [errClasses, lookup_cons_ite, String.reduceEq, if_false, if_true]
@[ir ↓ high] theorem errClass_scopeElem :
    errClasses.lookup "IPFIX element key (%d) not exist (scope)" = some .unknownElem := by
  simp only [errClasses, lookup_cons_ite, String.reduceEq, if_false, if_true]
@[ir ↓ high] theorem errClass_elem : errClasses.lookup "IPFIX element key (%d) not exist" = some .unknownElem := by
  simp only [errClasses, lookup_cons_ite, String.reduceEq, if_false, if_true]
@[ir ↓ high] theorem errClass_zeroRec :
    errClasses.lookup "%s zero-length data record (ipfix template id# %d)" = some .zeroRec := by
  simp only [errClasses, lookup_cons_ite, String.reduceEq, if_false, if_true]
@[ir ↓ high] theorem errConst_eof : errConsts.lookup "io.ErrUnexpectedEOF" = some .badSetLen := by
  simp only [errConsts, lookup_cons_ite, if_true]

/-! the model's results as Go values -/
@[ir] theorem errV_none : IpfixProg.errV none = .nil := rfl
@[ir] theorem errV_some (e : Err) : IpfixProg.errV (some e) = .err ⟨Ipfix.nonfatalErr e, e⟩ := rfl

@[ir] theorem lenResult_ok (n : Nat) : IpfixProg.lenResult (.ok n) = [.int n, .nil] := rfl
@[ir] theorem lenResult_error (e : Err) : IpfixProg.lenResult (.error e) = [.int 0, .err ⟨false, e⟩] := rfl
@[ir] theorem recResult_ok (fs : Record) : IpfixProg.recResult (.ok fs) = [.drec fs, .nil] := rfl
@[ir] theorem recResult_error (e : Err) : IpfixProg.recResult (.error e) = [.nil, .err ⟨Ipfix.nonfatalErr e, e⟩] := rfl

/-! ## `getDataLength` -/

theorem getDataLength_sem (addr : Bytes) (fuel : Nat) (r : Rd) (c : Cache) (len : Nat) :
    IpfixProg.getDataLength addr fuel [.int len] ⟨r, c⟩ =
      some (⟨(Ipfix.dataLen r len).2, c⟩, [], IpfixProg.lenResult (Ipfix.dataLen r len).1) := by
  rw [IpfixProg.getDataLength, Func.sem_eq rfl rfl, Ipfix.dataLen]
  by_cases h : len = 65535
  · subst h
    rcases h1 : r.rU8 with _ | ⟨v, r1⟩
    · ir_simp [Gen.IpfixIR.getDataLength, h1]
    · by_cases h2 : v = 255
      · subst h2
        rcases h3 : r1.rU16 with _ | ⟨w, r2⟩ <;> ir_simp [Gen.IpfixIR.getDataLength, h1, h3]
      · have hv : v % 65536 = v := Nat.mod_eq_of_lt (by have := rU8_lt h1; omega)
        ir_simp [Gen.IpfixIR.getDataLength, h1, h2, hv]
  · ir_simp [Gen.IpfixIR.getDataLength, h]

/-! ## `minRecordLen` -/

def mrl (i : Nat) : Stmt := Gen.IpfixIR.minRecordLen.body.nth i

theorem mrl_body : Gen.IpfixIR.minRecordLen.body = blk [mrl 0, mrl 1, mrl 2, mrl 3, mrl 4] := rfl
theorem mrl1_shape : mrl 1 = .range 2 (.field (.var 0) "ScopeFieldSpecifiers") (mrl 1).loopBody := rfl
theorem mrl2_shape : mrl 2 = .range 3 (.field (.var 0) "FieldSpecifiers") (mrl 2).loopBody := rfl

theorem minRecordLen_sem (addr : Bytes) (fuel : Nat) (st : St) (t : Template) :
    IpfixProg.minRecordLen addr fuel [.tpl t] st = some (st, [.tpl t], [.int (Ipfix.minRecLen t)]) := by
  rw [IpfixProg.minRecordLen, Func.sem_eq rfl rfl, mrl_body]
  have b1 : ∀ (y : V) (n : Nat) (s : Spec), exec addr [] fuel (mrl 1).loopBody st [.tpl t, .int n, .spec s, y] =
      some (.norm, st, [.tpl t, .int (n + Ipfix.specMin s), .spec s, y]) := by
    intro y n s
    by_cases h : s.len = 65535 <;> ir_simp [mrl, Gen.IpfixIR.minRecordLen, h, Ipfix.specMin]
  have b2 : ∀ (x : V) (n : Nat) (s : Spec), exec addr [] fuel (mrl 2).loopBody st [.tpl t, .int n, x, .spec s] =
      some (.norm, st, [.tpl t, .int (n + Ipfix.specMin s), x, .spec s]) := by
    intro x n s
    by_cases h : s.len = 65535 <;> ir_simp [mrl, Gen.IpfixIR.minRecordLen, h, Ipfix.specMin]
  obtain ⟨x1, h1⟩ := rangeF_sum 2 .spec Ipfix.specMin (fun n v => [.tpl t, .int n, v, .unset]) (fun _ _ _ => ⟨(by decide : 2 < 4), rfl⟩)
    (b1 .unset) t.scope 0 .unset
  rw [Nat.zero_add] at h1
  obtain ⟨x2, h2⟩ := rangeF_sum 3 .spec Ipfix.specMin (fun n v => [.tpl t, .int n, x1, v]) (fun _ _ _ => ⟨(by decide : 3 < 4), rfl⟩)
    (b2 x1) t.fields (t.scope.map Ipfix.specMin).sum .unset
  have e0 : exec addr [] fuel (mrl 0) st [.tpl t, .unset, .unset, .unset] = some (.norm, st, [.tpl t, .int 0, .unset, .unset]) := by
    ir_simp [mrl, Gen.IpfixIR.minRecordLen]
  have e3 : ∀ n, exec addr [] fuel (mrl 3) st [.tpl t, .int n, x1, x2] =
      some (.norm, st, [.tpl t, .int (if n < 1 then 1 else n), x1, x2]) := by
    intro n
    by_cases h : n < 1 <;> ir_simp [mrl, Gen.IpfixIR.minRecordLen, h]
  have e4 : ∀ n, exec addr [] fuel (mrl 4) st [.tpl t, .int n, x1, x2] = some (.ret [.int n], st, [.tpl t, .int n, x1, x2]) := by
    intro n
    ir_simp [mrl, Gen.IpfixIR.minRecordLen]
  rw [mrl1_shape, mrl2_shape]
  ir_simp [e0, h1, h2, e3, e4, Gen.IpfixIR.minRecordLen, Ipfix.minRecLen, List.map_append, List.sum_append]

/-! ## `decodeData` -/

/-- one step of `Ipfix.decFields` -/
def decField (f : Spec) (r : Rd) : Except Err DField × Rd :=
  match lookupElem f.ent f.id with
  | none => (.error .unknownElem, r)
  | some (fid, ty) =>
    match Ipfix.dataLen r f.len with
    | (.error e, r1) => (.error e, r1)
    | (.ok n, r1) =>
      match r1.readN n with
      | none => (.error .short, r1)
      | some (b, r2) => (.ok ⟨fid, f.ent, interpret b ty⟩, r2)

theorem decFields_step (f : Spec) (fs : List Spec) (r : Rd) (acc : Record) :
    Ipfix.decFields (f :: fs) r acc =
      match decField f r with
      | (.error e, r') => (.error e, r')
      | (.ok d, r') => Ipfix.decFields fs r' (acc ++ [d]) := by
  unfold decField
  rw [Ipfix.decFields_cons]
  generalize lookupElem f.ent f.id = o
  rcases o with _ | ⟨fid, ty⟩
  · rfl
  · simp only []
    generalize Ipfix.dataLen r f.len = o
    rcases o with ⟨_ | n, r1⟩
    · rfl
    · simp only []
      rcases r1.readN n with _ | ⟨b, r2⟩ <;> rfl

def dd (i : Nat) : Stmt := Gen.IpfixIR.decodeData.body.nth i

theorem dd_body : Gen.IpfixIR.decodeData.body =
    blk ([dd 0, dd 1, dd 2, dd 3, dd 4] ++ dd 5 :: dd 6 :: dd 7 :: [dd 8, dd 9]) := rfl
theorem dd5_shape : dd 5 = .loop (dd 5).loopCond (dd 5).loopBody (dd 5).loopPost := rfl
theorem dd7_shape : dd 7 = .loop (dd 7).loopCond (dd 7).loopBody (dd 7).loopPost := rfl

section
variable (addr : Bytes) (fuel : Nat) (c : Cache) (t : Template)

abbrev ddLink : Linkage := [("getDataLength", IpfixProg.getDataLength addr fuel)]

/-- the locals of `decodeData` in its first loop: `tr`, `fields`, then `err`, `b`, `readLength`, the loop's `i`, its `m` and
`ok` (`j`: dead between rounds), and the three slots `x` of the second loop -/
def ddEnv1 (x : V × V × V) (acc : Record) (i : Nat) (j : V × V × V × V × V) : Env :=
  [.tpl t, .drec acc, j.1, j.2.1, j.2.2.1, .int i, j.2.2.2.1, j.2.2.2.2, x.1, x.2.1, x.2.2]

/-- the locals of `decodeData` in its second loop (`x`: the three slots of the first loop) -/
def ddEnv2 (x : V × V × V) (acc : Record) (i : Nat) (j : V × V × V × V × V) : Env :=
  [.tpl t, .drec acc, j.1, j.2.1, j.2.2.1, x.1, x.2.1, x.2.2, .int i, j.2.2.2.1, j.2.2.2.2]

-- in this section `ir_simp` unfolds the parts of `decodeData` and its locals
attribute [local ir] ddEnv1 ddEnv2 dd Gen.IpfixIR.decodeData

theorem dd5_body (x : V × V × V) (r : Rd) (acc : Record) (i : Nat) (j : V × V × V × V × V) (f : Spec)
    (hf : t.scope[i]? = some f) :
    StepOut c Ipfix.nonfatalErr (fun d => ddEnv1 t x (acc ++ [d]) i) (decField f r)
      (exec addr (ddLink addr fuel) fuel (dd 5).loopBody ⟨r, c⟩ (ddEnv1 t x acc i j)) := by
  unfold decField StepOut
  generalize hl : lookupElem f.ent f.id = o
  rcases o with _ | ⟨fid, ty⟩
  · simp only []
    rw [exists_env_iff]
    ir_simp [hf, hl]
  · simp only []
    rcases hd : Ipfix.dataLen r f.len with ⟨e | n, r1⟩
    · simp only []
      have he := (Ipfix.dataLen_reads r f.len).err_of hd; subst he
      rw [exists_env_iff]
      ir_simp [hf, hl, getDataLength_sem, hd]
    · simp only []
      rcases hr : r1.readN n with _ | ⟨b, r2⟩
      · simp only []
        rw [exists_env_iff]
        ir_simp [hf, hl, getDataLength_sem, hd, hr]
      · refine ⟨(.nil, .bytes b, .int n, .elem fid ty, .bool true), ?_⟩
        ir_simp [hf, hl, getDataLength_sem, hd, hr]

theorem dd7_body (x : V × V × V) (r : Rd) (acc : Record) (i : Nat) (j : V × V × V × V × V) (f : Spec)
    (hf : t.fields[i]? = some f) :
    StepOut c Ipfix.nonfatalErr (fun d => ddEnv2 t x (acc ++ [d]) i) (decField f r)
      (exec addr (ddLink addr fuel) fuel (dd 7).loopBody ⟨r, c⟩ (ddEnv2 t x acc i j)) := by
  unfold decField StepOut
  generalize hl : lookupElem f.ent f.id = o
  rcases o with _ | ⟨fid, ty⟩
  · simp only []
    rw [exists_env_iff]
    ir_simp [hf, hl]
  · simp only []
    rcases hd : Ipfix.dataLen r f.len with ⟨e | n, r1⟩
    · simp only []
      have he := (Ipfix.dataLen_reads r f.len).err_of hd; subst he
      rw [exists_env_iff]
      ir_simp [hf, hl, getDataLength_sem, hd]
    · simp only []
      rcases hr : r1.readN n with _ | ⟨b, r2⟩
      · simp only []
        rw [exists_env_iff]
        ir_simp [hf, hl, getDataLength_sem, hd, hr]
      · refine ⟨(.nil, .bytes b, .int n, .elem fid ty, .bool true), ?_⟩
        ir_simp [hf, hl, getDataLength_sem, hd, hr]

theorem dd5_loop (x : V × V × V) (m i k : Nat) (r : Rd) (acc : Record) (j : V × V × V × V × V)
    (hi : i + m = t.scope.length) (hk : m < k) :
    StepOut c Ipfix.nonfatalErr (fun acc' => ddEnv1 t x acc' t.scope.length) (Ipfix.decFields (t.scope.drop i) r acc)
      (loopF (fun st env => eval addr st env (dd 5).loopCond) (exec addr (ddLink addr fuel) fuel (dd 5).loopBody)
        (exec addr (ddLink addr fuel) fuel (dd 5).loopPost) k ⟨r, c⟩ (ddEnv1 t x acc i j)) :=
  fieldLoop (ddEnv1 t x) Ipfix.decFields_nil decFields_step
    (by intros; ir_simp []) (by intros; ir_simp [])
    (dd5_body addr fuel c t x) m i k r acc j hi hk

theorem dd7_loop (x : V × V × V) (m i k : Nat) (r : Rd) (acc : Record) (j : V × V × V × V × V)
    (hi : i + m = t.fields.length) (hk : m < k) :
    StepOut c Ipfix.nonfatalErr (fun acc' => ddEnv2 t x acc' t.fields.length) (Ipfix.decFields (t.fields.drop i) r acc)
      (loopF (fun st env => eval addr st env (dd 7).loopCond) (exec addr (ddLink addr fuel) fuel (dd 7).loopBody)
        (exec addr (ddLink addr fuel) fuel (dd 7).loopPost) k ⟨r, c⟩ (ddEnv2 t x acc i j)) :=
  fieldLoop (ddEnv2 t x) Ipfix.decFields_nil decFields_step
    (by intros; ir_simp []) (by intros; ir_simp [])
    (dd7_body addr fuel c t x) m i k r acc j hi hk
end

theorem decodeData_sem (addr : Bytes) (fuel : Nat) (r : Rd) (c : Cache) (t : Template)
    (hs : t.scope.length < fuel) (hf : t.fields.length < fuel) :
    IpfixProg.decodeData addr fuel [.tpl t] ⟨r, c⟩ =
      some (⟨(Ipfix.decodeData t r).2, c⟩, [], IpfixProg.recResult (Ipfix.decodeData t r).1) := by
  rw [IpfixProg.decodeData, Func.sem_eq (env0 := .tpl t :: List.replicate 10 .unset) rfl rfl, dd_body, Ipfix.decodeData,
    fields_append Ipfix.decFields_nil decFields_step]
  have pre : exec addr (ddLink addr fuel) fuel (blk [dd 0, dd 1, dd 2, dd 3, dd 4]) ⟨r, c⟩ (.tpl t :: List.replicate 10 .unset) =
      some (.norm, ⟨r, c⟩, ddEnv1 t (.unset, .unset, .unset) [] 0 (.nil, .bytes [], .int 0, .unset, .unset)) := by
    ir_simp [ddEnv1, dd, Gen.IpfixIR.decodeData]
  have l1 := dd5_loop addr fuel c t (.unset, .unset, .unset) t.scope.length 0 fuel r []
    (.nil, .bytes [], .int 0, .unset, .unset) (Nat.zero_add _) hs
  rw [exec_blk_append_norm _ pre, exec_blk_cons, dd5_shape, exec_loop]
  rw [List.drop_zero] at l1
  rcases h1 : Ipfix.decFields t.scope r [] with ⟨e | acc1, r1⟩ <;> simp only [h1, StepOut] at l1
  · obtain ⟨env', l1⟩ := l1
    ir_simp [l1, Gen.IpfixIR.decodeData]
  · obtain ⟨j, l1⟩ := l1
    have e6 : exec addr (ddLink addr fuel) fuel (dd 6) ⟨r1, c⟩ (ddEnv1 t (.unset, .unset, .unset) acc1 t.scope.length j) =
        some (.norm, ⟨r1, c⟩, ddEnv2 t (.int t.scope.length, j.2.2.2.1, j.2.2.2.2) acc1 0 (j.1, j.2.1, j.2.2.1, .unset, .unset)) := by
      ir_simp [ddEnv1, ddEnv2, dd, Gen.IpfixIR.decodeData]
    have l2 := dd7_loop addr fuel c t (.int t.scope.length, j.2.2.2.1, j.2.2.2.2) t.fields.length 0 fuel r1 acc1
      (j.1, j.2.1, j.2.2.1, .unset, .unset) (Nat.zero_add _) hf
    rw [List.drop_zero] at l2
    simp only [l1]
    rw [exec_blk_cons_norm _ e6, exec_blk_cons, dd7_shape, exec_loop]
    rcases h2 : Ipfix.decFields t.fields r1 acc1 with ⟨e | acc2, r2⟩ <;> simp only [h2, StepOut] at l2
    · obtain ⟨env', l2⟩ := l2
      ir_simp [l2, Gen.IpfixIR.decodeData]
    · obtain ⟨j', l2⟩ := l2
      simp only [l2]
      rcases acc2 with _ | ⟨d, acc2⟩ <;> ir_simp [ddEnv2, dd, Gen.IpfixIR.decodeData]

end Vflow.IpfixIR
