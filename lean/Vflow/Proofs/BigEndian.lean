import Vflow.Model.Base
/-!
# Big-endian values: `beN` on concatenations, its bound, and `encBE` read back
-/
namespace Vflow

/-- the fold behind `beN`, started from any accumulator -/
theorem beN_foldl (b : Bytes) (acc : Nat) :
    b.foldl (fun a x => a * 256 + x.toNat) acc = acc * 256 ^ b.length + beN b := by
  induction b generalizing acc with
  | nil => simp [beN]
  | cons x xs ih =>
    simp only [List.foldl_cons, List.length_cons, beN]
    rw [ih, ih (0 * 256 + x.toNat), Nat.zero_mul, Nat.zero_add, Nat.pow_succ, Nat.add_mul, Nat.add_assoc,
      Nat.mul_assoc, Nat.mul_comm 256]

theorem beN_append (a b : Bytes) : beN (a ++ b) = beN a * 256 ^ b.length + beN b := by
  unfold beN; rw [List.foldl_append]; exact beN_foldl b _

theorem beN_append_singleton (a : Bytes) (x : UInt8) : beN (a ++ [x]) = beN a * 256 + x.toNat := by
  simp [beN, List.foldl_append]

theorem beN_lt (bs : Bytes) : beN bs < 256 ^ bs.length := by
  induction bs with
  | nil => exact Nat.one_pos
  | cons x t ih =>
    have h : beN (x :: t) = x.toNat * 256 ^ t.length + beN t := by simpa [beN] using beN_append [x] t
    have := Nat.mul_le_mul_right (256 ^ t.length) (Nat.succ_le_of_lt x.toNat_lt)
    rw [Nat.succ_mul] at this
    rw [h, List.length_cons, Nat.pow_succ, Nat.mul_comm _ 256]
    omega

theorem encBE_length (k v : Nat) : (encBE k v).length = k := by
  induction k generalizing v with
  | zero => rfl
  | succ k ih => simp [encBE, ih]

theorem beN_encBE (k v : Nat) (h : v < 256 ^ k) : beN (encBE k v) = v := by
  induction k generalizing v with
  | zero => simp at h; subst h; rfl
  | succ k ih =>
    have h' : v / 256 < 256 ^ k := by
      apply Nat.div_lt_of_lt_mul; rw [Nat.pow_succ] at h; omega
    rw [encBE, beN_append_singleton, ih _ h']
    simp
    omega

/-- a number that fits `k` octets is read back from its big-endian encoding, so the encoding determines it -/
theorem encBE_inj {k v w : Nat} (hv : v < 256 ^ k) (hw : w < 256 ^ k) (h : encBE k v = encBE k w) : v = w := by
  rw [← beN_encBE k v hv, h, beN_encBE k w hw]

end Vflow
