import Vflow.Proofs.PipelineOwn
/-!
# Every step preserves the ownership invariant

The worker steps are where `Sim` earns its keep: the checker accepted the program point the worker is at (`check_*`
say what that means for the abstract state), `Sim` ties the abstract state to the worker's locals, and each instruction
moves both in step (`cond_sound` for the loop conditions, `Sim.marshal`, `Sim.publish` for the two statements with
something to prove).  The other steps only move references about.
-/
namespace Vflow.Pipeline
open Vflow
variable {K : Codec}

section
variable {cfg : Cfg} {spec : CountSpec} {s s' : State K} {i : Nat} {w : Worker K} {a : Abs}

theorem Sim.dec_info {a : Abs} (hsim : Sim s w a) (hd : a.decoded = true) :
    ∃ d c, w.cur = some d ∧ w.dec = some (c, (K.decode c d.addr d.bytes).1) ∧
      Event.decoded d.id c (K.decode c d.addr d.bytes).1 ∈ s.log := hsim.decoded hd

theorem Sim.cur_none (hsim : Sim s w a) (ha : a.cur = false) : w.cur = none :=
  Option.not_isSome_iff_eq_none.mp (by rw [hsim.cur_eq, ha]; nofun)

theorem Sim.owns (hsim : Sim s w a) (ha : a.owns = true) : w.owns = true := hsim.owns_eq.trans ha

/-- the shape of `Sim`'s "known" fields: the worker holds one decode result, so what is known (`x0`) of "the" result
is known of that one -/
theorem known_of_dec {D : Prop} (hD : D) {c : K.Cache} {r : Option K.Msg} (hdec : w.dec = some (c, r)) {β}
    {f : Option K.Msg → β} {x0 : β} (hx : f r = x0) :
    ∀ x, some x0 = some x → D ∧ ∀ c' r', w.dec = some (c', r') → f r' = x := fun _ e => by
  cases e
  exact ⟨hD, fun _ _ h => by rw [hdec] at h; cases h; exact hx⟩

theorem known_of_msg {D : Prop} (hD : D) {c : K.Cache} {m : K.Msg} (hdec : w.dec = some (c, some m)) {β}
    {f : K.Msg → β} {x0 : β} (hx : f m = x0) :
    ∀ x, some x0 = some x → D ∧ ∀ c' m', w.dec = some (c', some m') → f m' = x := fun _ e => by
  cases e
  exact ⟨hD, fun _ _ h => by rw [hdec] at h; cases h; exact hx⟩

theorem Sim.msg (hsim : Sim s w a) (hk : a.kMsg = some true) : a.decoded = true ∧ ∃ c m, w.dec = some (c, some m) := by
  obtain ⟨hdd, hk⟩ := hsim.kmsg true hk
  obtain ⟨d, c, _, hdec, _⟩ := hsim.decoded hdd
  obtain ⟨m, hm⟩ := Option.isSome_iff_exists.mp (hk _ _ hdec)
  exact ⟨hdd, c, m, hm ▸ hdec⟩

theorem cond_sound {a a' : Abs} (hsim : Sim s w a) (c : Cond) (v : Bool) (hv : w.cond c = some v)
    (ha : assume c v a = some a') : Sim s w a' := by
  -- eight cases; in each `assume c v a` is `if guard then some a' else none`: keep the guard as `hg`, take `a'`
  cases c <;> cases v <;> simp only [assume] at ha <;> split at ha <;> cases ha
  all_goals rename_i hg
  case noMsg.false =>
    obtain ⟨d, c, _, hdec, _⟩ := hsim.decoded hg
    simp only [Worker.cond, hdec, Option.some.injEq] at hv
    exact { hsim with kmsg := known_of_dec hg hdec (by simpa using hv) }
  case noMsg.true =>
    obtain ⟨d, c, _, hdec, _⟩ := hsim.decoded hg
    simp only [Worker.cond, hdec, Option.some.injEq, Option.isNone_iff_eq_none] at hv
    exact { hsim with
      kmsg := known_of_dec hg hdec (by rw [hv]; rfl)
      kyield := known_of_dec hg hdec (by rw [hv]; rfl) }
  case noData.false =>
    obtain ⟨hdd, c, m, hdec⟩ := hsim.msg (by simpa using hg)
    simp only [Worker.cond, hdec, Option.some.injEq, Bool.not_eq_false'] at hv
    exact { hsim with kdata := known_of_msg hdd hdec hv }
  case noData.true =>
    obtain ⟨hdd, c, m, hdec⟩ := hsim.msg (by simpa using hg)
    simp only [Worker.cond, hdec, Option.some.injEq, Bool.not_eq_true'] at hv
    exact { hsim with
      kdata := known_of_msg hdd hdec hv
      kyield := known_of_dec hdd hdec (by simp [outcome, hv]) }
  case noMsgOrNoData.false =>
    obtain ⟨d, c, _, hdec, _⟩ := hsim.decoded hg
    cases hr : (K.decode c d.addr d.bytes).1 with
    | none => simp [Worker.cond, hdec, hr] at hv
    | some m =>
      rw [hr] at hdec
      simp only [Worker.cond, hdec, Option.some.injEq, Bool.not_eq_false'] at hv
      exact { hsim with
        kmsg := known_of_dec hg hdec rfl
        kdata := known_of_msg hg hdec hv }
  case noMsgOrNoData.true =>
    obtain ⟨d, c, _, hdec, _⟩ := hsim.decoded hg
    have hy : (outcome K (K.decode c d.addr d.bytes).1).isSome = false := by
      cases hr : (K.decode c d.addr d.bytes).1 with
      | none => rfl
      | some m =>
        simp only [Worker.cond, hdec, hr, Option.some.injEq, Bool.not_eq_true'] at hv
        simp [outcome, hv]
    exact { hsim with kyield := known_of_dec hg hdec hy }
  case marshalErr.false =>
    obtain ⟨hdd, c, m, hdec, hmar⟩ := hsim.marsh hg
    cases hp : K.marshal m with
    | none => rw [hp] at hmar; simp [Worker.cond, hmar] at hv
    | some p =>
      refine { hsim with
        kmar := known_of_msg hg hdec (by rw [hp]; rfl)
        kyield := fun x hx => ?_ }
      dsimp only at hx
      split at hx
      next hk =>
        simp only [Bool.and_eq_true, beq_iff_eq] at hk
        have hdata := (hsim.kdata true hk.2).2 c m hdec
        exact known_of_dec hdd hdec (by simp [outcome, hdata, hp]) x hx
      next => exact hsim.kyield x hx
  case marshalErr.true =>
    obtain ⟨hdd, c, m, hdec, hmar⟩ := hsim.marsh hg
    cases hp : K.marshal m with
    | some p =>
      rw [hp] at hmar
      dsimp only at hmar
      split at hmar
      · simp [Worker.cond, hmar.1] at hv
      · simp [Worker.cond, hmar] at hv
    | none =>
      exact { hsim with
        kmar := known_of_msg hg hdec (by rw [hp]; rfl)
        kyield := known_of_dec hdd hdec (by simp [outcome, hp]) }

theorem Sim.publish_info (hsim : Sim s w a) (hy : a.kYield = some true) (hm : a.kMar = some true)
    {d : Dgram} {p : Bytes} (hd : w.cur = some d) (hp : w.payload = some p) :
    Sol s.log d.id p ∧ (a.benc = false → w.mar = .okVal p) := by
  obtain ⟨hdd, hk⟩ := hsim.kyield true hy
  obtain ⟨d', c, h1, hdec, hlog⟩ := hsim.decoded hdd
  cases h1.symm.trans hd
  have hy' := hk _ _ hdec
  obtain ⟨_, c', m, hdec', hmar⟩ := hsim.marsh (hsim.kmar true hm).1
  obtain ⟨rfl, hr⟩ : c = c' ∧ (K.decode c d.addr d.bytes).1 = some m := by simpa [hdec] using hdec'
  -- the result yields a payload `p0`; `Sim.marsh` says where the worker keeps it
  obtain ⟨p0, hp0⟩ := Option.isSome_iff_exists.mp hy'
  have hm0 : K.marshal m = some p0 := by
    rw [hr] at hp0
    simp only [outcome, Option.bind_some] at hp0
    split at hp0
    · exact hp0
    · cases hp0
  rw [hm0] at hmar
  dsimp only at hmar
  have hpp : p = p0 ∧ (a.benc = false → w.mar = .okVal p) := by
    split at hmar
    next hb =>
      simp only [Worker.payload, hmar.1, hmar.2, Option.some.injEq] at hp
      exact ⟨hp.symm, fun hb' => by rw [hb] at hb'; cases hb'⟩
    next =>
      simp only [Worker.payload, hmar, Option.some.injEq] at hp
      exact ⟨hp.symm, fun _ => hp ▸ hmar⟩
  exact ⟨⟨d, c, hsim.cur_recv d hd, rfl, hlog, hpp.1 ▸ hp0⟩, hpp.2⟩

theorem Sim.publish {ins : Instr} {rest : List Instr} {d : Dgram} {p : Bytes} (hsim : Sim s w a)
    (hpc : w.pc = ins :: rest) (hchk : check spec (headAbs cfg.prog) w.pc a = true)
    (hins : ins = .publishCopy ∨ ins = .publishAlias) (hd : w.cur = some d) (hp : w.payload = some p) :
    Sol s.log d.id p ∧ (ins = .publishAlias → w.mar = .okVal p) ∧
      WInv cfg spec s { w with pc := rest, nPub := w.nPub + 1 } := by
  rw [hpc] at hchk
  have key : (a.kYield = some true ∧ a.kMar = some true ∧ a.pubd = false ∧ (ins = .publishAlias → a.benc = false)) ∧
      check spec (headAbs cfg.prog) rest { a with pubd := true } = true := by
    rcases hins with rfl | rfl
    · obtain ⟨⟨_, h1, h2, h3⟩, h4⟩ := check_publishCopy.mp hchk
      exact ⟨⟨h1, h2, h3, nofun⟩, h4⟩
    · obtain ⟨⟨_, h1, h2, h3, h5⟩, h4⟩ := check_publishAlias.mp hchk
      exact ⟨⟨h1, h2, h3, fun _ => h5⟩, h4⟩
  obtain ⟨⟨hy, hm, hnp, hnb⟩, hchk'⟩ := key
  obtain ⟨hsol, hval⟩ := hsim.publish_info hy hm hd hp
  refine ⟨hsol, fun e => hval (hnb e), .inr ⟨{ a with pubd := true }, { hsim with cnt_pub := ?_ }, hchk'⟩⟩
  show w.nPub + 1 = _
  rw [hsim.cnt_pub, hnp]; rfl

/-- what a checked publish statement enqueues is a value: the encode buffer does not escape -/
theorem Sim.publish_item {ins : Instr} {rest : List Instr} {d : Dgram} {p : Bytes} {item : MQItem} (hsim : Sim s w a)
    (hpc : w.pc = ins :: rest) (hchk : check spec (headAbs cfg.prog) w.pc a = true)
    (hins : ins = .publishCopy ∧ item = .val d.id p ∨
      ins = .publishAlias ∧ item = (match w.mar with | .okEnc => MQItem.ref d.id i | _ => MQItem.val d.id p))
    (hd : w.cur = some d) (hp : w.payload = some p) : item = .val d.id p := by
  rcases hins with ⟨_, e⟩ | ⟨e', e⟩
  · exact e
  · rw [e, (hsim.publish (cfg := cfg) hpc hchk (.inr e') hd hp).2.1 e']

theorem mem_upd_ne {m : BufId → Bytes} {b x : BufId} {v : Bytes} (h : (if x = b then v else m x) ≠ m x) : x = b :=
  Classical.byContradiction fun hne => h (if_neg hne)

theorem wk_append (hc : Canonical spec cfg.prog) {w0 : Worker K} (hpc : w0.pc = cfg.prog.loop)
    (hsim : Sim s' w0 (headAbs cfg.prog)) (j : Nat) (x : Worker K) (hj : (s.workers ++ [w0])[j]? = some x) :
    s.workers[j]? = some x ∨ WInv cfg spec s' x :=
  (getElem?_append_single hj).imp_right fun (e : x = w0) => e ▸ .inr ⟨_, hsim, hpc ▸ hc⟩

theorem wk_set {w' : Worker K} (hw' : WInv cfg spec s' w') (j : Nat) (x : Worker K)
    (hj : (s.workers.set i w')[j]? = some x) : s.workers[j]? = some x ∨ WInv cfg spec s' x := by
  rcases getElem?_set_cases hj with ⟨_, rfl, _⟩ | ⟨_, hj⟩
  · exact .inr hw'
  · exact .inl hj

theorem Sim.write (hsim : Sim s w a) {b b' : BufId} (hb : w.msg = some b) (hne : b ≠ b') {v : Bytes}
    (hm : s'.mem = fun x => if x = b' then v else s.mem x) (hl : s'.log = s.log) : Sim s' w a :=
  hsim.frame (fun x _ hx => by cases hb.symm.trans hx; rw [hm]; exact if_neg hne) (hl ▸ fun _ h => h)

/-- the worker re-reads its own datagram's message, so the result is `K.marshal` of the message it holds; the encode
buffer, if it is the target, was empty -/
theorem Sim.marshal {own : Bool} {rest : List Instr} {b : BufId} {d : Dgram} {c : K.Cache} {m : K.Msg} {enc' : Bytes}
    {mar' : Mar} (hsim : Sim s w a) (hchk : check spec (headAbs cfg.prog) (.marshal own :: rest) a = true)
    (hb : w.msg = some b) (hd : w.cur = some d) (hdec : w.dec = some (c, some m))
    (hres : match (K.decode c d.addr (s.mem b)).1.bind K.marshal with
      | none => enc' = w.enc ∧ mar' = .err
      | some p => if own = true then enc' = w.enc ++ p ∧ mar' = .okEnc else enc' = w.enc ∧ mar' = .okVal p) :
    WInv cfg spec s { w with pc := rest, enc := enc', mar := mar' } := by
  obtain ⟨⟨ho, _, hkm, hnm, hcl⟩, hchk'⟩ := check_marshal.mp hchk
  obtain ⟨hdd, _⟩ := hsim.kmsg true hkm
  obtain ⟨d', c', h1, h2, _⟩ := hsim.decoded hdd
  cases h1.symm.trans hd
  obtain ⟨rfl, hr⟩ : c' = c ∧ (K.decode c' d.addr d.bytes).1 = some m := by simpa [h2] using hdec
  rw [hsim.buf_ok b d (hsim.owns ho) hb hd, hr, Option.bind_some] at hres
  refine .inr ⟨{ a with marshalled := true, benc := own, clean := a.clean && !own }, { hsim with
    clean := fun hc => ?_
    marsh := fun _ => ⟨hdd, c', m, hdec, ?_⟩
    kmar := fun x hx => absurd (hsim.kmar x hx).1 (by simp [hnm]) }, hchk'⟩
  · -- clean afterwards: the encode buffer was not the target, and was clean before
    obtain ⟨h1, h2⟩ := Bool.and_eq_true_iff.mp hc
    have hown : own = false := by simpa using h2
    subst hown
    have : enc' = w.enc := by
      cases hp : K.marshal m <;> rw [hp] at hres <;> exact hres.1
    exact this.trans (hsim.clean h1)
  · cases hp : K.marshal m with
    | none => rw [hp] at hres; exact hres.2
    | some p =>
      rw [hp] at hres
      cases own
      · exact hres.2
      · exact ⟨hres.2, hres.1.trans (by rw [hsim.clean (hcl rfl)]; rfl)⟩

/-- a step that touches the locals of worker `i` only; `fin`, `cache` and `decCount` are nothing the invariant reads -/
theorem Inv.local (h : Inv cfg spec s) (hi : s.workers[i]? = some w) {w' : Worker K}
    (e0 : Option (Event K)) (hpub : ∀ id p, e0 ≠ some (.published id p)) (hmir : ∀ id p, e0 ≠ some (.mirrored id p))
    {f : List Dgram} {c : K.Cache} {n : Nat}
    (hw' : WInv cfg spec { s.setW i w' with log := e0.toList ++ s.log, fin := f, cache := c, decCount := n } w')
    (hr : ∀ x, wref w' x ≤ wref w x := by exact fun _ => Nat.le_refl _) :
    Inv cfg spec { s.setW i w' with log := e0.toList ++ s.log, fin := f, cache := c, decCount := n } := by
  refine h.step (.inl ⟨rfl, fun x => ?_⟩) e0 (hwk := wk_set hw') (hpub := fun id p e => absurd e (hpub id p))
    (hmir := fun id p e => absurd e (hmir id p))
  have := refs_setW hi w' x
  have := hr x
  show refs (s.setW i w') x ≤ refs s x
  omega

/-- `Put(msg.body)` by a worker that owns its buffer -/
theorem inv_put (h : Inv cfg spec s) (hi : s.workers[i]? = some w) (hsim : Sim s w a)
    (ho : a.owns = true) {b : BufId} (hb : w.msg = some b) (pc' : List Instr)
    (hchk : check spec (headAbs cfg.prog) pc' { a with owns := false } = true) :
    Inv cfg spec { s.setW i { w with pc := pc', owns := false } with pool := b :: s.pool } := by
  refine h.step (.inl ⟨rfl, fun x => ?_⟩) (hwk := wk_set (.inr ⟨{ a with owns := false }, ?_, hchk⟩))
  · have := wsum_set hi { w with pc := pc', owns := false } x
    rw [wref_owns (hsim.owns ho) hb, wref_of_not_owns rfl] at this
    simp only [refs, State.setW, List.count_cons, beq_iff_eq]
    omega
  · exact { hsim with owns_eq := rfl, buf_ok := nofun, owns_msg := nofun }

theorem work_inv (hc : Canonical spec cfg.prog) (h : Inv cfg spec s) (hi : s.workers[i]? = some w)
    (hh : w.halted = false) (hw : WorkStep cfg s i w s') : Inv cfg spec s' := by
  obtain ⟨a, hsim, hchk⟩ := (h.wk i w hi).sim hh
  cases hw with
  | finish hpc =>
    rw [hpc, check_nil, atEnd_iff] at hchk
    exact h.local hi none nofun nofun
      (.inr ⟨_, sim_head (hsim.owns_eq.trans hchk.1) hsim.owns_msg rfl ⟨rfl, rfl, rfl⟩, hc⟩)
  | putBack hpc hb =>
    rw [hpc, check_putBack] at hchk
    exact inv_put h hi hsim hchk.1 hb _ hchk.2
  | resetEnc hpc =>
    rw [hpc, check_resetEnc] at hchk
    refine h.local hi none nofun nofun (.inr ⟨_, ?_, hchk.2⟩)
    exact { hsim with clean := fun _ => rfl, marsh := fun hm => absurd hm (by simp [hchk.1]) }
  | quit hpc =>
    rw [hpc, check_recvOrQuit] at hchk
    exact h.local hi none nofun nofun (.inl ⟨rfl, hsim.cur_none hchk.1⟩)
  | @recv rest b d q hpc hq =>
    rw [hpc, check_recvOrQuit] at hchk
    have hbd := h.qmem b d (hq ▸ .head _)
    refine h.step (.inl ⟨rfl, fun x => ?_⟩) (hq := fun _ _ hm => .inl (hq ▸ .tail _ hm))
      (hwk := wk_set (.inr ⟨_, ?_, hchk.2⟩))
    · have := wsum_set hi (w.take rest b d) x
      rw [wref_owns (w := w.take rest b d) rfl rfl] at this
      simp only [refs, State.setW, hq, qcount_cons]
      omega
    · constructor <;> simp [Worker.take]
      · exact hbd.2
      · exact hbd.1
      · exact hsim.clean
  | @skip ins rest hpc hins =>
    have hchk' : check spec (headAbs cfg.prog) rest a = true := by
      rcases hins with rfl | rfl
      · exact check_log.mp (hpc ▸ hchk)
      · exact (check_mirrorCopy.mp (hpc ▸ hchk)).2
    -- (`{ hsim with }` re-types `hsim` for the worker with its new `pc`, which no field of `Sim` reads)
    exact h.local hi none nofun nofun (.inr ⟨a, { hsim with }, hchk'⟩)
  | @mirrorCopy rest b d b' p n hpc hb hd hget =>
    obtain ⟨⟨ho, _⟩, hchk'⟩ := check_mirrorCopy.mp (hpc ▸ hchk)
    have hwo := hsim.owns ho
    obtain ⟨hnp, hlt⟩ := h.owned hi hwo hb
    -- the copy goes into a buffer no one holds, so not into the worker's own
    have hne : b ≠ b' := fun e => by
      rcases hget with ⟨hb', -, -⟩ | ⟨e', -, -⟩
      · have := List.count_pos_iff.mpr hb'
        rw [← e, hnp] at this
        cases this
      · exact Nat.ne_of_lt hlt (e.trans e')
    have hw : ∀ x, wsum (s.workers.set i { w with pc := rest }) x = wsum s.workers x := fun x =>
      Nat.add_right_cancel (wsum_set hi { w with pc := rest } x)
    have hq : ∀ x, _ ≤ _ + if b' = x then 1 else 0 := qcount_offer_le cfg.mirCap s.mirq (b', d)
    refine h.step ?_ (hM := fun x hx => ?_) (hmi := fun b2 d2 hm => (mem_offer hm).imp_right fun e => ?_)
      (hwk := wk_set (.inr ⟨a, Sim.write (w := { w with pc := rest }) { hsim with } hb hne rfl rfl, hchk'⟩))
    · rcases hget with ⟨hb', rfl, rfl⟩ | ⟨rfl, rfl, rfl⟩
      · refine .inl ⟨rfl, fun x => ?_⟩
        have := count_erase' hb' x
        have := hq x
        simp only [refs, State.setW, hw]
        omega
      · refine .inr ⟨rfl, fun x => ?_⟩
        have := hq x
        simp only [refs, State.setW, hw]
        omega
    · cases mem_upd_ne hx
      exact hget.imp (fun g => List.count_pos_iff.mpr g.1) fun g => .inl (Nat.le_of_eq g.1.symm)
    · cases e
      exact ⟨(if_pos rfl).trans (hsim.buf_ok b d hwo hb hd), hsim.cur_recv d hd⟩
  | mirrorAlias hpc => exact absurd (hpc ▸ hchk) check_mirrorAlias
  | @decode rest b d hpc hb hd =>
    obtain ⟨⟨ho, _, hnd⟩, hchk'⟩ := check_decode.mp (hpc ▸ hchk)
    rw [hsim.buf_ok b d (hsim.owns ho) hb hd]
    refine h.local hi (some (.decoded d.id s.cache (K.decode s.cache d.addr d.bytes).1)) nofun nofun
      (.inr ⟨{ a with decoded := true }, ?_, hchk'⟩)
    -- nothing was known about a decode result before: `a.decoded = false`
    have old : ∀ {P : Prop}, a.decoded = true → P := fun hd' => absurd hd' (by simp [hnd])
    exact { hsim with
      cur_recv := fun d' hd' => .tail _ (hsim.cur_recv d' hd')
      decoded := fun _ => ⟨d, s.cache, hd, rfl, .head _⟩
      cnt_dec := by show w.nDec + 1 = _; rw [hsim.cnt_dec, hnd]; rfl
      kmsg := fun x hx => old (hsim.kmsg x hx).1
      kdata := fun x hx => old (hsim.kdata x hx).1
      marsh := fun hm => old (hsim.marsh hm).1
      kmar := fun x hx => old (hsim.marsh (hsim.kmar x hx).1).1
      kyield := fun x hx => old (hsim.kyield x hx).1 }
  | contFalse hpc hv =>
    obtain ⟨-, aF, haF, hchk'⟩ := check_contIf.mp (hpc ▸ hchk)
    exact h.local hi none nofun nofun (.inr ⟨aF, { cond_sound hsim _ _ hv haF with }, hchk'⟩)
  | contTrue hpc hv =>
    obtain ⟨⟨aT, haT, hend⟩, -⟩ := check_contIf.mp (hpc ▸ hchk)
    exact h.local hi none nofun nofun (.inr ⟨aT, { cond_sound hsim _ _ hv haT with }, hend⟩)
  | contPut hpc hv hb =>
    obtain ⟨⟨aT, haT, ho, hend⟩, -⟩ := check_contIf.mp (hpc ▸ hchk)
    exact inv_put h hi (cond_sound hsim _ _ hv haT) ho hb [] hend
  | @countDecoded rest d hpc hd =>
    obtain ⟨⟨_, hnc⟩, hchk'⟩ := check_countDecoded.mp (hpc ▸ hchk)
    refine h.local hi (some (.countDecoded d.id)) nofun nofun (.inr ⟨{ a with counted := true }, ?_, hchk'⟩)
    have hsim' : Sim s { w with pc := rest, nCnt := w.nCnt + 1 } { a with counted := true } :=
      { hsim with cnt_cnt := by show w.nCnt + 1 = _; rw [hsim.cnt_cnt, hnc]; rfl }
    exact hsim'.frame (fun _ _ _ => rfl) fun _ he => .tail _ he
  | marshal hpc hb hd hdec hres =>
    exact h.local hi none nofun nofun
      ((hsim.marshal (hpc ▸ hchk) hb hd hdec hres).frame (fun _ _ _ => rfl) fun _ he => he)
  | @publish ins rest d p item hpc hins hd hp room =>
    obtain ⟨hsol, -, hw'⟩ := hsim.publish hpc hchk (hins.imp And.left And.left) hd hp
    have hsol' : Sol (Event.published d.id p :: s.log) d.id p := hsol.mono fun _ he => .tail _ he
    refine h.step (.inl ⟨rfl, fun x => ?_⟩) (some (.published d.id p))
      (hwk := wk_set (hw'.frame (fun _ _ _ => rfl) fun _ he => .tail _ he))
      (hmq := fun it hit => (List.mem_append.mp hit).imp_right fun e => ?_)
      (hpub := fun id p' e => by cases e; exact hsol')
    · exact Nat.le_of_eq (Nat.add_right_cancel (refs_setW hi { w with pc := rest, nPub := w.nPub + 1 } x))
    · rw [List.mem_singleton.mp e]
      exact ⟨d.id, p, hsim.publish_item hpc hchk hins hd hp, hsol'⟩
  | drop hpc hins hd hp full =>
    obtain ⟨-, -, hw'⟩ := hsim.publish hpc hchk hins hd hp
    exact h.local hi (some (.dropped _ _)) nofun nofun (hw'.frame (fun _ _ _ => rfl) fun _ he => .tail _ he)

theorem step_inv (hc : Canonical spec cfg.prog) (h : Inv cfg spec s) (hs : Step cfg s s') : Inv cfg spec s' := by
  obtain ⟨_, hm⟩ := hs.move
  cases hm with
  | work hi hh hw => exact work_inv hc h hi hh hw
  | @spawnPool b hg hb =>
    refine h.step (.inl ⟨rfl, fun x => ?_⟩)
      (hwk := wk_append hc rfl (sim_head hg.symm (fun _ => ⟨b, rfl⟩) rfl ⟨rfl, rfl, rfl⟩))
    have := count_erase' hb x
    simp only [refs, wsum_append, wref_owns (w := { pc := cfg.prog.loop, msg := some b, owns := true }) rfl rfl]
    omega
  | spawnNew hg =>
    refine h.step (.inr ⟨rfl, fun x => ?_⟩)
      (hwk := wk_append hc rfl (sim_head hg.symm (fun _ => ⟨s.next, rfl⟩) rfl ⟨rfl, rfl, rfl⟩))
    simp only [refs, wsum_append, wref_owns (w := { pc := cfg.prog.loop, msg := some s.next, owns := true }) rfl rfl]
    omega
  | spawnBare hg =>
    refine h.step (.inl ⟨rfl, fun x => ?_⟩) (hwk := wk_append hc rfl (sim_head hg.symm nofun rfl ⟨rfl, rfl, rfl⟩))
    simp only [refs, wsum_append, wref_of_not_owns (w := { pc := cfg.prog.loop }) rfl]
    omega
  | rxGetPool hrx hb =>
    refine h.step (.inl ⟨rfl, fun x => ?_⟩) (hrx := fun _ _ e => e.elim nofun nofun)
    have := count_erase' hb x
    simp only [refs, hrx, rxref]
    omega
  | rxGetNew hrx =>
    refine h.step (.inr ⟨rfl, fun x => ?_⟩) (hrx := fun _ _ e => e.elim nofun nofun)
    simp only [refs, hrx, rxref]
    omega
  | rxReadErr hrx =>
    refine h.step (.inl ⟨rfl, fun x => ?_⟩) (hrx := fun _ _ e => e.elim nofun nofun)
    simp only [refs, hrx, rxref]
    omega
  | @rxRead b addr bytes hrx =>
    refine h.step (.inl ⟨rfl, fun x => ?_⟩) (some (.received ⟨s.nextId, addr, bytes⟩))
      (hM := fun x hx => .inr (.inr (mem_upd_ne hx ▸ hrx)))
      (hrx := fun _ _ e => .inr (e.elim (fun e => by cases e; exact ⟨if_pos rfl, .head _⟩) nofun))
    simp only [refs, hrx, rxref]
    omega
  | @rxCount b d hrx =>
    refine h.step (.inl ⟨rfl, fun x => ?_⟩) (some (.countUDP d.id))
      (hrx := fun _ _ e => e.elim nofun fun e => by cases e; exact .inl (.inl hrx))
    simp only [refs, hrx, rxref]
    omega
  | @rxEnqueue b d hrx room =>
    refine h.step (.inl ⟨rfl, fun x => ?_⟩) (hrx := fun _ _ e => e.elim nofun nofun)
      (hq := fun b' d' hm => (List.mem_append.mp hm).imp_right fun e => ?_)
    · simp only [refs, hrx, rxref, qcount_append]
      omega
    · cases List.mem_singleton.mp e
      exact h.rxmem b d (.inr hrx)
  | @mirConsume b d q hq =>
    have hbd := h.mmem b d (hq ▸ .head _)
    refine h.step (.inl ⟨rfl, fun x => ?_⟩) (some (.mirrored d.id (s.mem b)))
      (hmi := fun _ _ hm => .inl (hq ▸ .tail _ hm))
      (hmir := fun _ _ e => by cases e; exact ⟨d, .tail _ hbd.2, rfl, hbd.1⟩)
    simp only [refs, hq, qcount_cons, List.count_cons, beq_iff_eq]
    omega
  | @mqConsume it q hq =>
    refine h.step (.inl ⟨rfl, fun _ => Nat.le_refl _⟩) (hmq := fun _ hm => .inl (hq ▸ .tail _ hm))
      (hdel := fun id p hm => (List.mem_cons.mp hm).symm.imp_right fun e => ?_)
    obtain ⟨id', p', rfl, hsol⟩ := h.mqOk it (hq ▸ .head _)
    cases e
    exact hsol

theorem reach_inv (hc : Canonical spec cfg.prog) {c : K.Cache} {mem0 : BufId → Bytes} {s : State K}
    (hr : Reach cfg (init K c mem0) s) : Inv cfg spec s := by
  induction hr with
  | refl => exact init_inv cfg spec c mem0
  | step _ st ih => exact step_inv hc ih st

end
end Vflow.Pipeline
