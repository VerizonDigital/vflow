import Vflow.Proofs.SflowLoop
/-!
# The sFlow decoder: every step returns a value or an error and consumes what it read

One lemma per reader: `Good (reader bs) bs k`.
-/
namespace Vflow.Sflow
open Vflow Vflow.Packet

theorem good_skip {α : Type} {a : α} {r bs : Bytes} {k : Nat} (len : Nat) (h : r.length + k ≤ bs.length) :
    Good (.ok (a, r.drop len)) bs k :=
  good_ok (by rw [List.length_drop]; omega)

theorem decodeSampledHeader_good (bs : Bytes) : Good (decodeSampledHeader bs) bs 16 := by
  unfold decodeSampledHeader
  split
  · rename_i proto fl st hl r hrf
    have hlen : r.length + 16 ≤ bs.length := Nat.le_of_eq (readFields_some hrf).2.1
    by_cases h1500 : hl > 1500
    · rw [if_pos h1500]; exact good_err ..
    rw [if_neg h1500]
    split
    · exact good_err ..
    · rename_i buf r' hrr
      obtain ⟨hb, rfl⟩ := readHdr_some hrr
      -- `sh.Header[:sh.HeaderLength]` is in range: the buffer has the header length plus padding
      rw [slice?_le (Nat.zero_le _) (hb ▸ Nat.le_add_right hl _)]
      have hd := dissect_safe ((buf.drop 0).take (hl - 0)) proto
      simp only
      split
      · exact good_skip _ hlen
      · exact good_skip _ hlen
      · exact absurd ‹_› hd.1
      · exact absurd ‹_› hd.2
  · exact good_err ..

theorem decodeExtSwitch_good (bs : Bytes) : Good (decodeExtSwitch bs) bs 16 := by
  unfold decodeExtSwitch
  split
  · exact good_ok (Nat.le_of_eq (readFields_some ‹_›).2.1)
  · exact good_err ..

theorem decodeExtRouter_good (l : Nat) (bs : Bytes) : Good (decodeExtRouter l bs) bs 16 := by
  unfold decodeExtRouter
  by_cases hl : l ≠ 16 ∧ l ≠ 28
  · rw [if_pos hl]; exact good_err ..
  rw [if_neg hl]
  split
  · exact good_err ..
  · rename_i buf r hf
    obtain ⟨h1, h2⟩ := full_some_length hf
    -- `buff[4:]` is in range: the buffer has 8 or 20 octets
    rw [from?_le (by omega)]
    simp only
    split
    · have : _ + 8 = r.length := (readFields_some ‹_›).2.1
      exact good_ok (by omega)
    · exact good_err ..

theorem flowRecord_good (bs : Bytes) : Good (flowRecord bs) bs 8 := by
  unfold flowRecord
  split
  · exact good_err ..
  · split
    · exact good_err ..
    · rename_i fmt r1 h1 _ len r2 h2
      have hr2 : r2.length + 8 ≤ bs.length := Nat.le_of_eq (u32_u32_length h1 h2)
      by_cases f1 : fmt = 1
      · rw [if_pos f1]; exact good_after (good_mapFst _ (decodeSampledHeader_good r2)) hr2
      rw [if_neg f1]
      by_cases f2 : fmt = 1001
      · rw [if_pos f2]; exact good_after (good_mapFst _ (decodeExtSwitch_good r2)) hr2
      rw [if_neg f2]
      by_cases f3 : fmt = 1002
      · rw [if_pos f3]
        by_cases hl : len ≠ 16 ∧ len ≠ 28
        · rw [if_pos hl]; exact good_skip len hr2
        · rw [if_neg hl]; exact good_after (good_mapFst _ (decodeExtRouter_good len r2)) hr2
      · rw [if_neg f3]; exact good_skip len hr2

theorem flowRecord_progress : Progress flowRecord := fun bs a r h => (flowRecord_good bs).2 a r h
theorem flowRecord_safe (bs : Bytes) : Safe (flowRecord bs) := (flowRecord_good bs).1

theorem counterRecord_good (bs : Bytes) : Good (counterRecord bs) bs 8 := by
  unfold counterRecord
  split
  · exact good_err ..
  · split
    · exact good_err ..
    · rename_i fmt r1 h1 _ len r2 h2
      have hr2 : r2.length + 8 ≤ bs.length := Nat.le_of_eq (u32_u32_length h1 h2)
      split
      · exact good_skip len hr2
      · split
        · exact good_err ..
        · have := (readFields_some ‹_›).2.1
          exact good_ok (by omega)

theorem counterRecord_progress : Progress counterRecord := fun bs a r h => (counterRecord_good bs).2 a r h
theorem counterRecord_safe (bs : Bytes) : Safe (counterRecord bs) := (counterRecord_good bs).1

/-- a sample is its header fields and the record loop over what follows them, started with one more unit of fuel
than octets -/
theorem decodeFlowSample_eq (bs : Bytes) : decodeFlowSample bs =
    match readFields [4, 1, 3, 4, 4, 4, 4, 4, 4] bs with
    | some ([seq, sid, idx, rate, pool, drops, inp, out, n], r1) =>
      (loopN flowRecord (r1.length + 1) n r1).mapFst
        fun items => ⟨seq, sid, idx, rate, pool, drops, inp, out, n, FlowRecs.ofList items⟩
    | _ => .err .eof := by
  split
  · rename_i n r1 h
    simp only [decodeFlowSample, h]
    cases loopN flowRecord (r1.length + 1) n r1 <;> rfl
  · rename_i h
    unfold decodeFlowSample
    split
    · exact (h _ _ _ _ _ _ _ _ _ _ ‹_›).elim
    · rfl

theorem decodeCounterSample_eq (bs : Bytes) : decodeCounterSample bs =
    match readFields [4, 1, 3, 4] bs with
    | some ([seq, ty, idx, n], r1) =>
      (loopN counterRecord (r1.length + 1) n r1).mapFst fun items => ⟨seq, ty, idx, n, CounterRecs.ofList items⟩
    | _ => .err .eof := by
  split
  · rename_i n r1 h
    simp only [decodeCounterSample, h]
    cases loopN counterRecord (r1.length + 1) n r1 <;> rfl
  · rename_i h
    unfold decodeCounterSample
    split
    · exact (h _ _ _ _ _ ‹_›).elim
    · rfl

theorem decodeFlowSample_good (bs : Bytes) : Good (decodeFlowSample bs) bs 32 := by
  rw [decodeFlowSample_eq]
  split
  · exact good_after (good_mapFst _ (loopN_good flowRecord_good _ _ _ (Nat.lt_succ_self _)))
      (Nat.le_of_eq (readFields_some ‹_›).2.1)
  · exact good_err ..

theorem decodeCounterSample_good (bs : Bytes) : Good (decodeCounterSample bs) bs 12 := by
  rw [decodeCounterSample_eq]
  split
  · exact good_after (good_mapFst _ (loopN_good counterRecord_good _ _ _ (Nat.lt_succ_self _)))
      (Nat.le_of_eq (readFields_some ‹_›).2.1)
  · exact good_err ..

theorem sampleInfo_good (bs : Bytes) : Good (sampleInfo bs) bs 8 := by
  unfold sampleInfo
  split
  · exact good_err ..
  · split
    · exact good_err ..
    · exact good_ok (Nat.le_of_eq (u32_u32_length ‹_› ‹_›))

theorem sampleStep_good (f : List Nat) (bs : Bytes) : Good (sampleStep f bs) bs 8 := by
  obtain ⟨hs, hk⟩ := sampleInfo_good bs
  unfold sampleStep
  split
  · rename_i ent fmt len r hx
    have hr := hk _ _ hx
    by_cases he : ent ≠ 0
    · rw [if_pos he]; exact good_skip len hr
    rw [if_neg he]
    by_cases hf : fmt ∈ f
    · rw [if_pos hf]; exact good_skip len hr
    rw [if_neg hf]
    by_cases f1 : fmt = 1
    · rw [if_pos f1]; exact good_after (good_mapFst _ (decodeFlowSample_good r)) hr
    rw [if_neg f1]
    by_cases f2 : fmt = 2
    · rw [if_pos f2]; exact good_after (good_mapFst _ (decodeCounterSample_good r)) hr
    · rw [if_neg f2]; exact good_skip len hr
  · exact good_err ..
  · exact absurd ‹_› hs.1
  · exact absurd ‹_› hs.2

theorem decodeHeader_good (bs : Bytes) : Good (decodeHeader bs) bs 28 := by
  unfold decodeHeader
  split
  · exact good_err ..
  · rename_i ver r1 h1
    split
    · exact good_err ..
    · split
      · exact good_err ..
      · rename_i ipv r2 h2
        split
        · exact good_err ..
        · rename_i ip r3 h3
          split
          · rename_i r4 h4
            have l2 := u32_u32_length h1 h2
            obtain ⟨_, rfl, _⟩ := rawRead_some h3
            have l4 : r4.length + 16 = _ := (readFields_some h4).2.1
            -- the agent address has four octets or sixteen
            have : 4 ≤ (if ipv = 2 then 16 else 4) := by split <;> decide
            rw [List.length_drop] at l4
            exact good_ok (by omega)
          · exact good_err ..

theorem decode_safe (f : List Nat) (bs : Bytes) : Safe (decode f bs) := by
  obtain ⟨hs, hk⟩ := decodeHeader_good bs
  unfold decode
  split
  · rename_i h r hx
    obtain ⟨hl, _⟩ := loopN_good (sampleStep_good f) h.samplesNo (bs.length + 1) r
      (Nat.lt_succ_of_le (Nat.le_of_add_right_le (hk _ _ hx)))
    split
    · exact safe_ok _
    · exact safe_err _
    · exact absurd ‹_› hl.1
    · exact absurd ‹_› hl.2
  · exact safe_err _
  · exact absurd ‹_› hs.1
  · exact absurd ‹_› hs.2

end Vflow.Sflow
