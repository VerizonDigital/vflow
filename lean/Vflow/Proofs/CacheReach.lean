import Vflow.Proofs.CacheFileLemmas
/-!
# The decoders change the cache only through `Cache.insert`

So whatever `insert` preserves, decoding a datagram preserves (`Ipfix.decode_cache`, `V9.decode_cache`); in particular
every cache reachable by decoding has distinct keys.  Each lemma follows its function of the model branch by branch.
-/
namespace Vflow

variable {P : Cache → Prop} (hins : ∀ c a id t, P c → P (Cache.insert c a id t))

namespace Ipfix

theorem skipRest_cache (ctx : Ctx) (st : St) (e : Option Err) : (skipRest ctx st e).1.cache = st.cache := by
  fun_cases skipRest ctx st e <;> rfl

include hins

theorem setLoop_cache (ctx : Ctx) (fuel : Nat) (st : St) (h : P st.cache) : P (setLoop ctx fuel st).1.cache := by
  fun_induction setLoop ctx fuel st with
  | case3 _ _ _ _ _ _ _ _ ih => exact ih (hins _ _ _ _ h)   -- a template record: installed, and the loop goes on
  | case8 _ _ _ _ _ _ _ _ _ _ ih => exact ih h              -- a data record: the loop goes on with the cache it had
  | _ => exact h

theorem setBody_cache (addr : Bytes) (sid len start fuel : Nat) (st : St) (h : P st.cache) :
    P (setBody addr sid len start fuel st).1.cache := by
  fun_cases setBody addr sid len start fuel st
  · rwa [skipRest_cache]
  · exact setLoop_cache hins _ _ _ h
  · rw [skipRest_cache]; exact setLoop_cache hins _ _ _ h

theorem decodeSet_cache {addr : Bytes} {fuel : Nat} {st : St} (h : P st.cache) {res : St × Option Err}
    (hd : decodeSet addr fuel st = res) : P res.1.cache := by
  subst hd
  fun_cases decodeSet addr fuel st
  · exact h
  · exact h
  · exact h
  · exact setBody_cache hins _ _ _ _ _ _ h

theorem outer_cache (addr : Bytes) (fuel : Nat) (st : St) (errs : List Err) (h : P st.cache) :
    P (outer addr fuel st errs).1.cache := by
  fun_induction outer addr fuel st errs with
  | case1 | case5 => exact h
  | case2 _ _ _ _ _ hd ih | case3 _ _ _ _ _ _ hd _ ih => exact ih (decodeSet_cache hins h hd)
  | case4 _ _ _ _ _ _ hd => exact decodeSet_cache hins h hd

theorem decode_cache (c : Cache) (addr bs : Bytes) (h : P c) : P (decode c addr bs).2 := by
  fun_cases decode c addr bs
  · exact h
  · exact h
  all_goals
    rename_i hd
    exact (congrArg (fun r => P r.1.cache) hd).mp (outer_cache hins addr _ _ _ h)

omit hins in
theorem decode_nodup (c : Cache) (addr bs : Bytes) (h : NoDupKeys c) : NoDupKeys (decode c addr bs).2 :=
  decode_cache insert_nodup c addr bs h

end Ipfix

namespace V9

theorem skipRest_cache (ctx : Ctx) (st : St) (e : Option Err) : (skipRest ctx st e).1.cache = st.cache := by
  fun_cases skipRest ctx st e <;> rfl

include hins

theorem setLoop_cache (ctx : Ctx) (fuel : Nat) (st : St) (h : P st.cache) : P (setLoop ctx fuel st).1.cache := by
  fun_induction setLoop ctx fuel st with
  | case2 _ _ _ _ _ _ _ ih => exact ih (hins _ _ _ _ h)   -- a template record
  | case6 _ _ _ _ _ _ _ _ _ ih => exact ih h            -- a data record
  | _ => exact h

theorem setBody_cache (addr : Bytes) (sid len start fuel : Nat) (st : St) (h : P st.cache) :
    P (setBody addr sid len start fuel st).1.cache := by
  fun_cases setBody addr sid len start fuel st
  · rwa [skipRest_cache]
  · rw [skipRest_cache]; exact setLoop_cache hins _ _ _ h

theorem decodeSet_cache {addr : Bytes} {fuel : Nat} {st : St} (h : P st.cache) {res : St × Option Err}
    (hd : decodeSet addr fuel st = res) : P res.1.cache := by
  subst hd
  fun_cases decodeSet addr fuel st
  · exact h
  · exact h
  · exact h
  · exact setBody_cache hins _ _ _ _ _ _ h

theorem outer_cache (addr : Bytes) (fuel : Nat) (st : St) (errs : List Err) (h : P st.cache) :
    P (outer addr fuel st errs).1.cache := by
  fun_induction outer addr fuel st errs with
  | case1 | case5 => exact h
  | case2 _ _ _ _ _ hd ih | case3 _ _ _ _ _ _ hd _ ih => exact ih (decodeSet_cache hins h hd)
  | case4 _ _ _ _ _ _ hd => exact decodeSet_cache hins h hd

theorem decode_cache (c : Cache) (addr bs : Bytes) (h : P c) : P (decode c addr bs).2 := by
  fun_cases decode c addr bs
  · exact h
  · exact h
  all_goals
    rename_i hd
    exact (congrArg (fun r => P r.1.cache) hd).mp (outer_cache hins addr _ _ _ h)

omit hins in
theorem decode_nodup (c : Cache) (addr bs : Bytes) (h : NoDupKeys c) : NoDupKeys (decode c addr bs).2 :=
  decode_cache insert_nodup c addr bs h

end V9

end Vflow
