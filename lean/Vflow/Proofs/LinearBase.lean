import Vflow.Model.Flow
import Vflow.Proofs.RdLemmas
/-!
# C02, allocation bounds: what the IPFIX and the NetFlow v9 proofs share

Finding K4: a field specifier of length 0 is decoded (an entry with an empty value) without consuming an
octet of the datagram.  `zeroSpecs tr` counts those specifiers of a template; every *other* specifier costs
at least one octet per record, which is what makes the number of decoded fields linear in the datagram's
length plus `records × zeroSpecs`.
-/
namespace Vflow

def zeroCount (l : List Spec) : Nat := (l.filter (fun s => s.len = 0)).length

/-- number of zero-length field specifiers of a template (scope and ordinary specifiers): the specifiers
that are decoded without consuming an octet (finding K4) -/
def zeroSpecs (tr : Template) : Nat := ((tr.scope ++ tr.fields).filter (fun s => s.len = 0)).length

theorem zeroSpecs_eq (tr : Template) : zeroSpecs tr = zeroCount (tr.scope ++ tr.fields) := rfl

theorem zeroCount_nil : zeroCount [] = 0 := rfl

theorem zeroCount_cons (f : Spec) (fs : List Spec) :
    zeroCount (f :: fs) = (if f.len = 0 then 1 else 0) + zeroCount fs := by
  by_cases h : f.len = 0 <;> simp [zeroCount, h, Nat.add_comm]

/-- the step of the linear bound: decoding `f` takes the reader from count `a` to `b`, the remaining specifiers to `c` -/
theorem zeroCount_cons_le {f : Spec} {fs : List Spec} {a b c : Nat} (hle : a ≤ b) (hpos : f.len ≠ 0 → a + 1 ≤ b)
    (h : b + fs.length ≤ c + zeroCount fs) : a + (f :: fs).length ≤ c + zeroCount (f :: fs) := by
  rw [zeroCount_cons, List.length_cons]
  split
  · omega
  · have := hpos ‹_›; omega

/-- allocation units of a result: total number of decoded fields -/
def fieldSum (recs : List Record) : Nat := (recs.map List.length).sum

theorem fieldSum_nil : fieldSum [] = 0 := rfl

theorem fieldSum_snoc (recs : List Record) (fs : Record) :
    fieldSum (recs ++ [fs]) = fieldSum recs + fs.length := by
  simp [fieldSum, List.map_append, List.sum_append]

theorem fieldSum_le (K : Nat) : ∀ (recs : List Record), (∀ r ∈ recs, r.length ≤ K) →
    fieldSum recs ≤ recs.length * K
  | [], _ => Nat.zero_le _
  | r :: rs, h => by
    have h1 := h r (List.mem_cons_self ..)
    have h2 := fieldSum_le K rs fun x hx => h x (List.mem_cons_of_mem _ hx)
    simp only [fieldSum, List.map_cons, List.sum_cons, List.length_cons, Nat.succ_mul] at h2 ⊢
    omega

theorem Cache.mem_insert {c : Cache} {addr : Bytes} {id : Nat} {t : Template} {e : CKey × Template}
    (he : e ∈ c.insert addr id t) : e.2 = t ∨ e ∈ c := by
  rcases List.mem_cons.mp he with rfl | he
  · exact .inl rfl
  · exact .inr (List.mem_filter.mp he).1

theorem Cache.mem_of_lookup {c : Cache} {addr : Bytes} {id : Nat} {t : Template}
    (hl : c.lookup addr id = some t) : ∃ e ∈ c, e.2 = t := by
  obtain ⟨e, he, rfl⟩ := Option.map_eq_some_iff.mp hl
  exact ⟨e, List.mem_of_find?_eq_some he, rfl⟩

def CacheZ (Z : Nat) (c : Cache) : Prop := ∀ e ∈ c, zeroSpecs e.2 ≤ Z

theorem CacheZ.insert {Z : Nat} {c : Cache} (h : CacheZ Z c) (addr : Bytes) (id : Nat) (t : Template)
    (ht : zeroSpecs t ≤ Z) : CacheZ Z (c.insert addr id t) :=
  fun e he => (Cache.mem_insert he).elim (fun h' => h' ▸ ht) (h e)

theorem CacheZ.lookup {Z : Nat} {c : Cache} (h : CacheZ Z c) {addr : Bytes} {id : Nat} {t : Template}
    (hl : c.lookup addr id = some t) : zeroSpecs t ≤ Z :=
  let ⟨e, he, ht⟩ := Cache.mem_of_lookup hl
  ht ▸ h e he

/-- the check behind the non-vacuity examples of `Props/C02Flow` -/
def tplZok (Z : Nat) (x : Except Err Template × Rd) : Bool :=
  match x.1 with
  | .ok t => decide (zeroSpecs t ≤ Z)
  | .error _ => true

theorem tplZok_ok {Z : Nat} {x : Except Err Template × Rd} {t : Template} {r' : Rd}
    (h : tplZok Z x = true) (hx : x = (.ok t, r')) : zeroSpecs t ≤ Z := by
  subst hx
  exact of_decide_eq_true h

end Vflow
