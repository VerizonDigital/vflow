import Vflow.Spec.V5Wire
import Vflow.Model.V5
import Vflow.Proofs.BigEndian
/-!
# NetFlow v5: the decoder on the Cisco layout, completely

`readFields_eq` characterises the generic field reader (succeeds iff the octets suffice; values are the
big-endian slices in turn), `decodeWith_spec_eq` the whole `Decode` on the specification layouts
(`decodeSpec`; `decodeSpec_eq_ok`: which octet strings give which message), and
the `enc…` lemmas give the round trip with the specification encoder.  The last declaration is the `DecidableEq`
instance of decode outcomes that the concrete examples of C08 evaluate with.
-/
namespace Vflow.V5Round
open Vflow Vflow.Spec Vflow.V5

theorem readN_eq (bs : Bytes) (c n : Nat) :
    Rd.readN ⟨bs, c⟩ n = if bs.length < n then none else some (bs.take n, ⟨bs.drop n, c + n⟩) := rfl

/-- **`readFields`, completely**: it succeeds exactly when the octets suffice, yields the big-endian value of
each slice in turn, and leaves the rest -/
theorem readFields_eq (ws : List Nat) (bs : Bytes) (c : Nat) :
    readFields ws ⟨bs, c⟩ =
      if ws.sum ≤ bs.length then some (valuesAt ws bs, ⟨bs.drop ws.sum, c + ws.sum⟩) else none := by
  induction ws generalizing bs c with
  | nil => simp [readFields, valuesAt]
  | cons w ws ih =>
    simp only [readFields, readN_eq]
    by_cases hw : bs.length < w
    · have : ¬ (w + ws.sum ≤ bs.length) := by omega
      simp [hw, this]
    · simp only [hw, if_false, ih, List.length_drop, List.sum_cons]
      by_cases hs : ws.sum ≤ bs.length - w
      · have : w + ws.sum ≤ bs.length := by omega
        simp [hs, this, valuesAt, List.drop_drop, Nat.add_assoc]
      · have : ¬ (w + ws.sum ≤ bs.length) := by omega
        simp [hs, this]

theorem readFlows_eq (ws : List Nat) (n : Nat) (bs : Bytes) (c : Nat) (acc : List (List Nat))
    (h : n * ws.sum ≤ bs.length) :
    readFlows ws n ⟨bs, c⟩ acc = (acc ++ flowsAt ws n bs, true) := by
  induction n generalizing bs c acc with
  | zero => simp [readFlows, flowsAt]
  | succ n ih =>
    have h1 : ws.sum ≤ bs.length := by rw [Nat.succ_mul] at h; omega
    have h2 : n * ws.sum ≤ (bs.drop ws.sum).length := by
      rw [Nat.succ_mul] at h; simp only [List.length_drop]; omega
    simp only [readFlows, readFields_eq, h1, if_true]
    rw [ih _ _ _ h2]
    simp [flowsAt]

theorem flowsAt_length (ws : List Nat) (n : Nat) (bs : Bytes) : (flowsAt ws n bs).length = n := by
  induction n generalizing bs with
  | zero => rfl
  | succ n ih => simp [flowsAt, ih]

theorem hdr_sum : (widths Spec.v5Header).sum = 24 := rfl
theorem rec_sum : (widths Spec.v5Record).sum = 48 := rfl
theorem hdr_len : (widths Spec.v5Header).length = 9 := rfl
theorem rec_len : (widths Spec.v5Record).length = 20 := rfl

/-- the outcome of `Decode` on the Cisco layout -/
def decodeSpec (bs : Bytes) : Except V5Err Msg :=
  if bs.length < 24 then .error .short else
  let h := valuesAt (widths Spec.v5Header) bs
  if fieldAt h 0 ≠ 5 then .error .badVersion else
  if fieldAt h 1 < 1 ∨ fieldAt h 1 > 30 then .error .badCount else
  if bs.length < 24 + 48 * fieldAt h 1 then .error .shortFlows else
  .ok ⟨h, flowsAt (widths Spec.v5Record) (fieldAt h 1) (bs.drop 24)⟩

theorem decodeSpec_eq_ok (bs : Bytes) (m : Msg) :
    decodeSpec bs = .ok m ↔
      24 ≤ bs.length ∧ fieldAt (valuesAt (widths Spec.v5Header) bs) 0 = 5 ∧
      1 ≤ fieldAt (valuesAt (widths Spec.v5Header) bs) 1 ∧ fieldAt (valuesAt (widths Spec.v5Header) bs) 1 ≤ 30 ∧
      24 + 48 * fieldAt (valuesAt (widths Spec.v5Header) bs) 1 ≤ bs.length ∧
      m = ⟨valuesAt (widths Spec.v5Header) bs,
        flowsAt (widths Spec.v5Record) (fieldAt (valuesAt (widths Spec.v5Header) bs) 1) (bs.drop 24)⟩ := by
  simp only [decodeSpec]
  split
  · exact ⟨nofun, fun h => by omega⟩
  · split
    · exact ⟨nofun, fun h => by omega⟩
    · split
      · exact ⟨nofun, fun h => by omega⟩
      · split
        · exact ⟨nofun, fun h => by omega⟩
        · simp only [Except.ok.injEq]
          exact ⟨fun h => ⟨by omega, by omega, by omega, by omega, by omega, h.symm⟩, fun h => h.2.2.2.2.2.symm⟩

theorem decodeWith_spec_eq (bs : Bytes) : decodeWith Spec.v5Header Spec.v5Record bs = decodeSpec bs := by
  simp only [decodeWith, decodeSpec, readFields_eq, hdr_sum]
  by_cases h24 : bs.length < 24
  · have : ¬ 24 ≤ bs.length := by omega
    simp [h24, this]
  · have h24' : 24 ≤ bs.length := by omega
    simp only [h24, h24', if_true, if_false]
    split
    · rfl
    · split
      · rfl
      · rename_i hc
        by_cases hl : bs.length < 24 + 48 * fieldAt (valuesAt (widths Spec.v5Header) bs) 1
        · have : fieldAt (valuesAt (widths Spec.v5Header) bs) 1 * 48 > (bs.drop 24).length := by
            simp only [List.length_drop]; omega
          rw [if_pos this, if_pos hl]
        · have : ¬ fieldAt (valuesAt (widths Spec.v5Header) bs) 1 * 48 > (bs.drop 24).length := by
            simp only [List.length_drop]; omega
          rw [if_neg this, if_neg hl]
          rw [readFlows_eq _ _ _ _ _ (by rw [rec_sum]; simp only [List.length_drop]; omega)]
          simp

theorem fits_cons {w v : Nat} {ws vs : List Nat} (h : Fits (w :: ws) (v :: vs)) : v < 256 ^ w ∧ Fits ws vs := by
  simpa [Fits, fits] using h

theorem encFields_length (ws vs : List Nat) (h : Fits ws vs) : (encFields ws vs).length = ws.sum := by
  induction ws generalizing vs with
  | nil => cases vs <;> simp [encFields]
  | cons w ws ih =>
    cases vs with
    | nil => simp [Fits, fits] at h
    | cons v vs => simp [encFields, encBE_length, ih vs (fits_cons h).2]

theorem valuesAt_encFields (ws vs : List Nat) (tail : Bytes) (h : Fits ws vs) :
    valuesAt ws (encFields ws vs ++ tail) = vs := by
  induction ws generalizing vs with
  | nil => cases vs with
    | nil => rfl
    | cons _ _ => simp [Fits, fits] at h
  | cons w ws ih =>
    cases vs with
    | nil => simp [Fits, fits] at h
    | cons v vs =>
      obtain ⟨hv, hr⟩ := fits_cons h
      have hl := encBE_length w v
      simp only [encFields, valuesAt, List.append_assoc]
      rw [List.take_left' hl, List.drop_left' hl, beN_encBE w v hv, ih vs hr]

/-- **C08 (fields)**: reading the encoding of fitting values gives the values back and leaves exactly the
octets that follow — for every width list -/
theorem readFields_encFields (ws vs : List Nat) (tail : Bytes) (c : Nat) (h : Fits ws vs) :
    readFields ws ⟨encFields ws vs ++ tail, c⟩ = some (vs, ⟨tail, c + ws.sum⟩) := by
  have hl := encFields_length ws vs h
  rw [readFields_eq, if_pos (by simp [hl]), valuesAt_encFields ws vs tail h, List.drop_left' hl]

theorem encFlows_length (fs : List (List Nat)) (h : ∀ f ∈ fs, Fits (widths Spec.v5Record) f) :
    (encFlows fs).length = 48 * fs.length := by
  induction fs with
  | nil => rfl
  | cons f fs ih =>
    have h1 := encFields_length _ _ (h f (by simp))
    rw [rec_sum] at h1
    have h2 := ih (fun g hg => h g (by simp [hg]))
    simp only [encFlows, List.length_append, List.length_cons]
    show (encFields (widths Spec.v5Record) f).length + _ = _
    omega

theorem flowsAt_encFlows (fs : List (List Nat)) (tail : Bytes) (h : ∀ f ∈ fs, Fits (widths Spec.v5Record) f) :
    flowsAt (widths Spec.v5Record) fs.length (encFlows fs ++ tail) = fs := by
  induction fs with
  | nil => rfl
  | cons f fs ih =>
    have hf := h f (by simp)
    have hl := encFields_length _ _ hf
    have e : encFlows (f :: fs) ++ tail = encFields (widths Spec.v5Record) f ++ (encFlows fs ++ tail) := by
      simp [encFlows, widths, widthsOf]
    simp only [List.length_cons, flowsAt, e]
    rw [valuesAt_encFields _ _ _ hf, List.drop_left' hl, ih (fun g hg => h g (by simp [hg]))]

theorem decodeSpec_encode (h : List Nat) (fs : List (List Nat)) (tail : Bytes)
    (hh : Fits (widths Spec.v5Header) h) (hfs : ∀ f ∈ fs, Fits (widths Spec.v5Record) f)
    (hv : fieldAt h 0 = 5) (hc : fieldAt h 1 = fs.length) (h1 : 1 ≤ fs.length) (h30 : fs.length ≤ 30) :
    decodeSpec (encodeV5 h fs ++ tail) = .ok ⟨h, fs⟩ := by
  have hl := encFields_length _ _ hh
  rw [hdr_sum] at hl
  have hfl := encFlows_length fs hfs
  have e : encodeV5 h fs ++ tail = encFields (widths Spec.v5Header) h ++ (encFlows fs ++ tail) := by
    simp [encodeV5, widths, widthsOf]
  have hlen : (encodeV5 h fs ++ tail).length = 24 + 48 * fs.length + tail.length := by
    rw [e]; simp only [List.length_append]; omega
  simp only [decodeSpec]
  rw [if_neg (by omega)]
  simp only [e, valuesAt_encFields _ _ _ hh, hv, hc]
  rw [if_neg (by simp), if_neg (by omega), if_neg (by rw [← e]; omega), List.drop_left' hl,
    flowsAt_encFlows fs tail hfs]

theorem valuesAt_length (ws : List Nat) (bs : Bytes) : (valuesAt ws bs).length = ws.length := by
  induction ws generalizing bs with
  | nil => rfl
  | cons w ws ih => simp [valuesAt, ih]

/-- **C08 (offsets)**: the `i`-th value read is the big-endian value of the slice at the cumulative offset -/
theorem valuesAt_getD (ws : List Nat) (bs : Bytes) (i : Nat) (hi : i < ws.length) :
    (valuesAt ws bs).getD i 0 = beN ((bs.drop (offsetOf ws i)).take (ws.getD i 0)) := by
  induction ws generalizing bs i with
  | nil => simp at hi
  | cons w ws ih =>
    cases i with
    | zero => simp [valuesAt, offsetOf]
    | succ i =>
      have := ih (bs.drop w) i (by simpa using hi)
      simp only [valuesAt, List.getD_cons_succ, this, offsetOf, List.take_succ_cons, List.sum_cons,
        List.drop_drop]

theorem flowsAt_getD (ws : List Nat) (n : Nat) (bs : Bytes) (j : Nat) (hj : j < n) :
    (flowsAt ws n bs).getD j [] = valuesAt ws (bs.drop (j * ws.sum)) := by
  induction n generalizing bs j with
  | zero => omega
  | succ n ih =>
    cases j with
    | zero => simp [flowsAt]
    | succ j =>
      have := ih (bs.drop ws.sum) j (by omega)
      simp only [flowsAt, List.getD_cons_succ, this, List.drop_drop, Nat.succ_mul]
      congr 2; omega

/-- decidable equality of decode outcomes (for the concrete examples) -/
instance : DecidableEq (Except V5Err Msg) := fun a b =>
  match a, b with
  | .ok x, .ok y => if h : x = y then isTrue (by rw [h]) else isFalse (fun e => h (by injection e))
  | .error x, .error y => if h : x = y then isTrue (by rw [h]) else isFalse (fun e => h (by injection e))
  | .ok _, .error _ => isFalse (fun e => by injection e)
  | .error _, .ok _ => isFalse (fun e => by injection e)

end Vflow.V5Round
