import Vflow.Model.Ipfix
/-!
# Unfolding equations for `Ipfix.decFields`, and `minLeft_pos`

Lean's automatically generated equation lemmas for `decFields` cannot be produced (their generation
tries to evaluate the 400-row information-model table behind `lookupElem`), so the two defining
equations are stated here and proved by `rfl` with `lookupElem` kept folded.
-/
namespace Vflow.Ipfix
open Vflow

attribute [local irreducible] Vflow.lookupElem

theorem decFields_nil (r : Rd) (acc : Record) : decFields [] r acc = (.ok acc, r) := rfl

theorem decFields_cons (f : Spec) (fs : List Spec) (r : Rd) (acc : Record) :
    decFields (f :: fs) r acc =
      match lookupElem f.ent f.id with
      | none => (.error .unknownElem, r)
      | some (fid, t) =>
        match dataLen r f.len with
        | (.error e, r1) => (.error e, r1)
        | (.ok n, r1) =>
          match r1.readN n with
          | none => (.error .short, r1)
          | some (b, r2) => decFields fs r2 (acc ++ [⟨fid, f.ent, interpret b t⟩]) := rfl

theorem minLeft_pos (ctx : Ctx) : 0 < minLeft ctx := by
  unfold minLeft minRecLen
  split
  · dsimp only; split <;> omega
  · omega

end Vflow.Ipfix
