import Vflow.Model.Shutdown
/-!
# Facts about the interleaving model of `Vflow.Model.Shutdown`

* `reachable p a` as a set: it lies inside every set that holds the initial state and is closed under the steps
  (`reachable_subset`), and it holds every state that some run reaches within the fuel of the search (`mem_reachable_of_within`).
* How the two optional timing assumptions act on the step relation, for every program: the hand-off hypothesis only guards
  a `closeQueue` statement of `shutdown()` (`reachable_handoff`); the fact about the two 1 s constants only disables a
  step (`reachable_deadlines_subset`).
* A second enumeration for the kernel (`explore`): the model's search compares whole states (fourteen fields, two of
  them numbers) some thirty thousand times per program; this one numbers the states (`St.code`) and keeps the set of
  numbers found as the bits of one `Nat`, so a membership test is one shift. `certified` checks its result, and a
  certified result has exactly the members of `reachable p a` (`mem_reachable_iff`). The `Decidable` instances at the end
  let `decide` answer `∀ s ∈ reachable p a, …` and `∃ s ∈ reachable p a, …` from it.
-/
namespace Vflow.Shutdown

theorem reach_subset {p : Prog} {a : Assume} (C : St → Prop) (hC : ∀ s, C s → ∀ t ∈ next p a s, C t) :
    ∀ n seen fr, (∀ s ∈ seen, C s) → (∀ s ∈ fr, C s) → ∀ s ∈ reach p a n seen fr, C s := by
  intro n
  induction n with
  | zero => intro seen fr hs _ s h; exact hs s h
  | succ n ih =>
    intro seen fr hs hf s h
    simp only [reach] at h
    split at h
    · exact hs s h
    · have hnew : ∀ x ∈ ((fr.flatMap (next p a)).filter (fun s => !seen.contains s)).eraseDups, C x := by
        intro x hx
        obtain ⟨y, hy, hxy⟩ := List.mem_flatMap.mp (List.mem_filter.mp (List.mem_eraseDups.mp hx)).1
        exact hC y (hf y hy) x hxy
      exact ih _ _ (fun x hx => (List.mem_append.mp hx).elim (hs x) (hnew x)) hnew s h

theorem reachable_subset {p : Prog} {a : Assume} (C : St → Prop) (h0 : C {}) (hC : ∀ s, C s → ∀ t ∈ next p a s, C t) :
    ∀ s ∈ reachable p a, C s :=
  reach_subset C hC _ _ _ (by simpa using h0) (by simpa using h0)

theorem mem_reach_of_mem_seen {p : Prog} {a : Assume} :
    ∀ n seen fr, ∀ s ∈ seen, s ∈ reach p a n seen fr := by
  intro n
  induction n with
  | zero => intro seen fr s h; exact h
  | succ n ih =>
    intro seen fr s h
    simp only [reach]
    split
    · exact h
    · exact ih _ _ s (List.mem_append.mpr (Or.inl h))

theorem init_mem_reachable (p : Prog) (a : Assume) : ({} : St) ∈ reachable p a :=
  mem_reach_of_mem_seen _ _ _ _ (by simp)

inductive Within (p : Prog) (a : Assume) : Nat → St → Prop
  | init (n) : Within p a n {}
  | step {n s t} : Within p a n s → t ∈ next p a s → Within p a (n + 1) t

/-- The search with `n` rounds to go finds what is within `n` steps of what it has found so far. Invariant of a round:
`seen` holds everything within `k` steps, and every successor of a state of `seen` that is not in the frontier. -/
theorem mem_reach_of_within {p : Prog} {a : Assume} :
    ∀ n k seen fr, (∀ s, Within p a k s → s ∈ seen) → (∀ s ∈ seen, s ∉ fr → ∀ t ∈ next p a s, t ∈ seen) →
      ∀ s, Within p a (k + n) s → s ∈ reach p a n seen fr := by
  intro n
  induction n with
  | zero => intro k seen fr hk _ s h; exact hk s h
  | succ n ih =>
    intro k seen fr hk hin s h
    simp only [reach]
    -- a successor of a state of `seen` is in `seen` or new
    have hsucc : ∀ x ∈ seen, ∀ t ∈ next p a x,
        t ∈ seen ∨ t ∈ ((fr.flatMap (next p a)).filter (fun s => !seen.contains s)).eraseDups := by
      intro x hx t ht
      by_cases hts : t ∈ seen
      · exact Or.inl hts
      · by_cases hxf : x ∈ fr
        · refine Or.inr (List.mem_eraseDups.mpr (List.mem_filter.mpr ⟨List.mem_flatMap.mpr ⟨x, hxf, ht⟩, ?_⟩))
          simpa [List.contains_iff_mem] using hts
        · exact Or.inl (hin x hx hxf t ht)
    split
    · -- nothing new: `seen` is closed under the steps, so it holds every run
      rename_i hnew
      have hclosed : ∀ m s, Within p a m s → s ∈ seen := by
        intro m s hw
        induction hw with
        | init => exact hk _ (Within.init k)
        | step _ ht ih' => exact (hsucc _ ih' _ ht).elim id (fun h' => by rw [List.isEmpty_iff.mp hnew] at h'; cases h')
      exact hclosed _ s h
    · refine ih (k + 1) _ _ ?_ ?_ s (by rwa [Nat.add_assoc, Nat.add_comm 1 n])
      · intro t ht
        cases ht with
        | init => exact List.mem_append_left _ (hk _ (Within.init k))
        | step hw hst => exact List.mem_append.mpr (hsucc _ (hk _ hw) _ hst)
      · intro x hx hxn t ht
        rcases List.mem_append.mp hx with hx | hx
        · exact List.mem_append.mpr (hsucc x hx t ht)
        · exact absurd hx hxn

theorem mem_reachable_of_within {p : Prog} {a : Assume} {s : St} (h : Within p a 64 s) : s ∈ reachable p a :=
  mem_reach_of_within 64 0 _ _ (fun s hs => by cases hs; simp) (fun s hs hn => by simp_all) s (by simpa using h)

theorem closedUnderNext_iff {p : Prog} {a : Assume} :
    closedUnderNext p a = true ↔ ∀ s ∈ reachable p a, ∀ t ∈ next p a s, t ∈ reachable p a := by
  simp only [closedUnderNext, List.all_eq_true, List.contains_iff_mem]

theorem shutdownSteps_handoff (p : Prog) (hq : SStep.closeQueue ∉ p.shutdown) (d : Bool) (s : St) :
    shutdownSteps p ⟨true, d⟩ s = shutdownSteps p ⟨false, d⟩ s := by
  unfold shutdownSteps
  cases h : p.shutdown[s.spc]? with
  | none => rfl
  | some st =>
    cases st <;> try rfl
    exact absurd (List.mem_of_getElem? h) hq

theorem next_handoff (p : Prog) (hq : SStep.closeQueue ∉ p.shutdown) (d : Bool) :
    next p ⟨true, d⟩ = next p ⟨false, d⟩ := by
  funext s; simp only [next, shutdownSteps_handoff p hq d s]

theorem reach_congr {p : Prog} {a b : Assume} (h : next p a = next p b) :
    ∀ n seen fr, reach p a n seen fr = reach p b n seen fr := by
  intro n
  induction n with
  | zero => intros; rfl
  | succ n ih => intro seen fr; simp only [reach, h, ih]

theorem reachable_handoff (p : Prog) (hq : SStep.closeQueue ∉ p.shutdown) (d : Bool) :
    reachable p ⟨true, d⟩ = reachable p ⟨false, d⟩ ∧ ∀ s, next p ⟨true, d⟩ s = next p ⟨false, d⟩ s :=
  ⟨reach_congr (next_handoff p hq d) _ _ _, fun s => congrFun (next_handoff p hq d) s⟩

theorem shutdownSteps_deadlines (p : Prog) (h : Bool) (s t : St) (ht : t ∈ shutdownSteps p ⟨h, true⟩ s) :
    t ∈ shutdownSteps p ⟨h, false⟩ s := by
  unfold shutdownSteps at ht ⊢
  cases hs : p.shutdown[s.spc]? with
  | none => simp [hs] at ht
  | some st =>
    cases st <;> simp only [hs] at ht ⊢ <;> try exact ht
    -- sleep1s: with the assumption the step is either disabled or the one taken without it
    split at ht
    · simp at ht
    · simpa using ht

theorem next_deadlines (p : Prog) (h : Bool) (s t : St) (ht : t ∈ next p ⟨h, true⟩ s) : t ∈ next p ⟨h, false⟩ s := by
  simp only [next, List.mem_append] at ht ⊢
  exact ht.imp id (shutdownSteps_deadlines p h s t)

theorem reachable_deadlines_subset (p : Prog) (h : Bool) (hc : closedUnderNext p ⟨h, false⟩ = true) :
    ∀ s ∈ reachable p ⟨h, true⟩, s ∈ reachable p ⟨h, false⟩ :=
  reachable_subset (· ∈ reachable p ⟨h, false⟩) (init_mem_reachable p _)
    fun s hs t ht => closedUnderNext_iff.mp hc s hs t (next_deadlines p h s t ht)

def RPc.code : RPc → Nat
  | .starting k => 6 * k | .atCheck => 1 | .inRead => 2 | .havePacket => 3 | .leaving k => 6 * k + 4 | .exited => 5

def RPc.ofCode (n : Nat) : RPc :=
  match n % 6 with
  | 0 => .starting (n / 6) | 1 => .atCheck | 2 => .inRead | 3 => .havePacket | 4 => .leaving (n / 6) | _ => .exited

/-- The number of a state: eleven flags, then `readsAfterStop` (two bits), `spc` (three bits), the reader's program
counter. A state whose two counters fit is the state its number stands for (`St.ofCode_code`); `certified` checks that
they do. -/
def St.code (s : St) : Nat :=
  [s.stop, s.closed, s.connClosed, s.dumped, s.dumpedAfterStop, s.panicked, s.cacheSet, s.loadedFlag, s.wiped,
    s.dumpSkipped, s.everRead].foldr (fun b n => 2 * n + b.toNat) (4 * (8 * s.rpc.code + s.spc) + s.readsAfterStop)

def St.ofCode (n : Nat) : St :=
  let r := n >>> 11
  { stop := n.testBit 0, closed := n.testBit 1, connClosed := n.testBit 2, dumped := n.testBit 3,
    dumpedAfterStop := n.testBit 4, panicked := n.testBit 5, cacheSet := n.testBit 6, loadedFlag := n.testBit 7,
    wiped := n.testBit 8, dumpSkipped := n.testBit 9, everRead := n.testBit 10,
    readsAfterStop := r % 4, spc := r / 4 % 8, rpc := RPc.ofCode (r / 32) }

theorem RPc.ofCode_code (r : RPc) : RPc.ofCode r.code = r := by
  cases r <;> simp [RPc.code, RPc.ofCode, Nat.mul_add_div, Nat.mul_mod_right]

theorem testBit_bit_zero (n : Nat) (b : Bool) : (2 * n + b.toNat).testBit 0 = b := by
  cases b <;> simp [Nat.testBit_zero]

theorem testBit_bit_succ (n k : Nat) (b : Bool) : (2 * n + b.toNat).testBit (k + 1) = n.testBit k := by
  rw [Nat.testBit_succ]; congr 1; cases b <;> simp <;> omega

theorem shiftRight_bit_succ (n k : Nat) (b : Bool) : (2 * n + b.toNat) >>> (k + 1) = n >>> k := by
  rw [Nat.shiftRight_succ_inside]; congr 1; cases b <;> simp <;> omega

theorem St.ofCode_code (s : St) (h1 : s.spc < 8) (h2 : s.readsAfterStop < 4) : St.ofCode s.code = s := by
  cases s
  simp only [St.code, St.ofCode, List.foldr_cons, List.foldr_nil, testBit_bit_zero, testBit_bit_succ, shiftRight_bit_succ,
    Nat.shiftRight_zero] at *
  congr 1
  · rename_i rpc _ spc _ _ _ _ _ reads _ _ _ _ _
    rw [show (4 * (8 * rpc.code + spc) + reads) / 32 = rpc.code by omega, RPc.ofCode_code]
  · omega
  · omega

def nextC (p : Prog) (a : Assume) (c : Nat) : List Nat := (next p a (St.ofCode c)).map St.code

def bitsOf (cs : List Nat) : Nat := cs.foldl (fun b c => b ||| 2 ^ c) 0

theorem mem_of_testBit_bitsOf {cs : List Nat} {n : Nat} (h : (bitsOf cs).testBit n = true) : n ∈ cs := by
  have key : ∀ (cs : List Nat) (b : Nat), (cs.foldl (fun b c => b ||| 2 ^ c) b).testBit n = true → b.testBit n = true ∨ n ∈ cs := by
    intro cs
    induction cs with
    | nil => intro b h; exact Or.inl h
    | cons c cs ih =>
      intro b h
      rcases ih _ h with h | h
      · rw [Nat.testBit_or, Bool.or_eq_true, Nat.testBit_two_pow, decide_eq_true_eq] at h
        exact h.imp id (fun (hc : c = n) => hc ▸ List.mem_cons_self)
      · exact Or.inr (List.mem_cons_of_mem _ h)
  simpa using key cs 0 h

/-- the search of the model over numbers: `seen` in the order found, `bits` the same set, `frontier` the last round -/
def exploreC (p : Prog) (a : Assume) : Nat → List Nat → Nat → List Nat → List Nat
  | 0, seen, _, _ => seen
  | fuel + 1, seen, bits, frontier =>
    let new := ((frontier.flatMap (nextC p a)).filter (fun c => !bits.testBit c)).eraseDups
    if new.isEmpty then seen else exploreC p a fuel (seen ++ new) (new.foldl (fun b c => b ||| 2 ^ c) bits) new

def explore (p : Prog) (a : Assume) : List Nat :=
  exploreC p a 64 [St.code {}] (2 ^ St.code {}) [St.code {}]

/-- `cs` starts with the initial state and holds, for each of its members, the numbers of all successors, whose counters fit -/
def certified (p : Prog) (a : Assume) (cs : List Nat) : Bool :=
  cs.head? == some (St.code {}) &&
  cs.all fun c => (next p a (St.ofCode c)).all fun t =>
    (bitsOf cs).testBit t.code && decide (t.spc < 8) && decide (t.readsAfterStop < 4)

theorem of_certified {p : Prog} {a : Assume} {cs : List Nat} (h : certified p a cs = true) :
    St.code {} ∈ cs ∧ ∀ c ∈ cs, ∀ t ∈ next p a (St.ofCode c), t.code ∈ cs ∧ St.ofCode t.code = t := by
  simp only [certified, Bool.and_eq_true, List.all_eq_true, beq_iff_eq, decide_eq_true_eq] at h
  exact ⟨List.mem_of_mem_head? (by rw [h.1]; rfl), fun c hc t ht =>
    ⟨mem_of_testBit_bitsOf (h.2 c hc t ht).1.1, St.ofCode_code t (h.2 c hc t ht).1.2 (h.2 c hc t ht).2⟩⟩

/-- a number that `exploreC` may hold after `n` rounds -/
inductive WithinC (p : Prog) (a : Assume) : Nat → Nat → Prop
  | init (n) : WithinC p a n (St.code {})
  | step {n c d} : WithinC p a n c → d ∈ nextC p a c → WithinC p a (n + 1) d

theorem WithinC.succ {p : Prog} {a : Assume} {n c : Nat} (h : WithinC p a n c) : WithinC p a (n + 1) c := by
  induction h with
  | init n => exact .init _
  | step _ hd ih => exact .step ih hd

theorem exploreC_within {p : Prog} {a : Assume} :
    ∀ n k seen bits fr, (∀ c ∈ seen, WithinC p a k c) → (∀ c ∈ fr, WithinC p a k c) →
      ∀ c ∈ exploreC p a n seen bits fr, WithinC p a (k + n) c := by
  intro n
  induction n with
  | zero => intro k seen bits fr hs _ c h; exact hs c h
  | succ n ih =>
    intro k seen bits fr hs hf c h
    have mono : ∀ m c, WithinC p a k c → WithinC p a (k + m) c := by
      intro m c hc; induction m with
      | zero => exact hc
      | succ m ihm => exact ihm.succ
    simp only [exploreC] at h
    split at h
    · exact mono _ c (hs c h)
    · have hnew : ∀ x ∈ ((fr.flatMap (nextC p a)).filter (fun c => !bits.testBit c)).eraseDups, WithinC p a (k + 1) x := by
        intro x hx
        obtain ⟨y, hy, hxy⟩ := List.mem_flatMap.mp (List.mem_filter.mp (List.mem_eraseDups.mp hx)).1
        exact .step (hf y hy) hxy
      have := ih (k + 1) _ _ _ (fun x hx => (List.mem_append.mp hx).elim (fun h => (hs x h).succ) (hnew x)) hnew c h
      rwa [Nat.add_assoc, Nat.add_comm 1 n] at this

theorem mem_reachable_iff {p : Prog} {a : Assume} (h : certified p a (explore p a) = true) (s : St) :
    s ∈ reachable p a ↔ ∃ c ∈ explore p a, St.ofCode c = s := by
  obtain ⟨hmem0, hcl⟩ := of_certified h
  have h0 : St.ofCode (St.code {}) = ({} : St) := St.ofCode_code _ (by decide) (by decide)
  constructor
  · refine reachable_subset (fun s => ∃ c ∈ explore p a, St.ofCode c = s) ⟨_, hmem0, h0⟩ ?_ s
    rintro s ⟨c, hc, rfl⟩ t ht
    exact ⟨t.code, hcl c hc t ht⟩
  · rintro ⟨c, hc, rfl⟩
    have hw : WithinC p a 64 c := by
      have := exploreC_within (p := p) (a := a) 64 0 _ _ _ (fun c hc => by simp at hc; exact hc ▸ .init 0)
        (fun c hc => by simp at hc; exact hc ▸ .init 0) c hc
      simpa using this
    -- along a run of numbers, each number is in the result and stands for the state the run reaches
    have key : ∀ n c, WithinC p a n c → c ∈ explore p a ∧ Within p a n (St.ofCode c) := by
      intro n c hw
      induction hw with
      | init n => exact ⟨hmem0, h0 ▸ Within.init n⟩
      | step _ hd ih =>
        obtain ⟨t, ht, rfl⟩ := List.mem_map.mp hd
        obtain ⟨hb, hrt⟩ := hcl _ ih.1 t ht
        exact ⟨hb, hrt.symm ▸ Within.step ih.2 ht⟩
    exact mem_reachable_of_within (key 64 c hw).2

theorem closedUnderNext_of_certified {p : Prog} {a : Assume} (h : certified p a (explore p a) = true) :
    closedUnderNext p a = true := by
  refine closedUnderNext_iff.mpr fun s hs t ht => ?_
  obtain ⟨c, hc, rfl⟩ := (mem_reachable_iff h _).mp hs
  exact (mem_reachable_iff h t).mpr ⟨t.code, (of_certified h).2 c hc t ht⟩

/-- `decide` on a statement about all reachable states goes through the enumeration over numbers when it is certified
(and through the model's list otherwise) -/
instance (priority := high) decidableForallReachable (p : Prog) (a : Assume) (P : St → Prop) [DecidablePred P] :
    Decidable (∀ s, s ∈ reachable p a → P s) :=
  if h : certified p a (explore p a) = true then
    decidable_of_iff (∀ c ∈ explore p a, P (St.ofCode c))
      ⟨fun hc s hs => by obtain ⟨c, hc', rfl⟩ := (mem_reachable_iff h s).mp hs; exact hc c hc',
       fun hs c hc => hs _ ((mem_reachable_iff h _).mpr ⟨c, hc, rfl⟩)⟩
  else List.decidableBAll P (reachable p a)

instance (priority := high) decidableExistsReachable (p : Prog) (a : Assume) (P : St → Prop) [DecidablePred P] :
    Decidable (∃ s, s ∈ reachable p a ∧ P s) :=
  if h : certified p a (explore p a) = true then
    decidable_of_iff (∃ c ∈ explore p a, P (St.ofCode c))
      ⟨fun ⟨c, hc, hp⟩ => ⟨_, (mem_reachable_iff h _).mpr ⟨c, hc, rfl⟩, hp⟩,
       fun ⟨s, hs, hp⟩ => by obtain ⟨c, hc, rfl⟩ := (mem_reachable_iff h s).mp hs; exact ⟨c, hc, hp⟩⟩
  else List.decidableBEx P (reachable p a)

end Vflow.Shutdown
