import Vflow.Proofs.IpfixIRSet
import Vflow.Proofs.TruncIpfix
/-!
# The translated `Decoder.Decode` is `Ipfix.decode`

`dc_loop5` is the loop lemma of `Decode` (`for d.reader.Len() > 4`) against `Ipfix.outer`, an instance of
`OuterLoop.loopF_eq`: a round that continues has consumed the 4-octet set header; the invariant `Ipfix.Inv` (position
accounting, every cached template smaller than the fuel) is the one the allocation bound of C02 already maintains.
-/
namespace Vflow.IpfixIR
open Vflow
attribute [local irreducible] Vflow.lookupElem

/-! ## `Decode` -/

def dc (i : Nat) : Stmt := Gen.IpfixIR.decode.body.nth i
theorem dc_body : Gen.IpfixIR.decode.body = blk ([dc 0, dc 1, dc 2, dc 3, dc 4] ++ dc 5 :: [dc 6]) := rfl
theorem dc5_shape : dc 5 = .loop (dc 5).loopCond (dc 5).loopBody .skip := rfl

/-- the collected non-fatal errors as Go values -/
def nfErrs (errs : List Err) : List GErr := errs.map fun e => ⟨true, e⟩

section
variable (addr : Bytes) (fuel : Nat)

abbrev dcLink : Linkage :=
  [("msgHeaderUnmarshal", IpfixProg.msgHeaderUnmarshal addr fuel), ("msgHeaderValidate", IpfixProg.msgHeaderValidate addr fuel),
   ("decodeSet", IpfixProg.decodeSet addr fuel)]

variable (agent : Bytes) (hdr : MHdr)

/-- the locals of `Decode` in its loop: `msg`, the two header `err`s (nil), `decodeErrors`, the loop's `err` -/
def dcEnv (recs : List Record) (errs : List Err) (e4 : V) : Env :=
  [.msg agent hdr recs, .nil, .nil, .errs (nfErrs errs), e4]

theorem dc_body5 (st : Ipfix.St) (f' K : Nat) (errs : List Err) (e4 : V)
    (hfuel : st.r.rem.length < fuel) (hf' : st.r.rem.length < f') (hc : Ipfix.CacheB K st.cache) (hK : K < fuel) :
    exec addr (dcLink addr fuel) fuel (dc 5).loopBody (stOf st) (dcEnv agent hdr st.recs errs e4) =
      match Ipfix.decodeSet addr f' st with
      | (st', none) => some (.norm, stOf st', dcEnv agent hdr st'.recs errs .nil)
      | (st', some e) =>
        if Ipfix.nonfatalErr e then some (.norm, stOf st', dcEnv agent hdr st'.recs (errs ++ [e]) (.err ⟨true, e⟩))
        else some (.ret [.nil, .err ⟨false, e⟩], stOf st', dcEnv agent hdr st'.recs errs (.err ⟨false, e⟩)) := by
  have hs := decodeSet_sem addr fuel f' K st agent hdr hfuel hf' hc hK
  rcases hd : Ipfix.decodeSet addr f' st with ⟨st', _ | e⟩ <;> simp only [hd] at hs ⊢
  · ir_simp [dc, dcEnv, Gen.IpfixIR.decode, hs]
  · by_cases hn : Ipfix.nonfatalErr e = true
    · ir_simp [dc, dcEnv, Gen.IpfixIR.decode, hs, hn, nfErrs, List.map_append, List.map_cons, List.map_nil]
    · ir_simp [dc, dcEnv, Gen.IpfixIR.decode, hs, hn]

/-- a set that does not fail for lack of octets has consumed its header -/
theorem dc_loop5 (K L : Nat) (hKL : L / 4 ≤ K) (hK : K < fuel) (k k' : Nat) (st : Ipfix.St) (errs : List Err) (e4 : V)
    (hk : st.r.rem.length < k) (hk' : st.r.rem.length < k') (hfuel : st.r.rem.length < fuel) (hinv : Ipfix.Inv K L st) :
    SetsOut stOf (fun st => dcEnv agent hdr st.recs) (Ipfix.outer addr k' st errs)
      (loopF (fun st env => eval addr st env (dc 5).loopCond) (exec addr (dcLink addr fuel) fuel (dc 5).loopBody)
        (exec addr (dcLink addr fuel) fuel .skip) k (stOf st) (dcEnv agent hdr st.recs errs e4)) := by
  refine (Ipfix.outer_loop addr).loopF_eq stOf (fun st => dcEnv agent hdr st.recs)
    (fun st => st.r.rem.length < fuel ∧ Ipfix.Inv K L st) (fun _ _ => exec_skip) ?_ ?_ ?_ k k' st errs e4 hk hk' ⟨hfuel, hinv⟩
  · intros; ir_simp [dc, dcEnv, Gen.IpfixIR.decode]
  · intro st errs e4 hi
    have hb := dc_body5 addr fuel agent hdr st (st.r.rem.length + 1) K errs e4 hi.1 (Nat.lt_succ_self _) hi.2.2.1 hK
    rcases hd : Ipfix.decodeSet addr (st.r.rem.length + 1) st with ⟨st', _ | e⟩ <;> simp only [hd] at hb ⊢ <;> exact hb
  · intro st st' e hi _ hd hf
    have t1 := Ipfix.decodeSet_fuel (Nat.lt_succ_self _) hd
    have hlt : st'.r.rem.length < st.r.rem.length :=
      t1.2.1.1.rem_lt (Nat.ne_of_gt (Nat.lt_of_lt_of_le (Nat.lt_add_of_pos_right (by decide))
        (t1.2.2.resolve_left (fun h0 => by rw [h0] at hf; cases hf))))
    exact ⟨hlt, Nat.lt_trans hlt hi.1, Ipfix.decodeSet_inv hKL hi.2 hd⟩
end

theorem ofHdr_toHdr (h : MHdr) : MHdr.ofHdr h.toHdr = h := rfl

theorem decode_sem (c : Cache) (addr bs : Bytes) (fuel : Nat) (hfuel : bs.length < fuel)
    (hc : ∀ e ∈ c, e.2.scope.length + e.2.fields.length < fuel) :
    ∃ r', IpfixProg.decode addr fuel [] ⟨⟨bs, 0⟩, c⟩ =
      some (⟨r', (Ipfix.decode c addr bs).2⟩, [], IpfixProg.decodeResult addr (Ipfix.decode c addr bs).1) := by
  rw [IpfixProg.decode, Func.sem_eq (env0 := List.replicate 5 .unset) rfl rfl, dc_body, Ipfix.decode]
  have hmh := msgHeaderUnmarshal_sem addr fuel ⟨bs, 0⟩ c {}
  rcases hrh : Ipfix.readHeader ⟨bs, 0⟩ with _ | ⟨h, r5⟩ <;> simp only [hrh] at hmh ⊢
  · obtain ⟨r', h1, hmh⟩ := hmh
    exact ⟨r', by ir_simp [dc, Gen.IpfixIR.decode, hmh, IpfixProg.decodeResult]⟩
  obtain ⟨h1, hh1, hmh⟩ := hmh
  have hval := msgHeaderValidate_sem addr fuel ⟨r5, c⟩ h1
  rw [hh1] at hval
  by_cases hv : h.headD 0 ≠ 10
  · rw [if_pos hv] at hval ⊢
    exact ⟨r5, by ir_simp [dc, Gen.IpfixIR.decode, hmh, hval, IpfixProg.decodeResult]⟩
  rw [if_neg hv] at hval ⊢
  have pre : exec addr (dcLink addr fuel) fuel (blk [dc 0, dc 1, dc 2, dc 3, dc 4]) ⟨⟨bs, 0⟩, c⟩ (List.replicate 5 .unset) =
      some (.norm, ⟨r5, c⟩, dcEnv addr h1 [] [] .unset) := by
    ir_simp [dc, dcEnv, nfErrs, Gen.IpfixIR.decode, hmh, hval, List.map_nil]
  have ha := Ipfix.readHeader_adv hrh
  have hlen : r5.rem.length ≤ bs.length := ha.rem_le
  have hcb : Ipfix.CacheB (fuel - 1) c := fun e he => Nat.le_pred_of_lt (hc e he)
  have hl := dc_loop5 addr fuel addr h1 (fuel - 1) bs.length (Nat.le_trans (Nat.div_le_self _ _) (Nat.le_pred_of_lt hfuel))
    (Nat.pred_lt (Nat.ne_of_gt (Nat.zero_lt_of_lt hfuel))) fuel (bs.length + 1) ⟨r5, c, []⟩ [] .unset
    (Nat.lt_of_le_of_lt hlen hfuel) (Nat.lt_succ_of_le hlen) (Nat.lt_of_le_of_lt hlen hfuel)
    ⟨ha.1.trans (Nat.zero_add _), hcb, fun _ h => absurd h List.not_mem_nil⟩
  rw [exec_blk_append_norm _ pre, exec_blk_cons, dc5_shape, exec_loop]
  rcases ho : Ipfix.outer addr (bs.length + 1) ⟨r5, c, []⟩ [] with ⟨st', _ | e, errs'⟩ <;> simp only [ho, SetsOut] at hl ⊢
  · obtain ⟨e4', hl⟩ := hl
    refine ⟨st'.r, ?_⟩
    simp only [hl]
    ir_simp [dc, dcEnv, nfErrs, Gen.IpfixIR.decode, IpfixProg.decodeResult, ← hh1, ofHdr_toHdr]
  · obtain ⟨env', hl⟩ := hl
    refine ⟨st'.r, ?_⟩
    simp only [hl]
    ir_simp [Gen.IpfixIR.decode, IpfixProg.decodeResult]

end Vflow.IpfixIR
