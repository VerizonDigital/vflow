import Vflow.Proofs.IpfixIRTpl
import Vflow.Proofs.AllocIpfix
/-!
# The translated `Decoder.decodeSet` is `Ipfix.decodeSet`

`setIter` is one round of the model's record loop.  The translated loop body is one `if` chain on the set id: its
three tests are evaluated once and each branch is run on its own.  The loop lemma is an induction on the interpreter's
fuel with the model's fuel carried along, both only required to exceed the octets left (a round that continues consumes
at least one octet).
-/
namespace Vflow.IpfixIR
open Vflow
attribute [local irreducible] Vflow.lookupElem

/-! ## `decodeSet` -/

def ds (i : Nat) : Stmt := Gen.IpfixIR.decodeSet.body.nth i
theorem ds_body : Gen.IpfixIR.decodeSet.body =
    blk [ds 0, ds 1, ds 2, ds 3, ds 4, ds 5, ds 6, ds 7, ds 8, ds 9, ds 10, ds 11, ds 12] := rfl
theorem ds9_shape : ds 9 = .loop (ds 9).loopCond (ds 9).loopBody .skip := rfl

/-- how one round of the record loop ends: the next round, or the end of the loop with `err` (`direct`: by a `return`) -/
inductive IterOut where
  | cont (st : Ipfix.St)
  | stop (st : Ipfix.St) (e : Option Err) (direct : Bool)

/-- one round of `Ipfix.setLoop` (after the loop condition) -/
def setIter (ctx : Ipfix.Ctx) (st : Ipfix.St) : IterOut :=
  if ctx.setId = 2 ∨ ctx.setId = 3 then
    if st.r.peek16 = some 0 then .stop st none false else
    match (if ctx.setId = 2 then Ipfix.parseTpl st.r else Ipfix.parseOptTpl st.r) with
    | (.ok t, r') => .cont { st with r := r', cache := st.cache.insert ctx.addr t.tid t }
    | (.error e, r') => .stop { st with r := r' } (some e) false
  else if 4 ≤ ctx.setId ∧ ctx.setId ≤ 255 then .stop st none false
  else if ctx.setId = 0 then .stop st (some .invalidSet) true
  else
    match Ipfix.decodeData ctx.tr st.r with
    | (.ok fs, r') =>
      if r'.cnt = st.r.cnt then .stop { st with r := r' } (some .zeroRec) false
      else .cont { st with r := r', recs := st.recs ++ [fs] }
    | (.error e, r') =>
      if Ipfix.nonfatalErr e then .stop { st with r := r' } (some e) false else .stop { st with r := r' } (some e) true

theorem setLoop_succ (ctx : Ipfix.Ctx) (k : Nat) (st : Ipfix.St) :
    Ipfix.setLoop ctx (k + 1) st =
      if Ipfix.contCond ctx st.r then
        match setIter ctx st with
        | .cont st' => Ipfix.setLoop ctx k st'
        | .stop st' e d => (st', e, d)
      else (st, none, false) := by
  rw [Ipfix.setLoop, setIter]
  by_cases hc : Ipfix.contCond ctx st.r = true
  · rw [if_pos hc, if_pos hc]
    by_cases h23 : ctx.setId = 2 ∨ ctx.setId = 3
    · rw [if_pos h23, if_pos h23]
      by_cases hp : st.r.peek16 = some 0
      · rw [if_pos hp, if_pos hp]
      · rw [if_neg hp, if_neg hp]
        rcases (if ctx.setId = 2 then Ipfix.parseTpl st.r else Ipfix.parseOptTpl st.r) with ⟨e | t, r'⟩ <;> rfl
    · rw [if_neg h23, if_neg h23]
      by_cases h4 : 4 ≤ ctx.setId ∧ ctx.setId ≤ 255
      · rw [if_pos h4, if_pos h4]
      · rw [if_neg h4, if_neg h4]
        by_cases h0 : ctx.setId = 0
        · rw [if_pos h0, if_pos h0]
        · rw [if_neg h0, if_neg h0]
          rcases Ipfix.decodeData ctx.tr st.r with ⟨e | fs, r'⟩
          · by_cases hn : Ipfix.nonfatalErr e = true
            · simp only [hn, if_true]
            · simp only [hn, Bool.false_eq_true, if_false]
          · by_cases hz : r'.cnt = st.r.cnt
            · simp only [hz, if_true]
            · simp only [hz, if_false]
  · rw [if_neg hc, if_neg hc]

section
variable (ctx : Ipfix.Ctx) (st : Ipfix.St)

theorem setIter_tpl2 (h : ctx.setId = 2) :
    setIter ctx st =
      if st.r.peek16 = some 0 then .stop st none false else
      match Ipfix.parseTpl st.r with
      | (.ok t, r') => .cont { st with r := r', cache := st.cache.insert ctx.addr t.tid t }
      | (.error e, r') => .stop { st with r := r' } (some e) false := by
  simp only [setIter, h, true_or, if_true]

theorem setIter_tpl3 (h : ctx.setId = 3) :
    setIter ctx st =
      if st.r.peek16 = some 0 then .stop st none false else
      match Ipfix.parseOptTpl st.r with
      | (.ok t, r') => .cont { st with r := r', cache := st.cache.insert ctx.addr t.tid t }
      | (.error e, r') => .stop { st with r := r' } (some e) false := by
  simp only [setIter, h, or_true, if_true, Nat.reduceEqDiff, if_false]

theorem setIter_reserved (h : 4 ≤ ctx.setId ∧ ctx.setId ≤ 255) : setIter ctx st = .stop st none false := by
  rw [setIter, if_neg (by omega), if_pos h]

theorem setIter_zero (h : ctx.setId = 0) : setIter ctx st = .stop st (some .invalidSet) true := by
  rw [setIter, if_neg (by omega), if_neg (by omega), if_pos h]

theorem setIter_data (h : ctx.setId = 1 ∨ 255 < ctx.setId) :
    setIter ctx st =
      match Ipfix.decodeData ctx.tr st.r with
      | (.ok fs, r') =>
        if r'.cnt = st.r.cnt then .stop { st with r := r' } (some .zeroRec) false
        else .cont { st with r := r', recs := st.recs ++ [fs] }
      | (.error e, r') =>
        if Ipfix.nonfatalErr e then .stop { st with r := r' } (some e) false else .stop { st with r := r' } (some e) true := by
  rw [setIter, if_neg (by omega), if_neg (by omega), if_neg (by omega)]
end

section
variable (addr : Bytes) (fuel : Nat)

abbrev dsLink : Linkage :=
  [("setHeaderUnmarshal", IpfixProg.setHeaderUnmarshal addr fuel), ("minRecordLen", IpfixProg.minRecordLen addr fuel),
   ("tplRecordUnmarshal", IpfixProg.tplRecordUnmarshal addr fuel), ("tplRecordUnmarshalOpts", IpfixProg.tplRecordUnmarshalOpts addr fuel),
   ("decodeData", IpfixProg.decodeData addr fuel)]

abbrev stOf (st : Ipfix.St) : St := ⟨st.r, st.cache⟩

/-- the slots of `decodeSet` that are dead between two rounds of the record loop: `setID`, `templateID`, its `err`, the
inner `tr`, `data`, `recordStart` -/
abbrev Dead := V × V × V × V × V × V

/-- the locals of `decodeSet` while the record loop runs: `msg`, `startCount`, `setHeader`, the header `err` (nil), `tr`,
`err`, `ok`, `minLen`, the six dead slots `j`, `leftoverBytes` and `skipErr` (not yet declared) -/
abbrev dsEnv (agent : Bytes) (hdr : MHdr) (recs : List Record) (ctx : Ipfix.Ctx) (err ok : V) (j : Dead) : Env :=
  [.msg agent hdr recs, .int ctx.start, .shdr ctx.setId ctx.len, .nil, .tpl ctx.tr, err, ok, .int (Ipfix.minLeft ctx),
   j.1, j.2.1, j.2.2.1, j.2.2.2.1, j.2.2.2.2.1, j.2.2.2.2.2, .unset, .unset]

/-- a `return`: the results, the decoder state and the by-pointer `msg` in slot 0 (the other locals are dead) -/
def RetOut (out : Res) (vs : List V) (s : St) (m : V) : Prop :=
  out.map (fun p => (p.1, p.2.1, p.2.2[0]?)) = some (.ret vs, s, some m)

/-- outcome of the translated loop body for one round of the model.  A round that sets `err` without returning either
breaks or ends normally; in the second case the loop condition (`err == nil && …`) fails at its next test. -/
def DsBodyOut (agent : Bytes) (hdr : MHdr) (ctx : Ipfix.Ctx) (ok : V) (it : IterOut) (out : Res) : Prop :=
  match it with
  | .cont st' => ∃ j, out = some (.norm, stOf st', dsEnv agent hdr st'.recs ctx .nil ok j)
  | .stop st' none d => d = false ∧ ∃ j, out = some (.brk, stOf st', dsEnv agent hdr st'.recs ctx .nil ok j)
  | .stop st' (some e) false => ∃ j,
      out = some (.brk, stOf st', dsEnv agent hdr st'.recs ctx (IpfixProg.errV (some e)) ok j) ∨
      out = some (.norm, stOf st', dsEnv agent hdr st'.recs ctx (IpfixProg.errV (some e)) ok j)
  | .stop st' (some e) true => RetOut out [IpfixProg.errV (some e)] (stOf st') (.msg agent hdr st'.recs)

/-! ### the loop body, branch by branch

The body is one statement, `dsb`: `if setID := setHeader.SetID; setID == 2 || setID == 3 { template records } else
{ dsc }`, with `dsc`: `if setID >= 4 && setID <= 255 { break } else { dsd }` and `dsd`: `if setID == 0 { return … } else
{ data records }`.  The three conditions are evaluated once; each branch is run from the locals the tests leave. -/

def dsb : Stmt := (ds 9).loopBody.nth 0
theorem ds9_loopBody : (ds 9).loopBody = blk [dsb] := rfl
theorem dsb_shape : dsb = .ite dsb.init dsb.cond dsb.thn dsb.els := rfl
def dsc : Stmt := dsb.els.nth 0
theorem dsb_els : dsb.els = blk [dsc] := rfl
theorem dsc_shape : dsc = .ite .skip dsc.cond dsc.thn dsc.els := rfl
def dsd : Stmt := dsc.els.nth 0
theorem dsc_els : dsc.els = blk [dsd] := rfl
theorem dsd_shape : dsd = .ite .skip dsd.cond dsd.thn dsd.els := rfl
/-- the four statements of the template branch: the padding test, `tr := TemplateRecord{}`, `unmarshal` /
`unmarshalOpts`, `mem.insert` -/
def dst (i : Nat) : Stmt := dsb.thn.nth i
theorem dsb_thn : dsb.thn = blk [dst 0, dst 1, dst 2, dst 3] := rfl

section
variable (agent : Bytes) (hdr : MHdr) (ctx : Ipfix.Ctx) (st : Ipfix.St) (ok : V) (j : Dead)
-- in this section `ir_simp` unfolds the parts of `decodeSet` and its locals
attribute [local ir] dsEnv dst dsd dsc dsb ds Gen.IpfixIR.decodeSet

abbrev dsEnvId (recs : List Record) (err : V) : Env := dsEnv agent hdr recs ctx err ok (.int ctx.setId, j.2)

theorem dsb_init (s : St) :
    exec addr (dsLink addr fuel) fuel dsb.init s (dsEnv agent hdr st.recs ctx .nil ok j) =
      some (.norm, s, dsEnvId agent hdr ctx ok j st.recs .nil) := by
  ir_simp []

theorem dsb_cond (s : St) : eval addr s (dsEnvId agent hdr ctx ok j st.recs .nil) dsb.cond =
    some (.bool (decide (ctx.setId = 2) || decide (ctx.setId = 3))) := by
  ir_simp []

theorem dsc_cond (s : St) : eval addr s (dsEnvId agent hdr ctx ok j st.recs .nil) dsc.cond =
    some (.bool (decide (4 ≤ ctx.setId) && decide (ctx.setId ≤ 255))) := by
  ir_simp []

theorem dsd_cond (s : St) : eval addr s (dsEnvId agent hdr ctx ok j st.recs .nil) dsd.cond =
    some (.bool (decide (ctx.setId = 0))) := by
  ir_simp []

theorem exec_dst0 : exec addr (dsLink addr fuel) fuel (dst 0) (stOf st) (dsEnvId agent hdr ctx ok j st.recs .nil) =
    if st.r.peek16 = some 0 then
      some (.brk, stOf st, dsEnv agent hdr st.recs ctx .nil ok (.int ctx.setId, .int 0, .nil, j.2.2.2))
    else some (.norm, stOf st, dsEnv agent hdr st.recs ctx .nil ok
      (.int ctx.setId, .int (st.r.peek16.getD 0), if st.r.peek16 = none then errReader else .nil, j.2.2.2)) := by
  rcases hp : st.r.peek16 with _ | v
  · ir_simp [hp]
  · by_cases hv : v = 0 <;> ir_simp [hp, hv, Option.some.injEq]

theorem exec_dst12 (h : ctx.setId = 2 ∨ ctx.setId = 3) (hfuel : st.r.rem.length < fuel) (j9 j10 : V) :
    ∃ t', exec addr (dsLink addr fuel) fuel (blk [dst 1, dst 2]) (stOf st)
        (dsEnv agent hdr st.recs ctx .nil ok (.int ctx.setId, j9, j10, j.2.2.2)) =
      match (if ctx.setId = 2 then Ipfix.parseTpl st.r else Ipfix.parseOptTpl st.r) with
      | (.ok t, r') => some (.norm, ⟨r', st.cache⟩,
          dsEnv agent hdr st.recs ctx .nil ok (.int ctx.setId, j9, j10, .tpl t, j.2.2.2.2))
      | (.error _, r') => some (.norm, ⟨r', st.cache⟩,
          dsEnv agent hdr st.recs ctx errReader ok (.int ctx.setId, j9, j10, .tpl t', j.2.2.2.2)) := by
  rcases h with h | h
  · have ht := tplRecordUnmarshal_sem addr fuel st.r st.cache hfuel
    rw [if_pos h]
    rcases hpt : Ipfix.parseTpl st.r with ⟨e | t, r'⟩ <;> simp only [hpt, TplOut, Ipfix.emptyTpl] at ht ⊢
    · have he := Ipfix.parseTpl_err hpt; subst he
      obtain ⟨t', ht⟩ := ht
      exact ⟨t', by ir_simp [h, ht]⟩
    · exact ⟨t, by ir_simp [h, ht]⟩
  · have ht := tplRecordUnmarshalOpts_sem addr fuel st.r st.cache hfuel
    rw [if_neg (by omega)]
    rcases hpt : Ipfix.parseOptTpl st.r with ⟨e | t, r'⟩ <;> simp only [hpt, TplOut, Ipfix.emptyTpl] at ht ⊢
    · have he := Ipfix.parseOptTpl_err hpt; subst he
      obtain ⟨t', ht⟩ := ht
      exact ⟨t', by ir_simp [h, ht]⟩
    · exact ⟨t, by ir_simp [h, ht]⟩

theorem exec_dst3_nil (s : St) (t : Template) (j' : Dead) (hj : j'.2.2.2.1 = .tpl t) :
    exec addr (dsLink addr fuel) fuel (dst 3) s (dsEnv agent hdr st.recs ctx .nil ok j') =
      some (.norm, { s with cache := s.cache.insert addr t.tid t }, dsEnv agent hdr st.recs ctx .nil ok j') := by
  ir_simp [hj]

theorem exec_dst3_err (s : St) (g : GErr) (j' : Dead) :
    exec addr (dsLink addr fuel) fuel (dst 3) s (dsEnv agent hdr st.recs ctx (.err g) ok j') =
      some (.norm, s, dsEnv agent hdr st.recs ctx (.err g) ok j') := by
  ir_simp []

theorem ds_tpl (h : ctx.setId = 2 ∨ ctx.setId = 3) (haddr : ctx.addr = addr) (hfuel : st.r.rem.length < fuel) :
    DsBodyOut agent hdr ctx ok
      (if st.r.peek16 = some 0 then .stop st none false else
        match (if ctx.setId = 2 then Ipfix.parseTpl st.r else Ipfix.parseOptTpl st.r) with
        | (.ok t, r') => .cont { st with r := r', cache := st.cache.insert ctx.addr t.tid t }
        | (.error e, r') => .stop { st with r := r' } (some e) false)
      (exec addr (dsLink addr fuel) fuel dsb.thn (stOf st) (dsEnvId agent hdr ctx ok j st.recs .nil)) := by
  rw [dsb_thn, exec_blk_cons, exec_dst0]
  by_cases hp : st.r.peek16 = some 0
  · rw [if_pos hp, if_pos hp]
    exact ⟨rfl, _, rfl⟩
  rw [if_neg hp, if_neg hp]
  obtain ⟨t', h12⟩ := exec_dst12 addr fuel agent hdr ctx st ok j h hfuel (.int (st.r.peek16.getD 0))
    (if st.r.peek16 = none then errReader else .nil)
  have herr : ∀ {e r'}, (if ctx.setId = 2 then Ipfix.parseTpl st.r else Ipfix.parseOptTpl st.r) = (.error e, r') → e = .short := by
    intro e r' hpt
    by_cases h2 : ctx.setId = 2
    · rw [if_pos h2] at hpt; exact Ipfix.parseTpl_err hpt
    · rw [if_neg h2] at hpt; exact Ipfix.parseOptTpl_err hpt
  simp only []
  rw [show [dst 1, dst 2, dst 3] = [dst 1, dst 2] ++ [dst 3] from rfl, exec_blk_append, h12]
  rcases hpt : (if ctx.setId = 2 then Ipfix.parseTpl st.r else Ipfix.parseOptTpl st.r) with ⟨e | t, r'⟩ <;>
    simp only [DsBodyOut]
  · have he := herr hpt; subst he
    exact ⟨_, .inr (by rw [exec_blk_one, errReader, exec_dst3_err]; rfl)⟩
  · exact ⟨_, by rw [exec_blk_one, exec_dst3_nil addr fuel agent hdr ctx st ok _ t _ rfl, haddr]⟩

theorem ds_data (hs : ctx.tr.scope.length < fuel) (hf : ctx.tr.fields.length < fuel) :
    DsBodyOut agent hdr ctx ok
      (match Ipfix.decodeData ctx.tr st.r with
        | (.ok fs, r') =>
          if r'.cnt = st.r.cnt then .stop { st with r := r' } (some .zeroRec) false
          else .cont { st with r := r', recs := st.recs ++ [fs] }
        | (.error e, r') =>
          if Ipfix.nonfatalErr e then .stop { st with r := r' } (some e) false else .stop { st with r := r' } (some e) true)
      (exec addr (dsLink addr fuel) fuel dsd.els (stOf st) (dsEnvId agent hdr ctx ok j st.recs .nil)) := by
  have hdd := decodeData_sem addr fuel st.r st.cache ctx.tr hs hf
  rcases hd : Ipfix.decodeData ctx.tr st.r with ⟨e | fs, r'⟩ <;> simp only [hd, recResult_ok, recResult_error] at hdd ⊢
  · by_cases hn : Ipfix.nonfatalErr e = true
    · rw [if_pos hn]
      exact ⟨(.int ctx.setId, j.2.1, j.2.2.1, j.2.2.2.1, .nil, .int st.r.cnt), .inr
        (by ir_simp [hdd, hn])⟩
    · rw [if_neg hn]
      simp only [DsBodyOut, RetOut]
      ir_simp [hdd, hn]
  · by_cases hz : r'.cnt = st.r.cnt
    · rw [if_pos hz]
      exact ⟨(.int ctx.setId, j.2.1, j.2.2.1, j.2.2.2.1, .drec fs, .int st.r.cnt), .inl
        (by ir_simp [hdd, hz])⟩
    · rw [if_neg hz]
      exact ⟨(.int ctx.setId, j.2.1, j.2.2.1, j.2.2.2.1, .drec fs, .int st.r.cnt),
        by ir_simp [hdd, hz]⟩

theorem ds_body9 (haddr : ctx.addr = addr) (hfuel : st.r.rem.length < fuel)
    (hs : ctx.tr.scope.length < fuel) (hf : ctx.tr.fields.length < fuel) :
    DsBodyOut agent hdr ctx ok (setIter ctx st)
      (exec addr (dsLink addr fuel) fuel (ds 9).loopBody (stOf st) (dsEnv agent hdr st.recs ctx .nil ok j)) := by
  rw [ds9_loopBody, exec_blk_one, dsb_shape,
    exec_ite_of (dsb_init addr fuel agent hdr ctx st ok j _) (dsb_cond addr agent hdr ctx st ok j _), setIter]
  by_cases h23 : ctx.setId = 2 ∨ ctx.setId = 3
  · have hb : (decide (ctx.setId = 2) || decide (ctx.setId = 3)) = true := by simpa using h23
    rw [if_pos h23, hb, cond_true]
    exact ds_tpl addr fuel agent hdr ctx st ok j h23 haddr hfuel
  have hb : (decide (ctx.setId = 2) || decide (ctx.setId = 3)) = false := by simpa using h23
  rw [if_neg h23, hb, cond_false]
  rw [dsb_els, exec_blk_one, dsc_shape, exec_ite_of exec_skip (dsc_cond addr agent hdr ctx st ok j _)]
  by_cases h4 : 4 ≤ ctx.setId ∧ ctx.setId ≤ 255
  · have hb : (decide (4 ≤ ctx.setId) && decide (ctx.setId ≤ 255)) = true := by simpa using h4
    rw [if_pos h4, hb, cond_true]
    exact ⟨rfl, (.int ctx.setId, j.2), by ir_simp []⟩
  have hb : (decide (4 ≤ ctx.setId) && decide (ctx.setId ≤ 255)) = false := by simpa using h4
  rw [if_neg h4, hb, cond_false]
  rw [dsc_els, exec_blk_one, dsd_shape, exec_ite_of exec_skip (dsd_cond addr agent hdr ctx st ok j _)]
  by_cases h0 : ctx.setId = 0
  · rw [if_pos h0, decide_eq_true h0, cond_true]
    simp only [DsBodyOut, RetOut]
    ir_simp []
  rw [if_neg h0, decide_eq_false h0, cond_false]
  exact ds_data addr fuel agent hdr ctx st ok j hs hf

/-- the octets consumed are counted modulo 2^16 -/
theorem ds9_cond_nil (recs : List Record) (r : Rd) (c : Cache) (hstart : ctx.start ≤ r.cnt) :
    eval addr ⟨r, c⟩ (dsEnv agent hdr recs ctx .nil ok j) (ds 9).loopCond = some (.bool (Ipfix.contCond ctx r)) := by
  obtain ⟨m, hm⟩ : ∃ m, (r.cnt - ctx.start) % 65536 = m := ⟨_, rfl⟩
  have hs1 := subV_int r.cnt ctx.start hstart
  have hs2 := subAt_u16_lt ctx.len m (by rw [← hm]; exact Nat.mod_lt _ (by decide))
  rw [Ipfix.contCond, Ipfix.consumed16, hm]
  ir_simp [hs1, hm, hs2]

theorem ds9_cond_err (recs : List Record) (s : St) (g : GErr) :
    eval addr s (dsEnv agent hdr recs ctx (.err g) ok j) (ds 9).loopCond = some (.bool false) := by
  ir_simp []
end

theorem setIter_cont {ctx : Ipfix.Ctx} {st st' : Ipfix.St} (h : setIter ctx st = .cont st') :
    Adv st.r st'.r ∧ st.r.cnt < st'.r.cnt := by
  -- a template round: `parse` is the reader used, which consumes at least 4 octets when it succeeds
  have tpl : ∀ parse : Rd → Except Err Template × Rd,
      (∀ {res r'}, parse st.r = (res, r') → Adv st.r r' ∧ ∀ t, res = .ok t → st.r.cnt + 4 + 4 * Ipfix.nfields t ≤ r'.cnt) →
      (if st.r.peek16 = some 0 then IterOut.stop st none false else
        match parse st.r with
        | (.ok t, r') => .cont { st with r := r', cache := st.cache.insert ctx.addr t.tid t }
        | (.error e, r') => .stop { st with r := r' } (some e) false) = .cont st' →
      Adv st.r st'.r ∧ st.r.cnt < st'.r.cnt := by
    intro parse hadv h
    by_cases hp : st.r.peek16 = some 0
    · rw [if_pos hp] at h; cases h
    · rw [if_neg hp] at h
      rcases hpt : parse st.r with ⟨e | t, r'⟩ <;> rw [hpt] at h <;> cases h
      exact ⟨(hadv hpt).1, by have := (hadv hpt).2 t rfl; show st.r.cnt < r'.cnt; omega⟩
  by_cases h2 : ctx.setId = 2
  · rw [setIter_tpl2 ctx st h2] at h; exact tpl _ Ipfix.parseTpl_adv h
  by_cases h3 : ctx.setId = 3
  · rw [setIter_tpl3 ctx st h3] at h; exact tpl _ Ipfix.parseOptTpl_adv h
  by_cases h0 : ctx.setId = 0
  · rw [setIter_zero ctx st h0] at h; cases h
  by_cases h4 : 4 ≤ ctx.setId ∧ ctx.setId ≤ 255
  · rw [setIter_reserved ctx st h4] at h; cases h
  rw [setIter_data ctx st (by omega)] at h
  rcases hd : Ipfix.decodeData ctx.tr st.r with ⟨e | fs, r'⟩ <;> simp only [hd] at h
  · by_cases hn : Ipfix.nonfatalErr e = true
    · rw [if_pos hn] at h; cases h
    · rw [if_neg hn] at h; cases h
  · by_cases hz : r'.cnt = st.r.cnt
    · rw [if_pos hz] at h; cases h
    · rw [if_neg hz] at h; cases h
      have ha := (Ipfix.decodeData_adv hd).1
      exact ⟨ha, by have := ha.2; show st.r.cnt < r'.cnt; omega⟩

def DsLoopOut (agent : Bytes) (hdr : MHdr) (ctx : Ipfix.Ctx) (ok : V) (res : Ipfix.St × Option Err × Bool) (out : Res) : Prop :=
  match res with
  | (st', e, false) => ∃ j, out = some (.norm, stOf st', dsEnv agent hdr st'.recs ctx (IpfixProg.errV e) ok j)
  | (st', e, true) => RetOut out [IpfixProg.errV e] (stOf st') (.msg agent hdr st'.recs)

theorem ds_loop9 (agent : Bytes) (hdr : MHdr) (ctx : Ipfix.Ctx) (ok : V) (haddr : ctx.addr = addr)
    (hs : ctx.tr.scope.length < fuel) (hf : ctx.tr.fields.length < fuel) :
    ∀ (k k' : Nat) (st : Ipfix.St) (j : Dead),
    st.r.rem.length < k → st.r.rem.length < k' → st.r.rem.length < fuel → ctx.start ≤ st.r.cnt →
    DsLoopOut agent hdr ctx ok (Ipfix.setLoop ctx k' st)
      (loopF (fun st env => eval addr st env (ds 9).loopCond) (exec addr (dsLink addr fuel) fuel (ds 9).loopBody)
        (exec addr (dsLink addr fuel) fuel .skip) k (stOf st) (dsEnv agent hdr st.recs ctx .nil ok j)) := by
  intro k
  induction k with
  | zero => intro k' st _ hk; exact absurd hk (Nat.not_lt_zero _)
  | succ k ih =>
    intro k' st j hk hk' hfuel hstart
    cases k' with
    | zero => exact absurd hk' (Nat.not_lt_zero _)
    | succ k' =>
    rw [setLoop_succ]
    simp only [loopF, ds9_cond_nil addr agent hdr ctx ok j st.recs st.r st.cache hstart]
    by_cases hc : Ipfix.contCond ctx st.r = true
    · simp only [hc, if_true]
      have hb := ds_body9 addr fuel agent hdr ctx st ok j haddr hfuel hs hf
      rcases hit : setIter ctx st with st' | ⟨st', e, d⟩ <;> simp only [hit, DsBodyOut] at hb ⊢
      · obtain ⟨i, hb⟩ := hb
        have hp := setIter_cont hit
        have hlt := hp.1.rem_lt (Nat.ne_of_gt hp.2)
        simp only [hb, exec]
        exact ih k' st' i (Nat.lt_of_lt_of_le hlt (Nat.le_of_lt_succ hk)) (Nat.lt_of_lt_of_le hlt (Nat.le_of_lt_succ hk'))
          (Nat.lt_trans hlt hfuel) (Nat.le_trans hstart (Nat.le_of_lt hp.2))
      · rcases e with _ | e
        · obtain ⟨rfl, i, hb⟩ := hb
          exact ⟨i, by simp only [hb, errV_none]⟩
        · cases d
          · obtain ⟨i, hb | hb⟩ := hb
            · exact ⟨i, by simp only [hb]⟩
            · -- the round went on with `err` set: one more test of the condition ends the loop
              have hlen : Ipfix.minLeft ctx ≤ st.r.rem.length := by
                simp only [Ipfix.contCond, Bool.and_eq_true, decide_eq_true_eq] at hc; exact hc.1.2
              cases k with
              | zero =>
                exact absurd (Nat.lt_of_lt_of_le (Ipfix.minLeft_pos ctx) hlen) (Nat.not_lt.mpr (Nat.le_of_lt_succ hk))
              | succ k => exact ⟨i, by simp only [hb, exec, loopF, errV_some, ds9_cond_err]⟩
          · simp only [DsLoopOut, RetOut] at hb ⊢
            rcases hout : exec addr (dsLink addr fuel) fuel (ds 9).loopBody (stOf st) (dsEnv agent hdr st.recs ctx .nil ok j) with
              _ | ⟨f, s', env'⟩ <;> rw [hout] at hb
            · cases hb
            · simp only [Option.map_some, Option.some.injEq, Prod.mk.injEq] at hb
              obtain ⟨rfl, rfl, henv⟩ := hb
              simp only [Option.map_some, henv]
    · simp only [hc, Bool.false_eq_true, if_false, DsLoopOut, errV_none]
      exact ⟨j, rfl⟩

/-- the locals of `decodeSet` in front of the template lookup: `msg`, `startCount`, `setHeader`, the header `err` -/
abbrev dsEnv0 (agent : Bytes) (hdr : MHdr) (recs : List Record) (start : Nat) (sh e3 : V) : Env :=
  .msg agent hdr recs :: .int start :: sh :: e3 :: List.replicate 12 .unset

theorem ds_pre1 (agent : Bytes) (hdr : MHdr) (st : Ipfix.St) :
    exec addr (dsLink addr fuel) fuel (blk [ds 0, ds 1, ds 2, ds 3]) (stOf st) (.msg agent hdr st.recs :: List.replicate 15 .unset) =
      match st.r.rU16 with
      | none => some (.ret [errReader], stOf st, dsEnv0 agent hdr st.recs st.r.cnt (.shdr 0 0) errReader)
      | some (sid, r1) =>
        match r1.rU16 with
        | none => some (.ret [errReader], ⟨r1, st.cache⟩, dsEnv0 agent hdr st.recs st.r.cnt (.shdr sid 0) errReader)
        | some (len, r2) =>
          if len < 4 then
            some (.ret [.err ⟨false, .badSetLen⟩], ⟨r2, st.cache⟩, dsEnv0 agent hdr st.recs st.r.cnt (.shdr sid len) .nil)
          else some (.norm, ⟨r2, st.cache⟩, dsEnv0 agent hdr st.recs st.r.cnt (.shdr sid len) .nil) := by
  have hh := setHeaderUnmarshal_sem addr fuel st.r st.cache 0 0
  rcases h1 : st.r.rU16 with _ | ⟨sid, r1⟩ <;> simp only [h1] at hh ⊢
  · ir_simp [dsEnv0, ds, Gen.IpfixIR.decodeSet, hh]
  · rcases h2 : r1.rU16 with _ | ⟨len, r2⟩ <;> simp only [h2] at hh ⊢
    · ir_simp [dsEnv0, ds, Gen.IpfixIR.decodeSet, hh]
    · by_cases hl : len < 4 <;> ir_simp [dsEnv0, ds, Gen.IpfixIR.decodeSet, hh, hl]

theorem ds_pre2 (agent : Bytes) (hdr : MHdr) (recs : List Record) (r2 : Rd) (c : Cache) (sid len start : Nat) :
    ∃ ok, exec addr (dsLink addr fuel) fuel (blk [ds 4, ds 5, ds 6, ds 7, ds 8]) ⟨r2, c⟩
        (dsEnv0 agent hdr recs start (.shdr sid len) .nil) =
      some (.norm, ⟨r2, c⟩, dsEnv agent hdr recs ⟨addr, sid, len, start, (Ipfix.lookupTpl c addr sid).1.getD Ipfix.emptyTpl⟩
        (IpfixProg.errV (Ipfix.lookupTpl c addr sid).2) ok (.unset, .unset, .unset, .unset, .unset, .unset)) := by
  unfold Ipfix.lookupTpl
  by_cases hs : sid > 255
  · rcases hl : c.lookup addr sid with _ | t
    · exact ⟨.bool false, by
        ir_simp [dsEnv0, dsEnv, ds, Gen.IpfixIR.decodeSet, hs, hl, minRecordLen_sem, Ipfix.minLeft, Ipfix.emptyTpl]⟩
    · exact ⟨.bool true, by
        ir_simp [dsEnv0, dsEnv, ds, Gen.IpfixIR.decodeSet, hs, hl, minRecordLen_sem, Ipfix.minLeft, Ipfix.emptyTpl]⟩
  · exact ⟨.unset, by ir_simp [dsEnv0, dsEnv, ds, Gen.IpfixIR.decodeSet, hs, Ipfix.minLeft, Ipfix.emptyTpl]⟩

theorem ds_tail (agent : Bytes) (hdr : MHdr) (ctx : Ipfix.Ctx) (st1 : Ipfix.St) (e1 : Option Err) (ok : V) (j : Dead)
    (hstart : ctx.start ≤ st1.r.cnt) :
    RetOut (exec addr (dsLink addr fuel) fuel (blk [ds 10, ds 11, ds 12]) (stOf st1)
        (dsEnv agent hdr st1.recs ctx (IpfixProg.errV e1) ok j))
      [IpfixProg.errV (Ipfix.skipRest ctx st1 e1).2] (stOf (Ipfix.skipRest ctx st1 e1).1)
      (.msg agent hdr (Ipfix.skipRest ctx st1 e1).1.recs) := by
  -- what is left of the set, a 16-bit difference that wraps, gets a name: no step may try to compute with it
  obtain ⟨m, hm⟩ : ∃ m, (st1.r.cnt - ctx.start) % 65536 = m := ⟨_, rfl⟩
  have hs1 := subV_int st1.r.cnt ctx.start hstart
  have hs2 := subAt_u16_lt ctx.len m (by rw [← hm]; exact Nat.mod_lt _ (by decide))
  obtain ⟨l, hl⟩ : ∃ l, (ctx.len + 65536 - m) % 65536 = l := ⟨_, rfl⟩
  rw [Ipfix.skipRest, Ipfix.consumed16, hm, hl, RetOut]
  by_cases hpos : l > 0
  · rcases hr : st1.r.readN l with _ | ⟨b, r'⟩
    · ir_simp [dsEnv, ds, Gen.IpfixIR.decodeSet, hs1, hm, hs2, hl, hpos, hr]
    · ir_simp [dsEnv, ds, Gen.IpfixIR.decodeSet, hs1, hm, hs2, hl, hpos, hr]
      cases e1 <;> rfl
  · ir_simp [dsEnv, ds, Gen.IpfixIR.decodeSet, hs1, hm, hs2, hl, hpos]
    cases e1 <;> rfl

end

theorem retOut_of_eq {out : Res} {vs : List V} {s : St} {env : Env} {m : V} (h : out = some (.ret vs, s, env))
    (h0 : env[0]? = some m) : RetOut out vs s m := by
  subst h; simp [RetOut, h0]

theorem ds_split : Gen.IpfixIR.decodeSet.body =
    blk ([ds 0, ds 1, ds 2, ds 3] ++ ([ds 4, ds 5, ds 6, ds 7, ds 8] ++ ds 9 :: [ds 10, ds 11, ds 12])) := rfl

/-- `fuel` is the interpreter's, `f'` the model's: each only has to exceed the octets left.  `K` bounds the specifier
counts of the cached templates (`Ipfix.CacheB`), so that `fuel` also suffices for the loops of `decodeData`. -/
theorem ds_exec (addr : Bytes) (fuel f' K : Nat) (st : Ipfix.St) (agent : Bytes) (hdr : MHdr)
    (hfuel : st.r.rem.length < fuel) (hf' : st.r.rem.length < f') (hc : Ipfix.CacheB K st.cache) (hK : K < fuel) :
    RetOut (exec addr (dsLink addr fuel) fuel Gen.IpfixIR.decodeSet.body (stOf st) (.msg agent hdr st.recs :: List.replicate 15 .unset))
      [IpfixProg.errV (Ipfix.decodeSet addr f' st).2] (stOf (Ipfix.decodeSet addr f' st).1)
      (.msg agent hdr (Ipfix.decodeSet addr f' st).1.recs) := by
  rw [ds_split, exec_blk_append, ds_pre1, Ipfix.decodeSet]
  rcases h1 : st.r.rU16 with _ | ⟨sid, r1⟩ <;> simp only []
  · exact retOut_of_eq rfl rfl
  rcases h2 : r1.rU16 with _ | ⟨len, r2⟩ <;> simp only []
  · exact retOut_of_eq rfl rfl
  by_cases hl : len < 4
  · rw [if_pos hl, if_pos hl]; exact retOut_of_eq rfl rfl
  rw [if_neg hl, if_neg hl]
  have hadv : Adv st.r r2 := (adv_rU16 h1).1.trans (adv_rU16 h2).1
  have hr2 : ∀ {n}, st.r.rem.length < n → r2.rem.length < n := Nat.lt_of_le_of_lt hadv.rem_le
  obtain ⟨ok, hp2⟩ := ds_pre2 addr fuel agent hdr st.recs r2 st.cache sid len st.r.cnt
  simp only []
  rw [exec_blk_append_norm _ hp2, exec_blk_cons, ds9_shape, exec_loop, Ipfix.setBody]
  simp only []
  generalize hctx : (⟨addr, sid, len, st.r.cnt, (Ipfix.lookupTpl st.cache addr sid).1.getD Ipfix.emptyTpl⟩ : Ipfix.Ctx) = ctx
  have hstart : ctx.start ≤ r2.cnt := by rw [← hctx]; exact hadv.2
  have haddr : ctx.addr = addr := by rw [← hctx]
  rcases hlook : (Ipfix.lookupTpl st.cache addr sid).2 with _ | e
  · -- the record loop runs
    have htr : ctx.tr.scope.length < fuel ∧ ctx.tr.fields.length < fuel := by
      rw [← hctx]; simp only
      unfold Ipfix.lookupTpl
      split
      · rcases hlk : st.cache.lookup addr sid with _ | t
        · simp [Ipfix.emptyTpl]; omega
        · have := hc.lookup hlk
          simp only [Ipfix.nfields] at this
          simp only [Option.getD_some]; omega
      · simp [Ipfix.emptyTpl]; omega
    have hloop := ds_loop9 addr fuel agent hdr ctx ok haddr htr.1 htr.2 fuel f' { st with r := r2 }
      (.unset, .unset, .unset, .unset, .unset, .unset) (hr2 hfuel) (hr2 hf') (hr2 hfuel) hstart
    rcases hres : Ipfix.setLoop ctx f' { st with r := r2 } with ⟨st1, e1, d⟩
    have hs1 : ctx.start ≤ st1.r.cnt := by
      exact Nat.le_trans hstart (Ipfix.setLoop_fuel ctx f' _ _ _ _ (hr2 hf') hres).2.1.2
    cases d <;> simp only [hres, DsLoopOut, errV_none] at hloop ⊢
    · obtain ⟨i, hloop⟩ := hloop
      rw [hloop]
      simp only [Bool.false_eq_true, if_false]
      exact ds_tail addr fuel agent hdr ctx st1 e1 ok i hs1
    · simp only [if_true]
      simp only [RetOut] at hloop ⊢
      rcases hout : loopF (fun st env => eval addr st env (ds 9).loopCond) (exec addr (dsLink addr fuel) fuel (ds 9).loopBody)
          (exec addr (dsLink addr fuel) fuel .skip) fuel ⟨r2, st.cache⟩
          (dsEnv agent hdr st.recs ctx .nil ok (.unset, .unset, .unset, .unset, .unset, .unset)) with _ | ⟨f, s', env'⟩ <;>
        rw [hout] at hloop
      · cases hloop
      · simp only [Option.map_some, Option.some.injEq, Prod.mk.injEq] at hloop
        obtain ⟨rfl, rfl, henv⟩ := hloop
        simp only [Option.map_some, henv]
  · -- unknown template: the loop condition fails at once, the set is skipped
    obtain ⟨k, rfl⟩ := Nat.exists_eq_succ_of_ne_zero (Nat.ne_of_gt (Nat.zero_lt_of_lt hfuel))
    simp only [errV_some, loopF, ds9_cond_err]
    exact ds_tail addr (k + 1) agent hdr ctx { st with r := r2 } (some e) ok _ hstart

theorem decodeSet_sem (addr : Bytes) (fuel f' K : Nat) (st : Ipfix.St) (agent : Bytes) (hdr : MHdr)
    (hfuel : st.r.rem.length < fuel) (hf' : st.r.rem.length < f') (hc : Ipfix.CacheB K st.cache) (hK : K < fuel) :
    IpfixProg.decodeSet addr fuel [.msg agent hdr st.recs] ⟨st.r, st.cache⟩ =
      some (⟨(Ipfix.decodeSet addr f' st).1.r, (Ipfix.decodeSet addr f' st).1.cache⟩,
        [.msg agent hdr (Ipfix.decodeSet addr f' st).1.recs], [IpfixProg.errV (Ipfix.decodeSet addr f' st).2]) := by
  have h := ds_exec addr fuel f' K st agent hdr hfuel hf' hc hK
  rw [IpfixProg.decodeSet, Func.sem_eq (env0 := .msg agent hdr st.recs :: List.replicate 15 .unset) rfl rfl]
  simp only [RetOut, stOf] at h
  rcases hout : exec addr (dsLink addr fuel) fuel Gen.IpfixIR.decodeSet.body ⟨st.r, st.cache⟩
      (.msg agent hdr st.recs :: List.replicate 15 .unset) with _ | ⟨f, s', env'⟩ <;> rw [hout] at h
  · cases h
  · simp only [Option.map_some, Option.some.injEq, Prod.mk.injEq] at h
    obtain ⟨rfl, rfl, henv0⟩ := h
    ir_simp [Gen.IpfixIR.decodeSet, henv0]

end Vflow.IpfixIR
