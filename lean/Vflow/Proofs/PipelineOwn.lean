import Vflow.Proofs.PipelineStep
import Vflow.Proofs.Threaded
/-!
# Buffer ownership in the pipeline (the invariant behind C12)

`refs s b` counts the live references to receive buffer `b` (pool, read loop, UDP channel, workers,
mirror channel). The invariant `Inv` says: at most one reference per buffer, referenced buffers were
allocated, a buffer that travels with a datagram still contains it, every worker is at a program
point the `Canonical` checker accepted with an abstract state that describes its locals (`Sim`), and
everything on the MQ channel is a private copy of the solo result (`Sol`).

`Inv.step` is the frame rule every case of `step_inv` (`PipelineWork`) goes through: a step says what is new in the
successor state and why that is in order; the rest is taken over from the state before.
-/
namespace Vflow.Pipeline
open Vflow

variable {K : Codec}

theorem count_erase' {l : List Nat} {b} (h : b ∈ l) (x : Nat) :
    l.count x = (l.erase b).count x + (if b = x then 1 else 0) := by
  rw [(List.perm_cons_erase h).count_eq x, List.count_cons]
  simp only [beq_iff_eq]

theorem sum_map_append_single {α} (f : α → Nat) (l : List α) (x : α) :
    ((l ++ [x]).map f).sum = (l.map f).sum + f x := by
  simp [List.sum_append]

theorem le_sum_map {α} (f : α → Nat) : ∀ {l : List α} {i : Nat} {x : α}, l[i]? = some x → f x ≤ (l.map f).sum
  | [], i, x, h => by simp at h
  | a :: l, 0, x, h => by
      obtain rfl : a = x := by simpa using h
      simp only [List.map_cons, List.sum_cons]; omega
  | a :: l, i+1, x, h => by
      have := le_sum_map f (l := l) (i := i) (x := x) (by simpa using h)
      simp only [List.map_cons, List.sum_cons]; omega

theorem getElem?_append_single {α} {l : List α} {x w : α} {i : Nat} (h : (l ++ [x])[i]? = some w) :
    l[i]? = some w ∨ w = x := by
  rcases Nat.lt_or_ge i l.length with hl | hl
  · left; rwa [List.getElem?_append_left hl] at h
  · right
    rw [List.getElem?_append_right hl] at h
    exact (List.mem_singleton.mp (List.mem_of_getElem? h))

/-- Identities (buffers, datagrams) are handed out in order: `n` is the next one, `r x` the number of places that hold
`x`.  A step that adds no holder, except one for the identity it hands out, keeps every identity in at most one place
and every held identity below the next one. -/
theorem count_step {r r' : Nat → Nat} {n n' : Nat} (hu : ∀ x, r x ≤ 1) (hf : ∀ x, 1 ≤ r x → x < n)
    (hR : n' = n ∧ (∀ x, r' x ≤ r x) ∨ n' = n + 1 ∧ ∀ x, r' x ≤ r x + if n = x then 1 else 0) :
    (∀ x, r' x ≤ 1) ∧ ∀ x, 1 ≤ r' x → x < n' := by
  have hz : r n = 0 := Nat.eq_zero_of_not_pos fun hp => Nat.lt_irrefl _ (hf _ hp)
  rcases hR with ⟨rfl, hR⟩ | ⟨rfl, hR⟩
  · exact ⟨fun x => Nat.le_trans (hR x) (hu x), fun x hx => hf x (Nat.le_trans hx (hR x))⟩
  · refine ⟨fun x => ?_, fun x hx => ?_⟩ <;> have h1 := hR x <;> by_cases e : n = x
    · subst e; rw [if_pos rfl, hz] at h1; exact h1
    · rw [if_neg e] at h1; exact Nat.le_trans h1 (hu x)
    · subst e; exact Nat.lt_succ_self _
    · rw [if_neg e] at h1; exact Nat.lt_succ_of_lt (hf x (Nat.le_trans hx h1))

def qcount (q : List (BufId × Dgram)) (b : BufId) : Nat := (q.map (·.1)).count b

theorem qcount_nil (b : BufId) : qcount [] b = 0 := rfl

theorem qcount_cons (p : BufId × Dgram) (q) (x : BufId) :
    qcount (p :: q) x = qcount q x + if p.1 = x then 1 else 0 := by
  simp only [qcount, List.map_cons, List.count_cons, beq_iff_eq]

theorem qcount_append (q : List (BufId × Dgram)) (p : BufId × Dgram) (x : BufId) :
    qcount (q ++ [p]) x = qcount q x + if p.1 = x then 1 else 0 := by
  simp only [qcount, List.map_append, List.count_append, List.map_cons, List.map_nil, List.count_cons, beq_iff_eq,
    List.count_nil, Nat.zero_add]

theorem qcount_offer_le (cap : Nat) (q : List (BufId × Dgram)) (p : BufId × Dgram) (x : BufId) :
    qcount (offer cap q p) x ≤ qcount q x + if p.1 = x then 1 else 0 := by
  unfold offer
  split
  · exact Nat.le_of_eq (qcount_append q p x)
  · exact Nat.le_add_right _ _

theorem qcount_pos {q : List (BufId × Dgram)} {b d} (h : (b, d) ∈ q) : 1 ≤ qcount q b :=
  List.count_pos_iff.mpr (List.mem_map.mpr ⟨(b, d), h, rfl⟩)

def wref (w : Worker K) (b : BufId) : Nat := if w.owns = true ∧ w.msg = some b then 1 else 0

def rxref : RxPhase → BufId → Nat
  | .idle, _ => 0
  | .got b, x => if b = x then 1 else 0
  | .read b _, x => if b = x then 1 else 0
  | .counted b _, x => if b = x then 1 else 0

def wsum (ws : List (Worker K)) (b : BufId) : Nat := (ws.map (fun w => wref w b)).sum

def refs (s : State K) (b : BufId) : Nat :=
  s.pool.count b + rxref s.rx b + qcount s.udpq b + wsum s.workers b + qcount s.mirq b

theorem wref_owns {w : Worker K} {b : BufId} (ho : w.owns = true) (hm : w.msg = some b) (x : BufId) :
    wref w x = if b = x then 1 else 0 := by
  simp only [wref, ho, hm, true_and, Option.some.injEq]

theorem wref_of_not_owns {w : Worker K} (h : w.owns = false) (x : BufId) : wref w x = 0 := by simp [wref, h]

theorem wsum_set {ws : List (Worker K)} {i : Nat} {w : Worker K} (h : ws[i]? = some w) (w' : Worker K) (b : BufId) :
    wsum (ws.set i w') b + wref w b = wsum ws b + wref w' b :=
  sum_map_set (fun w => wref w b) ws i w w' h

theorem wsum_append (ws : List (Worker K)) (w : Worker K) (b : BufId) :
    wsum (ws ++ [w]) b = wsum ws b + wref w b :=
  sum_map_append_single (fun w => wref w b) ws w

theorem wsum_pos {ws : List (Worker K)} {i : Nat} {w : Worker K} (h : ws[i]? = some w) {b : BufId}
    (ho : w.owns = true) (hm : w.msg = some b) : 1 ≤ wsum ws b := by
  have := le_sum_map (fun w => wref w b) h
  rwa [wref_owns ho hm, if_pos rfl] at this

theorem refs_ge_pool (s : State K) (x : BufId) : s.pool.count x ≤ refs s x := by simp only [refs]; omega

theorem refs_setW {s : State K} {i : Nat} {w : Worker K} (hi : s.workers[i]? = some w) (w' : Worker K) (x : BufId) :
    refs (s.setW i w') x + wref w x = refs s x + wref w' x := by
  have := wsum_set hi w' x
  simp only [refs, State.setW]; omega

/-- `p` is the solo result of the received datagram `id`: it was received, decoded once under some
cache `c`, and `p` is `marshal (decode c addr octets)` of ITS octets -/
def Sol (log : List (Event K)) (id : Nat) (p : Bytes) : Prop :=
  ∃ d c, Event.received d ∈ log ∧ d.id = id ∧
    Event.decoded id c (K.decode c d.addr d.bytes).1 ∈ log ∧
    outcome K (K.decode c d.addr d.bytes).1 = some p

theorem Sol.mono {l l' : List (Event K)} (h : ∀ e, e ∈ l → e ∈ l') {id p} : Sol l id p → Sol l' id p
  | ⟨d, c, h1, h2, h3, h4⟩ => ⟨d, c, h _ h1, h2, h _ h3, h4⟩

/-- the abstract state `a` describes worker `w` in state `s` -/
structure Sim (s : State K) (w : Worker K) (a : Abs) : Prop where
  owns_eq : w.owns = a.owns
  cur_eq : w.cur.isSome = a.cur
  cur_recv : ∀ d, w.cur = some d → Event.received d ∈ s.log
  buf_ok : ∀ b d, w.owns = true → w.msg = some b → w.cur = some d → s.mem b = d.bytes
  owns_msg : w.owns = true → ∃ b, w.msg = some b
  clean : a.clean = true → w.enc = []
  decoded : a.decoded = true → ∃ d c, w.cur = some d ∧ w.dec = some (c, (K.decode c d.addr d.bytes).1) ∧
      Event.decoded d.id c (K.decode c d.addr d.bytes).1 ∈ s.log
  kmsg : ∀ x, a.kMsg = some x → a.decoded = true ∧ ∀ c r, w.dec = some (c, r) → r.isSome = x
  kdata : ∀ x, a.kData = some x → a.decoded = true ∧ ∀ c m, w.dec = some (c, some m) → K.hasData m = x
  marsh : a.marshalled = true → a.decoded = true ∧ ∃ c m, w.dec = some (c, some m) ∧
      match K.marshal m with
      | none => w.mar = .err
      | some p => if a.benc = true then w.mar = .okEnc ∧ w.enc = p else w.mar = .okVal p
  kmar : ∀ x, a.kMar = some x → a.marshalled = true ∧ ∀ c m, w.dec = some (c, some m) → (K.marshal m).isSome = x
  kyield : ∀ x, a.kYield = some x → a.decoded = true ∧ ∀ c r, w.dec = some (c, r) → (outcome K r).isSome = x
  cnt_dec : w.nDec = if a.decoded = true then 1 else 0
  cnt_cnt : w.nCnt = if a.counted = true then 1 else 0
  cnt_pub : w.nPub = if a.pubd = true then 1 else 0

/-- `Sim` only depends on the buffer the worker owns and on the (growing) log -/
theorem Sim.frame {s s' : State K} {w : Worker K} {a : Abs} (h : Sim s w a)
    (hm : ∀ b, w.owns = true → w.msg = some b → s'.mem b = s.mem b)
    (hl : ∀ e, e ∈ s.log → e ∈ s'.log) : Sim s' w a :=
  { h with
    cur_recv := fun d hd => hl _ (h.cur_recv d hd)
    buf_ok := fun b d ho hb hd => by rw [hm b ho hb]; exact h.buf_ok b d ho hb hd
    decoded := fun hd => by
      obtain ⟨d, c, h1, h2, h3⟩ := h.decoded hd
      exact ⟨d, c, h1, h2, hl _ h3⟩ }

/-- the per-worker invariant: halted (between iterations), or at a checked program point -/
def WInv (cfg : Cfg) (spec : CountSpec) (s : State K) (w : Worker K) : Prop :=
  (w.halted = true ∧ w.cur = none) ∨ ∃ a, Sim s w a ∧ check spec (headAbs cfg.prog) w.pc a = true

theorem WInv.frame {cfg : Cfg} {spec : CountSpec} {s s' : State K} {w : Worker K} (h : WInv cfg spec s w)
    (hm : ∀ b, w.owns = true → w.msg = some b → s'.mem b = s.mem b)
    (hl : ∀ e, e ∈ s.log → e ∈ s'.log) : WInv cfg spec s' w :=
  h.imp id fun ⟨a, h1, h2⟩ => ⟨a, h1.frame hm hl, h2⟩

theorem WInv.sim {cfg : Cfg} {spec : CountSpec} {s : State K} {w : Worker K} (h : WInv cfg spec s w)
    (hh : w.halted = false) : ∃ a, Sim s w a ∧ check spec (headAbs cfg.prog) w.pc a = true :=
  h.resolve_left fun ⟨hhalt, _⟩ => by rw [hh] at hhalt; cases hhalt

theorem sim_head {cfg : Cfg} {s : State K} {w : Worker K} (ho : w.owns = cfg.prog.initGet)
    (hm : w.owns = true → ∃ b, w.msg = some b) (hc : w.cur = none)
    (hn : w.nDec = 0 ∧ w.nCnt = 0 ∧ w.nPub = 0) : Sim s w (headAbs cfg.prog) := by
  constructor
  case owns_eq => exact ho
  case owns_msg => exact hm
  all_goals simp [headAbs, hc, hn]

/-- `uniq`, `fresh`: the references; `qmem`, `mmem`, `rxmem`: a buffer that travels with a datagram holds its octets;
`wk`: the workers; `mqOk` … `mirOk`: what left the workers is the solo result (resp. the datagram) -/
structure Inv (cfg : Cfg) (spec : CountSpec) (s : State K) : Prop where
  uniq : ∀ b, refs s b ≤ 1
  fresh : ∀ b, 1 ≤ refs s b → b < s.next
  qmem : ∀ b d, (b, d) ∈ s.udpq → s.mem b = d.bytes ∧ Event.received d ∈ s.log
  mmem : ∀ b d, (b, d) ∈ s.mirq → s.mem b = d.bytes ∧ Event.received d ∈ s.log
  rxmem : ∀ b d, (s.rx = .read b d ∨ s.rx = .counted b d) → s.mem b = d.bytes ∧ Event.received d ∈ s.log
  wk : ∀ (i : Nat) (w : Worker K), s.workers[i]? = some w → WInv cfg spec s w
  mqOk : ∀ it, it ∈ s.mq → ∃ id p, it = .val id p ∧ Sol s.log id p
  delOk : ∀ id p, (id, p) ∈ s.delivered → Sol s.log id p
  pubOk : ∀ id p, Event.published id p ∈ s.log → Sol s.log id p
  mirOk : ∀ id p, Event.mirrored id p ∈ s.log → ∃ d, Event.received d ∈ s.log ∧ d.id = id ∧ p = d.bytes

theorem init_inv (cfg : Cfg) (spec : CountSpec) (c : K.Cache) (mem0 : BufId → Bytes) : Inv cfg spec (init K c mem0) := by
  constructor <;> simp [init, refs, rxref, qcount, wsum]

section
variable {cfg : Cfg} {spec : CountSpec} {s s' : State K}

theorem Inv.owned (h : Inv cfg spec s) {i : Nat} {w : Worker K} (hi : s.workers[i]? = some w) {b : BufId}
    (ho : w.owns = true) (hm : w.msg = some b) : s.pool.count b = 0 ∧ b < s.next := by
  have hu := h.uniq b
  have := wsum_pos hi ho hm
  simp only [refs] at hu
  exact ⟨by omega, h.fresh b (by simp only [refs]; omega)⟩

/-- **No interference.**  A buffer that travels with a datagram (in a channel, with a worker, read and not yet
enqueued) is referenced once, so neither the pool nor `rx = .got` has it, and it is allocated: a step that writes
only pooled, unallocated or just-taken buffers (`hM`) leaves it alone. -/
theorem Inv.kept (h : Inv cfg spec s) {m' : BufId → Bytes}
    (hM : ∀ x, m' x ≠ s.mem x → 1 ≤ s.pool.count x ∨ s.next ≤ x ∨ s.rx = .got x) {x : BufId}
    (hx : 1 ≤ qcount s.udpq x + wsum s.workers x + qcount s.mirq x ∨ ∃ d, s.rx = .read x d ∨ s.rx = .counted x d) :
    m' x = s.mem x := by
  have hu := h.uniq x
  have hf := h.fresh x
  simp only [refs] at hu hf
  apply Classical.byContradiction
  intro hne
  have hr : 1 ≤ rxref s.rx x ∨ 1 ≤ qcount s.udpq x + wsum s.workers x + qcount s.mirq x :=
    hx.symm.imp_left fun ⟨d, e⟩ => by rcases e with e | e <;> simp [e, rxref]
  rcases hM x hne with h1 | h1 | h1
  · omega
  · exact Nat.not_lt.mpr h1 (hf (by omega))
  · rcases hx with hx | ⟨d, e | e⟩
    · rw [h1] at hu
      simp only [rxref, if_pos] at hu
      omega
    · cases h1.symm.trans e
    · cases h1.symm.trans e

/-- **The frame rule.**  `hR`: no new reference to a buffer, unless to the one the step allocates; `hM`: only pooled,
unallocated or just-taken buffers are written, so what travels with a datagram stays (`Inv.kept`).  Every other
hypothesis speaks of one component of the successor state: "it was there before" (the default) or "this is why it is
in order now". -/
theorem Inv.step (h : Inv cfg spec s)
    (hR : s'.next = s.next ∧ (∀ x, refs s' x ≤ refs s x) ∨
      s'.next = s.next + 1 ∧ ∀ x, refs s' x ≤ refs s x + if s.next = x then 1 else 0)
    (e0 : Option (Event K) := none) (hlog : s'.log = e0.toList ++ s.log := by rfl)
    (hM : ∀ x, s'.mem x ≠ s.mem x → 1 ≤ s.pool.count x ∨ s.next ≤ x ∨ s.rx = .got x := by exact fun _ h => absurd rfl h)
    (hq : ∀ b d, (b, d) ∈ s'.udpq → (b, d) ∈ s.udpq ∨ s'.mem b = d.bytes ∧ Event.received d ∈ s'.log := by
      exact fun _ _ h => .inl h)
    (hmi : ∀ b d, (b, d) ∈ s'.mirq → (b, d) ∈ s.mirq ∨ s'.mem b = d.bytes ∧ Event.received d ∈ s'.log := by
      exact fun _ _ h => .inl h)
    (hrx : ∀ b d, (s'.rx = .read b d ∨ s'.rx = .counted b d) →
      (s.rx = .read b d ∨ s.rx = .counted b d) ∨ s'.mem b = d.bytes ∧ Event.received d ∈ s'.log := by
      exact fun _ _ h => .inl h)
    (hwk : ∀ (j : Nat) (x : Worker K), s'.workers[j]? = some x → s.workers[j]? = some x ∨ WInv cfg spec s' x := by exact fun _ _ h => .inl h)
    (hmq : ∀ it, it ∈ s'.mq → it ∈ s.mq ∨ ∃ id p, it = .val id p ∧ Sol s'.log id p := by exact fun _ h => .inl h)
    (hdel : ∀ id p, (id, p) ∈ s'.delivered → (id, p) ∈ s.delivered ∨ Sol s'.log id p := by exact fun _ _ h => .inl h)
    (hpub : ∀ id p, e0 = some (.published id p) → Sol s'.log id p := by exact fun _ _ h => nomatch h)
    (hmir : ∀ id p, e0 = some (.mirrored id p) → ∃ d, Event.received d ∈ s'.log ∧ d.id = id ∧ p = d.bytes := by
      exact fun _ _ h => nomatch h) :
    Inv cfg spec s' := by
  have hL : ∀ e, e ∈ s.log → e ∈ s'.log := fun e he => by rw [hlog]; exact List.mem_append_right _ he
  have hnew : ∀ e, e ∈ s'.log → e0 = some e ∨ e ∈ s.log := fun e he => by
    rw [hlog] at he
    exact (List.mem_append.mp he).imp_left Option.mem_toList.mp
  obtain ⟨hU, hF⟩ := count_step h.uniq h.fresh hR
  refine ⟨hU, hF, ?_, ?_, ?_, ?_, ?_, ?_, ?_, ?_⟩
  · intro b d hbd
    refine (hq b d hbd).elim (fun hbd => ?_) id
    rw [h.kept hM (.inl (by have := qcount_pos hbd; omega))]
    exact (h.qmem b d hbd).imp_right (hL _)
  · intro b d hbd
    refine (hmi b d hbd).elim (fun hbd => ?_) id
    rw [h.kept hM (.inl (by have := qcount_pos hbd; omega))]
    exact (h.mmem b d hbd).imp_right (hL _)
  · intro b d hbd
    refine (hrx b d hbd).elim (fun hbd => ?_) id
    rw [h.kept hM (.inr ⟨d, hbd⟩)]
    exact (h.rxmem b d hbd).imp_right (hL _)
  · intro j x hj
    refine (hwk j x hj).elim (fun hj => ?_) id
    exact (h.wk j x hj).frame (fun b ho hm => h.kept hM (.inl (by have := wsum_pos hj ho hm; omega))) hL
  · intro it hit
    refine (hmq it hit).elim (fun hit => ?_) id
    obtain ⟨id, p, e, hsol⟩ := h.mqOk it hit
    exact ⟨id, p, e, hsol.mono hL⟩
  · intro id p hd
    exact (hdel id p hd).elim (fun hd => (h.delOk id p hd).mono hL) fun h => h
  · intro id p hd
    exact (hnew _ hd).elim (hpub id p) fun hd => (h.pubOk id p hd).mono hL
  · intro id p hd
    refine (hnew _ hd).elim (hmir id p) fun hd => ?_
    obtain ⟨d, h1, h2, h3⟩ := h.mirOk id p hd
    exact ⟨d, hL _ h1, h2, h3⟩

end
end Vflow.Pipeline
