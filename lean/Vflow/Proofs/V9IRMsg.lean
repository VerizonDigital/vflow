import Vflow.Proofs.V9IRSet
import Vflow.Proofs.TruncV9
/-!
# The translated `Decoder.Decode` of `netflow/v9/decoder.go` is `V9.decode` (as `Proofs/IpfixIRMsg.lean`)

The loop over the flowsets is the same statement in both decoders and the models' loops are both an `OuterLoop`
(`Proofs/OuterLoop.lean`): `OuterLoop.loopF_eq` (`Proofs/IpfixIRExec.lean`) relates the translated loop to the model's
once, from a lemma for one round.
-/
namespace Vflow.V9IR
open Vflow Vflow.IpfixIR
attribute [local irreducible] Vflow.lookupElem

/-! ## `Decode` -/

def dc (i : Nat) : Stmt := Gen.V9IR.decode.body.nth i
theorem dc_body : Gen.V9IR.decode.body = blk ([dc 0, dc 1, dc 2, dc 3, dc 4] ++ dc 5 :: [dc 6]) := rfl
theorem dc5_shape : dc 5 = .loop (dc 5).loopCond (dc 5).loopBody .skip := rfl

/-- the collected non-fatal errors as Go values -/
def nfErrs (errs : List Err) : List GErr := errs.map fun e => ⟨true, e⟩

section
variable (addr : Bytes) (fuel : Nat)

abbrev dcLink : Linkage :=
  [("pktHeaderUnmarshal", V9Prog.pktHeaderUnmarshal addr fuel), ("pktHeaderValidate", V9Prog.pktHeaderValidate addr fuel),
   ("decodeSet", V9Prog.decodeSet addr fuel)]

variable (agent : Bytes) (hdr : PHdr)

/-- the locals of `Decode` in its loop: `msg`, the two header `err`s (nil), `decodeErrors`, the loop's `err` -/
def dcEnv (recs : List Record) (errs : List Err) (e4 : V) : Env :=
  [.msg9 agent hdr recs, .nil, .nil, .errs (nfErrs errs), e4]

theorem dc_body5 (st : V9.St) (f' K : Nat) (errs : List Err) (e4 : V)
    (hfuel : st.r.rem.length < fuel) (hf' : st.r.rem.length < f') (hc : V9.CacheB K st.cache) (hK : K < fuel) :
    exec addr (dcLink addr fuel) fuel (dc 5).loopBody (stOf st) (dcEnv agent hdr st.recs errs e4) =
      match V9.decodeSet addr f' st with
      | (st', none) => some (.norm, stOf st', dcEnv agent hdr st'.recs errs .nil)
      | (st', some e) =>
        if e.nonfatal then some (.norm, stOf st', dcEnv agent hdr st'.recs (errs ++ [e]) (.err ⟨true, e⟩))
        else some (.ret [.nil, .err ⟨false, e⟩], stOf st', dcEnv agent hdr st'.recs errs (.err ⟨false, e⟩)) := by
  have hs := decodeSet_sem addr fuel f' K st agent hdr hfuel hf' hc hK
  rcases hd : V9.decodeSet addr f' st with ⟨st', _ | e⟩ <;> simp only [hd] at hs ⊢
  · rw [errV_none] at hs
    ir_simp [dc, dcEnv, Gen.V9IR.decode, hs]
  · rw [errV_some] at hs
    by_cases hn : e.nonfatal = true
    · rw [hn] at hs
      ir_simp [dc, dcEnv, Gen.V9IR.decode, hs, hn, nfErrs, List.map_append, List.map_cons, List.map_nil]
    · rw [Bool.not_eq_true] at hn
      rw [hn] at hs
      ir_simp [dc, dcEnv, Gen.V9IR.decode, hs, hn]

/-- a flowset that does not fail for lack of octets has consumed its header -/
theorem dc_loop5 (K L : Nat) (hKL : L / 4 ≤ K) (hK : K < fuel) (k k' : Nat) (st : V9.St) (errs : List Err) (e4 : V)
    (hk : st.r.rem.length < k) (hk' : st.r.rem.length < k') (hfuel : st.r.rem.length < fuel) (hinv : V9.Inv K L st) :
    SetsOut stOf (fun st => dcEnv agent hdr st.recs) (V9.outer addr k' st errs)
      (loopF (fun st env => eval addr st env (dc 5).loopCond) (exec addr (dcLink addr fuel) fuel (dc 5).loopBody)
        (exec addr (dcLink addr fuel) fuel .skip) k (stOf st) (dcEnv agent hdr st.recs errs e4)) := by
  refine (V9.outer_loop addr).loopF_eq stOf (fun st => dcEnv agent hdr st.recs)
    (fun st => st.r.rem.length < fuel ∧ V9.Inv K L st) (fun _ _ => exec_skip) ?_ ?_ ?_ k k' st errs e4 hk hk' ⟨hfuel, hinv⟩
  · intros; ir_simp [dc, dcEnv, Gen.V9IR.decode]
  · intro st errs e4 hi
    have hb := dc_body5 addr fuel agent hdr st (st.r.rem.length + 1) K errs e4 hi.1 (Nat.lt_succ_self _) hi.2.2.1 hK
    rcases hd : V9.decodeSet addr (st.r.rem.length + 1) st with ⟨st', _ | e⟩ <;> simp only [hd] at hb ⊢ <;> exact hb
  · intro st st' e hi _ hd hf
    have t1 := V9.decodeSet_fuel (Nat.lt_succ_self _) hd
    have hlt : st'.r.rem.length < st.r.rem.length :=
      t1.2.1.1.rem_lt (Nat.ne_of_gt (Nat.lt_of_lt_of_le (Nat.lt_add_of_pos_right (by decide))
        (t1.2.2.resolve_left (fun h0 => by rw [h0] at hf; cases hf))))
    exact ⟨hlt, Nat.lt_trans hlt hi.1, V9.decodeSet_inv hKL hi.2 hd⟩
end

theorem ofHdr_toHdr (h : PHdr) : PHdr.ofHdr h.toHdr = h := rfl

theorem decode_sem (c : Cache) (addr bs : Bytes) (fuel : Nat) (hfuel : bs.length < fuel)
    (hc : ∀ e ∈ c, e.2.scope.length + e.2.fields.length < fuel) :
    ∃ r', V9Prog.decode addr fuel [] ⟨⟨bs, 0⟩, c⟩ =
      some (⟨r', (V9.decode c addr bs).2⟩, [], V9Prog.decodeResult addr (V9.decode c addr bs).1) := by
  rw [V9Prog.decode, Func.sem_eq (env0 := List.replicate 5 .unset) rfl rfl, dc_body, V9.decode]
  have hmh := pktHeaderUnmarshal_sem addr fuel ⟨bs, 0⟩ c {}
  rcases hrh : V9.readHeader ⟨bs, 0⟩ with _ | ⟨h, r6⟩ <;> simp only [hrh] at hmh ⊢
  · obtain ⟨r', h1, hmh⟩ := hmh
    exact ⟨r', by ir_simp [dc, Gen.V9IR.decode, hmh, V9Prog.decodeResult]⟩
  obtain ⟨h1, hh1, hmh⟩ := hmh
  have hval := pktHeaderValidate_sem addr fuel ⟨r6, c⟩ h1
  rw [hh1] at hval
  by_cases hv : h.headD 0 ≠ 9
  · rw [if_pos hv] at hval ⊢
    exact ⟨r6, by ir_simp [dc, Gen.V9IR.decode, hmh, hval, V9Prog.decodeResult]⟩
  rw [if_neg hv] at hval ⊢
  have pre : exec addr (dcLink addr fuel) fuel (blk [dc 0, dc 1, dc 2, dc 3, dc 4]) ⟨⟨bs, 0⟩, c⟩ (List.replicate 5 .unset) =
      some (.norm, ⟨r6, c⟩, dcEnv addr h1 [] [] .unset) := by
    ir_simp [dc, dcEnv, nfErrs, Gen.V9IR.decode, hmh, hval, List.map_nil]
  have ha := V9.readHeader_adv hrh
  have hlen : r6.rem.length ≤ bs.length := ha.rem_le
  have hcb : V9.CacheB (fuel - 1) c := fun e he => Nat.le_pred_of_lt (hc e he)
  have hl := dc_loop5 addr fuel addr h1 (fuel - 1) bs.length (Nat.le_trans (Nat.div_le_self _ _) (Nat.le_pred_of_lt hfuel))
    (Nat.pred_lt (Nat.ne_of_gt (Nat.zero_lt_of_lt hfuel))) fuel (bs.length + 1) ⟨r6, c, []⟩ [] .unset
    (Nat.lt_of_le_of_lt hlen hfuel) (Nat.lt_succ_of_le hlen) (Nat.lt_of_le_of_lt hlen hfuel)
    ⟨ha.1.trans (Nat.zero_add _), hcb, fun _ h => absurd h List.not_mem_nil⟩
  rw [exec_blk_append_norm _ pre, exec_blk_cons, dc5_shape, exec_loop]
  rcases ho : V9.outer addr (bs.length + 1) ⟨r6, c, []⟩ [] with ⟨st', _ | e, errs'⟩ <;> simp only [ho, SetsOut] at hl ⊢
  · obtain ⟨e4', hl⟩ := hl
    refine ⟨st'.r, ?_⟩
    simp only [hl]
    ir_simp [dc, dcEnv, nfErrs, Gen.V9IR.decode, V9Prog.decodeResult, ← hh1, ofHdr_toHdr]
  · obtain ⟨env', hl⟩ := hl
    refine ⟨st'.r, ?_⟩
    simp only [hl]
    ir_simp [Gen.V9IR.decode, V9Prog.decodeResult]

end Vflow.V9IR
