import Vflow.Proofs.TruncV9
/-!
# NetFlow v9: an undecodable flowset is skipped without any other effect

A flowset is *undecodable* when no template `sid` is cached for the exporter (`sid > 255`) or `sid` is neither a
template nor a data flowset id (`2 ≤ sid ≤ 255`; ids 2 and 3 are handed to the data decoder with an empty template
and end with the non-fatal `zeroRec`).  The proofs go as in `SkipIpfix`.
-/
namespace Vflow.V9
open Vflow

/-- no template cached under this id, or an id that is neither a template nor a data flowset id -/
def Undecodable (c : Cache) (addr : Bytes) (sid : Nat) : Prop :=
  (sid > 255 ∧ c.lookup addr sid = none) ∨ (2 ≤ sid ∧ sid ≤ 255)

def skipErr (sid : Nat) (body : Bytes) : Option Err :=
  if sid > 255 then some .unknownTpl
  else if 4 ≤ sid then none
  else if body.length > 4 then some .zeroRec else none

theorem skipErr_nonfatal (sid : Nat) (body : Bytes) (e : Err) (h : skipErr sid body = some e) :
    e.nonfatal = true := by
  unfold skipErr at h
  by_cases h1 : sid > 255
  · rw [if_pos h1] at h; cases h; rfl
  · by_cases h2 : 4 ≤ sid
    · rw [if_neg h1, if_pos h2] at h; cases h
    · by_cases h3 : body.length > 4
      · rw [if_neg h1, if_neg h2, if_pos h3] at h; cases h; rfl
      · rw [if_neg h1, if_neg h2, if_neg h3] at h; cases h

theorem skipErr_ne_fuel (sid : Nat) (body : Bytes) : skipErr sid body ≠ some .fuel :=
  fun h => nomatch skipErr_nonfatal _ _ _ h

/-! `x` is what is left of the flowset `ctx` when the reader's count is `c`: `c + |x| = ctx.start + ctx.len`. -/

theorem leftInt_inSet {ctx : Ctx} {x : Bytes} {c : Nat} (h : c + x.length = ctx.start + ctx.len) (rem : Bytes) :
    leftInt ctx ⟨rem, c⟩ = (x.length : Int) := by
  simp only [leftInt]; omega

theorem contCond_inSet {ctx : Ctx} {x : Bytes} {c : Nat} (h : c + x.length = ctx.start + ctx.len) (rest : Bytes) :
    contCond ctx ⟨x ++ rest, c⟩ = decide (x.length ≥ minLeft ctx) := by
  rw [Bool.eq_iff_iff, contCond_iff, leftInt_inSet h, decide_eq_true_eq]
  simp only [List.length_append]
  omega

theorem skipRest_inSet {ctx : Ctx} {x : Bytes} {c : Nat} (h : c + x.length = ctx.start + ctx.len) (rest : Bytes)
    (cache : Cache) (recs : List Record) {e1 : Option Err} (hfu : e1 ≠ some .fuel) :
    skipRest ctx ⟨⟨x ++ rest, c⟩, cache, recs⟩ e1 = (⟨⟨rest, c + x.length⟩, cache, recs⟩, e1) := by
  simp only [skipRest, if_neg hfu, leftInt_inSet h]
  by_cases hb : x.length > 0
  · rw [if_pos (by omega), Int.toNat_natCast, readN_append]
  · rw [if_neg (by omega)]
    obtain rfl : x = [] := List.eq_nil_of_length_eq_zero (by omega)
    rfl

theorem decodeSet_setBytes (addr : Bytes) (fuel : Nat) (st : St) (sid : Nat) (body rest : Bytes)
    (hsid : sid < 65536) (hlen : 4 + body.length < 65536) (hfuel : 0 < fuel)
    (hrem : st.r.rem = setBytes sid body ++ rest) {e : Option Err}
    (h : ∀ f, setBody addr sid (4 + body.length) st.r.cnt (f + 1) ⟨⟨body ++ rest, st.r.cnt + 2 + 2⟩, st.cache, st.recs⟩ =
      (⟨⟨rest, st.r.cnt + 2 + 2 + body.length⟩, st.cache, st.recs⟩, e)) :
    decodeSet addr fuel st = ({ st with r := ⟨rest, st.r.cnt + (setBytes sid body).length⟩ }, e) := by
  obtain ⟨⟨rem, cnt⟩, cache, recs⟩ := st
  simp only at hrem h ⊢
  subst hrem
  obtain ⟨fuel, rfl⟩ : ∃ f, fuel = f + 1 := ⟨fuel - 1, by omega⟩
  simp only [decodeSet, setBytes, List.append_assoc, rU16_be16 _ _ _ hsid, rU16_be16 _ _ _ hlen]
  rw [if_neg (by omega), h, ← List.append_assoc, ← setBytes, setBytes_length,
    show cnt + (4 + body.length) = cnt + 2 + 2 + body.length by omega]

theorem setBody_skips (addr : Bytes) (sid : Nat) (body rest : Bytes) (cnt fuel : Nat) (cache : Cache)
    (recs : List Record) (tr : Template) (x : Bytes) (c : Nat) (e : Option Err)
    (hlook : lookupTpl cache addr sid = (some tr, none) ∨ (lookupTpl cache addr sid = (none, none) ∧ tr = emptyTpl))
    (hin : c + x.length = cnt + (4 + body.length)) (hfu : e ≠ some .fuel)
    (hloop : setLoop ⟨addr, sid, 4 + body.length, cnt, tr⟩ fuel ⟨⟨body ++ rest, cnt + 2 + 2⟩, cache, recs⟩ =
      (⟨⟨x ++ rest, c⟩, cache, recs⟩, e)) :
    setBody addr sid (4 + body.length) cnt fuel ⟨⟨body ++ rest, cnt + 2 + 2⟩, cache, recs⟩ =
      (⟨⟨rest, cnt + 2 + 2 + body.length⟩, cache, recs⟩, e) := by
  rw [show cnt + 2 + 2 + body.length = c + x.length by omega,
    ← skipRest_inSet (ctx := ⟨addr, sid, 4 + body.length, cnt, tr⟩) hin rest cache recs hfu, setBody]
  rcases hlook with hl | ⟨hl, rfl⟩ <;> simp only [hl, Option.getD_some, Option.getD_none, hloop]

theorem setLoop_reserved (ctx : Ctx) (fuel : Nat) (st : St) (h : 4 ≤ ctx.setId ∧ ctx.setId ≤ 255) :
    setLoop ctx (fuel + 1) st = (st, none) := by
  have h01 : ¬ (ctx.setId = 0 ∨ ctx.setId = 1) := by omega
  simp only [setLoop, if_neg h01, if_pos h, ite_self]

/-- ids 2 and 3: the data decoder with the empty template reads nothing, and the record of no octets ends the
loop with `zeroRec` -/
theorem setLoop_23 (ctx : Ctx) (fuel : Nat) (st : St) (h : ctx.setId = 2 ∨ ctx.setId = 3)
    (htr : ctx.tr = emptyTpl) :
    setLoop ctx (fuel + 1) st = (st, if contCond ctx st.r then some .zeroRec else none) := by
  have hd : decodeData ctx.tr st.r = (.ok [], st.r) := by rw [htr]; exact decFields_nil _ _
  rw [setLoop]
  by_cases hc : contCond ctx st.r = true
  · rw [if_pos hc, if_pos hc, if_neg (by omega), if_neg (by omega), hd]
    exact if_pos rfl
  · rw [if_neg hc, if_neg hc]

theorem decodeSet_skips (addr : Bytes) (fuel : Nat) (st : St) (sid : Nat) (body rest : Bytes)
    (hsid : sid < 65536) (hlen : 4 + body.length < 65536) (hfuel : 0 < fuel)
    (hrem : st.r.rem = setBytes sid body ++ rest) (hu : Undecodable st.cache addr sid) :
    decodeSet addr fuel st =
      ({ st with r := ⟨rest, st.r.cnt + (setBytes sid body).length⟩ }, skipErr sid body) := by
  refine decodeSet_setBytes addr fuel st sid body rest hsid hlen hfuel hrem fun fuel => ?_
  obtain ⟨⟨rem, cnt⟩, cache, recs⟩ := st
  simp only at hu ⊢
  have hin : cnt + 2 + 2 + body.length = cnt + (4 + body.length) := by omega
  by_cases hbig : sid > 255
  · have hnone : cache.lookup addr sid = none := hu.elim (·.2) (by omega)
    rw [skipErr, if_pos hbig, ← skipRest_inSet (ctx := ⟨addr, sid, 4 + body.length, cnt, emptyTpl⟩) hin rest cache
      recs (e1 := some .unknownTpl) (by simp), setBody]
    simp only [lookupTpl, if_pos hbig, hnone, Option.getD_none]
  · have h2 : 2 ≤ sid := hu.elim (by omega) (·.1)
    have hlook : lookupTpl cache addr sid = (none, none) := by rw [lookupTpl, if_neg hbig]
    rw [skipErr, if_neg hbig]
    by_cases h4 : 4 ≤ sid
    · rw [if_pos h4]
      exact setBody_skips addr sid body rest cnt _ cache recs emptyTpl body _ none (.inr ⟨hlook, rfl⟩) hin
        (by simp) (setLoop_reserved _ _ _ ⟨h4, by simp only; omega⟩)
    · rw [if_neg h4]
      refine setBody_skips addr sid body rest cnt _ cache recs emptyTpl body _ _ (.inr ⟨hlook, rfl⟩) hin
        (by split <;> simp) ?_
      rw [setLoop_23 _ _ _ (by simp only; omega) rfl, contCond_inSet hin, minLeft, if_neg hbig]
      simp only [decide_eq_true_eq]
      rfl

/-- (the record decoder's run on the body alone may be given at any count `c0`) -/
theorem decodeSet_skips_unknownElem' (addr : Bytes) (fuel : Nat) (st : St) (sid : Nat) (body rest : Bytes)
    (t : Template) (c0 : Nat) (r1 : Rd)
    (hsid : sid < 65536) (hlen : 4 + body.length < 65536) (hfuel : 0 < fuel)
    (hrem : st.r.rem = setBytes sid body ++ rest)
    (hbig : sid > 255) (hlook : st.cache.lookup addr sid = some t) (hbody : body.length ≥ minRecLen t)
    (hdec : decodeData t ⟨body, c0⟩ = (.error .unknownElem, r1)) :
    decodeSet addr fuel st =
      ({ st with r := ⟨rest, st.r.cnt + (setBytes sid body).length⟩ }, some .unknownElem) := by
  refine decodeSet_setBytes addr fuel st sid body rest hsid hlen hfuel hrem fun fuel => ?_
  obtain ⟨⟨rem, cnt⟩, cache, recs⟩ := st
  simp only at hlook ⊢
  have hin : cnt + 2 + 2 + body.length = cnt + (4 + body.length) := by omega
  -- in front of `rest` the record decoder fails in the same way, `n` octets into the body
  obtain ⟨n, hn, hrun⟩ := (decodeData_local t).of_run hdec (by simp)
  refine setBody_skips addr sid body rest cnt _ cache recs t (body.drop n) (cnt + 2 + 2 + n) _
    (.inl (by rw [lookupTpl, if_pos hbig, hlook])) (by simp only [List.length_drop]; omega) (by simp) ?_
  have hcc : contCond ⟨addr, sid, 4 + body.length, cnt, t⟩ ⟨body ++ rest, cnt + 2 + 2⟩ = true := by
    rw [contCond_inSet hin, decide_eq_true_eq, minLeft, if_pos hbig]; exact hbody
  have h01 : ¬ (sid = 0 ∨ sid = 1) := by omega
  have hres : ¬ (4 ≤ sid ∧ sid ≤ 255) := by omega
  simp only [setLoop, hcc, if_true, if_neg h01, if_neg hres, hrun]

theorem decodeSet_skips_unknownElem (addr : Bytes) (fuel : Nat) (st : St) (sid : Nat) (body rest : Bytes)
    (t : Template) (r1 : Rd)
    (hsid : sid < 65536) (hlen : 4 + body.length < 65536) (hfuel : 0 < fuel)
    (hrem : st.r.rem = setBytes sid body ++ rest)
    (hbig : sid > 255) (hlook : st.cache.lookup addr sid = some t) (hbody : body.length ≥ minRecLen t)
    (hdec : decodeData t ⟨body, st.r.cnt + 4⟩ = (.error .unknownElem, r1)) :
    decodeSet addr fuel st =
      ({ st with r := ⟨rest, st.r.cnt + (setBytes sid body).length⟩ }, some .unknownElem) :=
  decodeSet_skips_unknownElem' addr fuel st sid body rest t _ r1 hsid hlen hfuel hrem hbig hlook hbody hdec

/-- `u` is *skipped* at cache `c` with error slot `e`: it is a whole set (at least the 4-octet
header), `e` is not a fatal error, and in front of any `rest`, at any count, with any records
accumulated, `decodeSet` only moves the reader over `u`. -/
structure Skipped (addr : Bytes) (c : Cache) (u : Bytes) (e : Option Err) : Prop where
  nonfatal : ∀ x, e = some x → x.nonfatal = true
  len : 4 ≤ u.length
  run : ∀ (fuel k : Nat) (recs : List Record) (rest : Bytes), 0 < fuel →
    decodeSet addr fuel ⟨⟨u ++ rest, k⟩, c, recs⟩ = (⟨⟨rest, k + u.length⟩, c, recs⟩, e)

theorem Skipped.not_fatal {addr : Bytes} {c : Cache} {u : Bytes} {e : Option Err} (h : Skipped addr c u e) :
    fatal Err.nonfatal e = false := by
  cases e with
  | none => rfl
  | some x => simp [fatal, h.nonfatal x rfl]

theorem skipped_of_undecodable (addr : Bytes) (c : Cache) (sid : Nat) (body : Bytes)
    (hsid : sid < 65536) (hlen : 4 + body.length < 65536) (hu : Undecodable c addr sid) :
    Skipped addr c (setBytes sid body) (skipErr sid body) where
  nonfatal := skipErr_nonfatal sid body
  len := by rw [setBytes_length]; omega
  run := fun fuel k recs rest hf =>
    decodeSet_skips addr fuel ⟨⟨setBytes sid body ++ rest, k⟩, c, recs⟩ sid body rest hsid hlen hf rfl hu

theorem skipped_of_unknownElem (addr : Bytes) (c : Cache) (sid : Nat) (body : Bytes) (t : Template) (r1 : Rd)
    (hsid : sid < 65536) (hlen : 4 + body.length < 65536)
    (hbig : sid > 255) (hlook : c.lookup addr sid = some t) (hbody : body.length ≥ minRecLen t)
    (hdec : decodeData t ⟨body, 0⟩ = (.error .unknownElem, r1)) :
    Skipped addr c (setBytes sid body) (some .unknownElem) where
  nonfatal := fun x hx => by cases hx; rfl
  len := by rw [setBytes_length]; omega
  run := fun fuel k recs rest hf =>
    decodeSet_skips_unknownElem' addr fuel ⟨⟨setBytes sid body ++ rest, k⟩, c, recs⟩ sid body rest t 0 r1
      hsid hlen hf rfl hbig hlook hbody hdec

theorem outer_skips_gen (addr : Bytes) (fuel : Nat) (st : St) (errs : List Err) (u rest : Bytes)
    (e : Option Err) (hs : Skipped addr st.cache u e) (hrem : st.r.rem = u ++ rest)
    (hgt : u.length + rest.length > 4) :
    outer addr (fuel + 1) st errs =
      outer addr fuel { st with r := ⟨rest, st.r.cnt + u.length⟩ } (errs ++ e.toList) := by
  obtain ⟨⟨rem, cnt⟩, cache, recs⟩ := st
  subst hrem
  rw [(outer_loop addr).iter fuel _ errs _ e (by simp only [List.length_append]; omega)
    (hs.run _ _ _ _ (Nat.succ_pos _)), hs.not_fatal]
  rfl

theorem outer_skips (addr : Bytes) (fuel : Nat) (st : St) (errs : List Err) (sid : Nat) (body rest : Bytes)
    (hsid : sid < 65536) (hlen : 4 + body.length < 65536)
    (hrem : st.r.rem = setBytes sid body ++ rest) (hu : Undecodable st.cache addr sid)
    (hgt : body.length + rest.length > 0) :
    outer addr (fuel + 1) st errs =
      outer addr fuel { st with r := ⟨rest, st.r.cnt + (setBytes sid body).length⟩ }
        (errs ++ (skipErr sid body).toList) :=
  outer_skips_gen addr fuel st errs _ rest _ (skipped_of_undecodable addr st.cache sid body hsid hlen hu) hrem
    (by rw [setBytes_length]; omega)

theorem outer_tail (addr : Bytes) (fuel : Nat) (st : St) (errs : List Err) (h : st.r.rem.length ≤ 4) :
    outer addr (fuel + 1) st errs = (st, none, errs) :=
  (outer_loop addr).stop fuel st errs h

theorem outer_skips_tail (addr : Bytes) (fuel : Nat) (st : St) (errs : List Err) (sid : Nat)
    (hrem : st.r.rem = setBytes sid []) :
    outer addr (fuel + 1) st errs = (st, none, errs) :=
  outer_tail addr fuel st errs (by rw [hrem, setBytes_length]; simp)

theorem outer_ext (addr : Bytes) : ∀ (fuelT : Nat) (stT : St) (errs : List Err)
    (stT' : St) (errs' : List Err),
    outer addr fuelT stT errs = (stT', none, errs') →
    stT'.r.rem.length ≤ 4 ∧ ∃ j, j ≤ fuelT ∧ ∀ (s : Bytes) (stF : St), SRel s stT stF →
      ∃ stF', SRel s stT' stF' ∧ ∀ m, outer addr (j + m) stF errs = outer addr m stF' errs' := by
  intro fuelT stT errs stT' errs' h
  obtain ⟨hlen, j, hj, hall⟩ := (outer_loop addr).lockstep St.ext St.ext_length (decodeSet_ext addr) _ _ _ _ _ h
  exact ⟨hlen, j, hj, fun s stF hrel => ⟨_, SRel.ext stT' s, fun m => hrel.eq ▸ hall s m⟩⟩

theorem decode_of_header (c : Cache) (addr hdr x : Bytes) (h : Hdr) (k : Nat)
    (hh : readHeader ⟨hdr, 0⟩ = some (h, ⟨[], k⟩)) :
    decode c addr (hdr ++ x) =
      if h.headD 0 ≠ 9 then (.error .badVersion, c) else
      match outer addr ((hdr ++ x).length + 1) ⟨⟨x, k⟩, c, []⟩ [] with
      | (st, some e, _) => (.error e, st.cache)
      | (st, none, errs) => (.ok (h, st.recs, errs), st.cache) := by
  have hF : readHeader ⟨hdr ++ x, 0⟩ = some (h, ⟨x, k⟩) := readHeader_persists _ _ _ hh x 0
  simp only [decode, hF]
  rfl

theorem decode_skips (c : Cache) (addr hdr pre post u : Bytes) (e : Option Err)
    (h : Hdr) (k k1 : Nat) (c1 : Cache) (recs1 : List Record) (errs1 : List Err)
    (hh : readHeader ⟨hdr, 0⟩ = some (h, ⟨[], k⟩))
    (hpre : outer addr (pre.length + 1) ⟨⟨pre, k⟩, c, []⟩ [] = (⟨⟨[], k1⟩, c1, recs1⟩, none, errs1))
    (hs : Skipped addr c1 u e)
    (hfuel : (decode c addr (hdr ++ (pre ++ post))).1 ≠ .error .fuel) :
    recordsOf (decode c addr (hdr ++ (pre ++ (u ++ post)))).1 =
      recordsOf (decode c addr (hdr ++ (pre ++ post))).1 ∧
    (decode c addr (hdr ++ (pre ++ (u ++ post)))).2 = (decode c addr (hdr ++ (pre ++ post))).2 ∧
    ∀ x, (decode c addr (hdr ++ (pre ++ (u ++ post)))).1 = .error x ↔
      (decode c addr (hdr ++ (pre ++ post))).1 = .error x := by
  rw [decode_of_header c addr hdr _ h k hh] at hfuel ⊢
  rw [decode_of_header c addr hdr _ h k hh]
  by_cases hv : h.headD 0 ≠ 9
  · simp only [if_pos hv, recordsOf, true_and, implies_true]
  · rw [if_neg hv] at hfuel
    rw [if_neg hv, if_neg hv]
    have hnf : (outer addr ((hdr ++ (pre ++ post)).length + 1) ⟨⟨pre ++ post, k⟩, c, []⟩ []).2.1 ≠ some .fuel := by
      intro hx
      generalize outer addr ((hdr ++ (pre ++ post)).length + 1) _ [] = o at hfuel hx
      obtain ⟨st, eo, errs⟩ := o
      cases hx
      exact hfuel rfl
    have hsame := (outer_loop addr).insert St.ext St.ext_length (decodeSet_ext addr) (fun a : St => (a.recs, a.cache))
      (fun _ _ _ => rfl) hpre rfl (u := u) (post := post) hs.len hs.not_fatal
      (fun f hf => by
        simpa only [St.ext, Rd.ext, List.nil_append, List.append_nil, Nat.add_zero] using hs.run f k1 recs1 post hf)
      (FA := (hdr ++ (pre ++ (u ++ post))).length + 1) (FB := (hdr ++ (pre ++ post)).length + 1)
      (by simp only [List.length_append]; omega) (by simp only [List.length_append]; omega) hnf
    simp only [St.ext, Rd.ext, Nat.add_zero] at hsame
    generalize outer addr ((hdr ++ (pre ++ (u ++ post))).length + 1) _ [] = oA at hsame ⊢
    generalize outer addr ((hdr ++ (pre ++ post)).length + 1) _ [] = oB at hsame ⊢
    obtain ⟨stA, eA, errsA⟩ := oA
    obtain ⟨stB, eB, errsB⟩ := oB
    obtain ⟨h1, h2⟩ := hsame
    simp only [Prod.mk.injEq] at h1 h2
    subst h2
    cases eA with
    | none => simp [recordsOf, h1.1, h1.2]
    | some x => simp [recordsOf, h1.2]

end Vflow.V9
