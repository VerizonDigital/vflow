import Vflow.Proofs.Locks
/-!
# The executable schedulers follow the step relation (C10, model driver)

The executable twin used by the driver is sound for the step relation: what the scheduler
runs is a run, what it reports as a race is a race. Core Lean only.
-/
namespace Vflow
namespace Locks

theorem writerHeldB_iff (σ : Sys) (s : Nat) : writerHeldB σ s = true ↔ writerHeld σ s := by
  simp [writerHeldB, writerHeld]

theorem readerHeldB_iff (σ : Sys) (s : Nat) : readerHeldB σ s = true ↔ readerHeld σ s := by
  simp [readerHeldB, readerHeld]

theorem enabledB_sound {σ : Sys} {a : Act} (h : enabledB σ a = true) : Enabled σ a := by
  cases a <;> try trivial
  case lock s =>
    simp only [enabledB, Bool.and_eq_true, Bool.not_eq_true'] at h
    exact ⟨fun hc => by simp [(writerHeldB_iff σ s).mpr hc] at h,
           fun hc => by simp [(readerHeldB_iff σ s).mpr hc] at h⟩
  case rlock s =>
    simp only [enabledB, Bool.not_eq_true'] at h
    exact fun hc => by simp [(writerHeldB_iff σ s).mpr hc] at h

theorem step?_sound {σ σ' : Sys} {i : Nat} (h : step? σ i = some σ') : ∃ a, Step σ i a σ' := by
  unfold step? at h
  split at h
  · rename_i t hi
    split at h
    · rename_i a p hp
      split at h
      · rename_i hen
        exact ⟨a, t, p, hi, hp, enabledB_sound hen, (Option.some.inj h).symm⟩
      · cases h
    · cases h
  · cases h

theorem run_step? {init σ σ' : Sys} {hist : List Ev} {i : Nat} (hr : Run init hist σ) (h : step? σ i = some σ') :
    ∃ hist', Run init hist' σ' :=
  let ⟨_, st⟩ := step?_sound h
  ⟨_, Run.step hr st⟩

theorem conflictB_sound {a b : Act} (h : conflictB a b = true) : conflict a b := by
  cases a <;> first | cases h | (cases b <;> first | exact eq_of_beq h | cases h)

theorem raceB_sound {σ : Sys} (h : raceB σ = true) : Race σ := by
  simp only [raceB, List.any_eq_true, List.mem_range, List.length_map, Bool.and_eq_true, bne_iff_ne, ne_eq,
    List.getElem?_map] at h
  obtain ⟨i, _, j, _, hij, h⟩ := h
  split at h
  · rename_i a b hi hj
    obtain ⟨ti, hi, ha⟩ := Option.map_eq_some_iff.mp hi
    obtain ⟨tj, hj, hb⟩ := Option.map_eq_some_iff.mp hj
    exact ⟨i, j, ti, tj, a, b, hij, hi, hj, ha, hb, conflictB_sound h⟩
  · cases h

theorem schedule_sound (pick : Nat → Nat) : ∀ (fuel n : Nat) (init σ : Sys) (hist : List Ev),
    Run init hist σ → ∃ hist', Run init hist' (schedule pick fuel n σ).2 ∧
      ((schedule pick fuel n σ).1 = .race → Race (schedule pick fuel n σ).2) := by
  intro fuel
  induction fuel with
  | zero => intro n init σ hist hr; exact ⟨hist, hr, nofun⟩
  | succ f ih =>
    intro n init σ hist hr
    unfold schedule
    split
    · rename_i hrace
      exact ⟨hist, hr, fun _ => raceB_sound hrace⟩
    · split
      · exact ⟨hist, hr, nofun⟩
      · simp only []
        split
        · rename_i σ' hfind
          obtain ⟨d, _, hd⟩ := List.exists_of_findSome?_eq_some hfind
          rw [Option.map_id'] at hd
          obtain ⟨_, hr'⟩ := run_step? hr hd
          exact ih (n + 1) init _ _ hr'
        · exact ⟨hist, hr, nofun⟩

theorem orElse_some {α : Type} {a b : Option α} {x : α} (h : (a <|> b) = some x) : a = some x ∨ b = some x := by
  cases a with
  | none => exact .inr h
  | some y => exact .inl h

theorem scheduleFreeze_sound (i : Nat) : ∀ (fuel : Nat) (init σ : Sys) (hist : List Ev),
    Run init hist σ → ∃ hist', Run init hist' (scheduleFreeze i fuel σ).2 ∧
      ((scheduleFreeze i fuel σ).1 = .race → Race (scheduleFreeze i fuel σ).2) := by
  intro fuel
  induction fuel with
  | zero => intro init σ hist hr; exact ⟨hist, hr, nofun⟩
  | succ f ih =>
    intro init σ hist hr
    unfold scheduleFreeze
    split
    · rename_i hrace
      exact ⟨hist, hr, fun _ => raceB_sound hrace⟩
    · split
      · exact ⟨hist, hr, nofun⟩
      · simp only []
        split
        · rename_i σ' hnext
          -- whichever of the two candidates was taken, it is some thread's `step?`
          have hoth : ∀ x, (List.range σ.threads.length).findSome?
              (fun j => if j = i then none else step? σ j) = some x → ∃ j, step? σ j = some x := by
            intro x hx
            obtain ⟨j, _, hj⟩ := List.exists_of_findSome?_eq_some hx
            split at hj
            · cases hj
            · exact ⟨j, hj⟩
          have hstep : ∃ j, step? σ j = some σ' := by
            split at hnext
            · exact (orElse_some hnext).elim (hoth _) fun h => ⟨i, h⟩
            · exact (orElse_some hnext).elim (fun h => ⟨i, h⟩) (hoth _)
          obtain ⟨j, hj⟩ := hstep
          obtain ⟨_, hr'⟩ := run_step? hr hj
          exact ih init _ _ hr'
        · exact ⟨hist, hr, nofun⟩

end Locks
end Vflow
