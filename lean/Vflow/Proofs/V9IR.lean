import Vflow.Model.V9Prog
import Vflow.Proofs.IpfixIRExec
import Vflow.Proofs.FuelV9
/-!
# Lemmas: the interpreted translation of `netflow/v9/decoder.go` is the model (`Vflow.V9`)

Same method as `Proofs/IpfixIR*.lean` (the IR, the interpreter and `Proofs/IpfixIRExec.lean` are shared): `minRecordLen`
and `decodeData` (read first, then the element lookup; no variable-length fields) here, the `unmarshal` functions in
`V9IRTpl`, `decodeSet` in `V9IRSet`, `Decode` in `V9IRMsg`.
-/
namespace Vflow.V9IR
open Vflow Vflow.IpfixIR
attribute [local irreducible] Vflow.lookupElem

/-! how `Err.nonfatal` sorts the classes the translated functions produce, and the model's results as Go values -/
@[ir] theorem nonfatal_short : Err.nonfatal .short = false := rfl
@[ir] theorem nonfatal_badSetLen : Err.nonfatal .badSetLen = false := rfl
@[ir] theorem nonfatal_unknownElem : Err.nonfatal .unknownElem = true := rfl
@[ir] theorem nonfatal_unknownTpl : Err.nonfatal .unknownTpl = true := rfl
@[ir] theorem nonfatal_zeroRec : Err.nonfatal .zeroRec = true := rfl
@[ir] theorem errV_none : V9Prog.errV none = .nil := rfl
@[ir] theorem errV_some (e : Err) : V9Prog.errV (some e) = .err ⟨e.nonfatal, e⟩ := rfl
@[ir] theorem recResult_ok (fs : Record) : V9Prog.recResult (.ok fs) = [.drec fs, .nil] := rfl
@[ir] theorem recResult_error (e : Err) : V9Prog.recResult (.error e) = [.nil, .err ⟨e.nonfatal, e⟩] := rfl

/-! the error classes of the format strings of `netflow/v9/decoder.go` -/
@[ir ↓ high] theorem errClass_version : errClasses.lookup "invalid netflow version (%d)" = some .badVersion := by
  simp only [errClasses, lookup_cons_ite, String.reduceEq, if_false, if_true]
@[ir ↓ high] theorem errClass_unknownTpl : errClasses.lookup "%s unknown netflow template id# %d" = some .unknownTpl := by
  simp only [errClasses, lookup_cons_ite, String.reduceEq, if_false, if_true]
@[ir ↓ high] theorem errClass_scopeElem :
    errClasses.lookup "Netflow element key (%d) not exist (scope)" = some .unknownElem := by
  simp only [errClasses, lookup_cons_ite, String.reduceEq, if_false, if_true]
@[ir ↓ high] theorem errClass_elem : errClasses.lookup "Netflow element key (%d) not exist" = some .unknownElem := by
  simp only [errClasses, lookup_cons_ite, String.reduceEq, if_false, if_true]
@[ir ↓ high] theorem errClass_zeroRec :
    errClasses.lookup "%s zero-length data record (netflow template id# %d)" = some .zeroRec := by
  simp only [errClasses, lookup_cons_ite, String.reduceEq, if_false, if_true]

/-! ## `minRecordLen` -/

def mrl (i : Nat) : Stmt := Gen.V9IR.minRecordLen.body.nth i

theorem mrl_body : Gen.V9IR.minRecordLen.body = blk [mrl 0, mrl 1, mrl 2, mrl 3, mrl 4] := rfl
theorem mrl1_shape : mrl 1 = .range 2 (.field (.var 0) "ScopeFieldSpecifiers") (mrl 1).loopBody := rfl
theorem mrl2_shape : mrl 2 = .range 3 (.field (.var 0) "FieldSpecifiers") (mrl 2).loopBody := rfl

theorem minRecordLen_sem (addr : Bytes) (fuel : Nat) (st : St) (t : Template) :
    V9Prog.minRecordLen addr fuel [.tpl t] st = some (st, [.tpl t], [.int (V9.minRecLen t)]) := by
  rw [V9Prog.minRecordLen, Func.sem_eq rfl rfl, mrl_body]
  have b1 : ∀ (y : V) (n : Nat) (s : Spec), exec addr [] fuel (mrl 1).loopBody st [.tpl t, .int n, .spec s, y] =
      some (.norm, st, [.tpl t, .int (n + s.len), .spec s, y]) := by
    intro y n s
    ir_simp [mrl, Gen.V9IR.minRecordLen]
  have b2 : ∀ (x : V) (n : Nat) (s : Spec), exec addr [] fuel (mrl 2).loopBody st [.tpl t, .int n, x, .spec s] =
      some (.norm, st, [.tpl t, .int (n + s.len), x, .spec s]) := by
    intro x n s
    ir_simp [mrl, Gen.V9IR.minRecordLen]
  obtain ⟨x1, h1⟩ := rangeF_sum 2 .spec (·.len) (fun n v => [.tpl t, .int n, v, .unset]) (fun _ _ _ => ⟨(by decide : 2 < 4), rfl⟩)
    (b1 .unset) t.scope 0 .unset
  rw [Nat.zero_add] at h1
  obtain ⟨x2, h2⟩ := rangeF_sum 3 .spec (·.len) (fun n v => [.tpl t, .int n, x1, v]) (fun _ _ _ => ⟨(by decide : 3 < 4), rfl⟩)
    (b2 x1) t.fields (t.scope.map (·.len)).sum .unset
  have e0 : exec addr [] fuel (mrl 0) st [.tpl t, .unset, .unset, .unset] = some (.norm, st, [.tpl t, .int 0, .unset, .unset]) := by
    ir_simp [mrl, Gen.V9IR.minRecordLen]
  have e3 : ∀ n, exec addr [] fuel (mrl 3) st [.tpl t, .int n, x1, x2] =
      some (.norm, st, [.tpl t, .int (if n < 1 then 1 else n), x1, x2]) := by
    intro n
    by_cases h : n < 1 <;> ir_simp [mrl, Gen.V9IR.minRecordLen, h]
  have e4 : ∀ n, exec addr [] fuel (mrl 4) st [.tpl t, .int n, x1, x2] = some (.ret [.int n], st, [.tpl t, .int n, x1, x2]) := by
    intro n
    ir_simp [mrl, Gen.V9IR.minRecordLen]
  rw [mrl1_shape, mrl2_shape]
  ir_simp [e0, h1, h2, e3, e4, Gen.V9IR.minRecordLen, V9.minRecLen, List.map_append, List.sum_append]

/-! ## `decodeData` -/

/-- one step of `V9.decFields`: the read, then the element lookup -/
def decField (f : Spec) (r : Rd) : Except Err DField × Rd :=
  match r.readN f.len with
  | none => (.error .short, r)
  | some (b, r1) =>
    match lookupElem 0 f.id with
    | none => (.error .unknownElem, r1)
    | some (fid, ty) => (.ok ⟨fid, 0, interpret b ty⟩, r1)

theorem decFields_step (f : Spec) (fs : List Spec) (r : Rd) (acc : Record) :
    V9.decFields (f :: fs) r acc =
      match decField f r with
      | (.error e, r') => (.error e, r')
      | (.ok d, r') => V9.decFields fs r' (acc ++ [d]) := by
  unfold decField
  rw [V9.decFields_cons]
  rcases r.readN f.len with _ | ⟨b, r1⟩
  · rfl
  · simp only []
    generalize lookupElem 0 f.id = o
    rcases o with _ | ⟨fid, ty⟩ <;> rfl

def dd (i : Nat) : Stmt := Gen.V9IR.decodeData.body.nth i
theorem dd_body : Gen.V9IR.decodeData.body = blk ([dd 0, dd 1, dd 2, dd 3] ++ dd 4 :: dd 5 :: dd 6 :: [dd 7]) := rfl
theorem dd4_shape : dd 4 = .loop (dd 4).loopCond (dd 4).loopBody (dd 4).loopPost := rfl
theorem dd6_shape : dd 6 = .loop (dd 6).loopCond (dd 6).loopBody (dd 6).loopPost := rfl

section
variable (addr : Bytes) (fuel : Nat) (c : Cache) (t : Template)

/-- the locals of `decodeData` in its first loop: `tr`, `fields`, then `err`, `b`, the loop's `i`, its `m` and `ok` (`j`:
dead between rounds), and the three slots `x` of the second loop -/
def ddEnv1 (x : V × V × V) (acc : Record) (i : Nat) (j : V × V × V × V) : Env :=
  [.tpl t, .drec acc, j.1, j.2.1, .int i, j.2.2.1, j.2.2.2, x.1, x.2.1, x.2.2]

/-- the locals of `decodeData` in its second loop (`x`: the three slots of the first loop) -/
def ddEnv2 (x : V × V × V) (acc : Record) (i : Nat) (j : V × V × V × V) : Env :=
  [.tpl t, .drec acc, j.1, j.2.1, x.1, x.2.1, x.2.2, .int i, j.2.2.1, j.2.2.2]

theorem dd4_body (x : V × V × V) (r : Rd) (acc : Record) (i : Nat) (j : V × V × V × V) (f : Spec)
    (hf : t.scope[i]? = some f) :
    StepOut c Err.nonfatal (fun d => ddEnv1 t x (acc ++ [d]) i) (decField f r)
      (exec addr [] fuel (dd 4).loopBody ⟨r, c⟩ (ddEnv1 t x acc i j)) := by
  unfold decField StepOut
  rcases hr : r.readN f.len with _ | ⟨b, r1⟩
  · simp only []
    rw [exists_env_iff]
    ir_simp [ddEnv1, dd, Gen.V9IR.decodeData, hf, hr]
  · simp only []
    generalize hl : lookupElem 0 f.id = o
    rcases o with _ | ⟨fid, ty⟩
    · simp only []
      rw [exists_env_iff]
      ir_simp [ddEnv1, dd, Gen.V9IR.decodeData, hf, hr, hl]
    · refine ⟨(.nil, .bytes b, .elem fid ty, .bool true), ?_⟩
      ir_simp [ddEnv1, dd, Gen.V9IR.decodeData, hf, hr, hl]

theorem dd6_body (x : V × V × V) (r : Rd) (acc : Record) (i : Nat) (j : V × V × V × V) (f : Spec)
    (hf : t.fields[i]? = some f) :
    StepOut c Err.nonfatal (fun d => ddEnv2 t x (acc ++ [d]) i) (decField f r)
      (exec addr [] fuel (dd 6).loopBody ⟨r, c⟩ (ddEnv2 t x acc i j)) := by
  unfold decField StepOut
  rcases hr : r.readN f.len with _ | ⟨b, r1⟩
  · simp only []
    rw [exists_env_iff]
    ir_simp [ddEnv2, dd, Gen.V9IR.decodeData, hf, hr]
  · simp only []
    generalize hl : lookupElem 0 f.id = o
    rcases o with _ | ⟨fid, ty⟩
    · simp only []
      rw [exists_env_iff]
      ir_simp [ddEnv2, dd, Gen.V9IR.decodeData, hf, hr, hl]
    · refine ⟨(.nil, .bytes b, .elem fid ty, .bool true), ?_⟩
      ir_simp [ddEnv2, dd, Gen.V9IR.decodeData, hf, hr, hl]

theorem dd4_loop (x : V × V × V) (m i k : Nat) (r : Rd) (acc : Record) (j : V × V × V × V)
    (hi : i + m = t.scope.length) (hk : m < k) :
    StepOut c Err.nonfatal (fun acc' => ddEnv1 t x acc' t.scope.length) (V9.decFields (t.scope.drop i) r acc)
      (loopF (fun st env => eval addr st env (dd 4).loopCond) (exec addr [] fuel (dd 4).loopBody)
        (exec addr [] fuel (dd 4).loopPost) k ⟨r, c⟩ (ddEnv1 t x acc i j)) :=
  fieldLoop (ddEnv1 t x) V9.decFields_nil decFields_step
    (by intros; ir_simp [ddEnv1, dd, Gen.V9IR.decodeData]) (by intros; ir_simp [ddEnv1, dd, Gen.V9IR.decodeData])
    (dd4_body addr fuel c t x) m i k r acc j hi hk

theorem dd6_loop (x : V × V × V) (m i k : Nat) (r : Rd) (acc : Record) (j : V × V × V × V)
    (hi : i + m = t.fields.length) (hk : m < k) :
    StepOut c Err.nonfatal (fun acc' => ddEnv2 t x acc' t.fields.length) (V9.decFields (t.fields.drop i) r acc)
      (loopF (fun st env => eval addr st env (dd 6).loopCond) (exec addr [] fuel (dd 6).loopBody)
        (exec addr [] fuel (dd 6).loopPost) k ⟨r, c⟩ (ddEnv2 t x acc i j)) :=
  fieldLoop (ddEnv2 t x) V9.decFields_nil decFields_step
    (by intros; ir_simp [ddEnv2, dd, Gen.V9IR.decodeData]) (by intros; ir_simp [ddEnv2, dd, Gen.V9IR.decodeData])
    (dd6_body addr fuel c t x) m i k r acc j hi hk
end

theorem decodeData_sem (addr : Bytes) (fuel : Nat) (r : Rd) (c : Cache) (t : Template)
    (hs : t.scope.length < fuel) (hf : t.fields.length < fuel) :
    V9Prog.decodeData addr fuel [.tpl t] ⟨r, c⟩ =
      some (⟨(V9.decodeData t r).2, c⟩, [], V9Prog.recResult (V9.decodeData t r).1) := by
  rw [V9Prog.decodeData, Func.sem_eq (env0 := .tpl t :: List.replicate 9 .unset) rfl rfl, dd_body, V9.decodeData,
    fields_append V9.decFields_nil decFields_step]
  have pre : exec addr [] fuel (blk [dd 0, dd 1, dd 2, dd 3]) ⟨r, c⟩ (.tpl t :: List.replicate 9 .unset) =
      some (.norm, ⟨r, c⟩, ddEnv1 t (.unset, .unset, .unset) [] 0 (.nil, .bytes [], .unset, .unset)) := by
    ir_simp [ddEnv1, dd, Gen.V9IR.decodeData]
  have l1 := dd4_loop addr fuel c t (.unset, .unset, .unset) t.scope.length 0 fuel r []
    (.nil, .bytes [], .unset, .unset) (Nat.zero_add _) hs
  rw [exec_blk_append_norm _ pre, exec_blk_cons, dd4_shape, exec_loop]
  rw [List.drop_zero] at l1
  rcases h1 : V9.decFields t.scope r [] with ⟨e | acc1, r1⟩ <;> simp only [h1, StepOut] at l1
  · obtain ⟨env', l1⟩ := l1
    ir_simp [l1, Gen.V9IR.decodeData]
  · obtain ⟨j, l1⟩ := l1
    have e5 : exec addr [] fuel (dd 5) ⟨r1, c⟩ (ddEnv1 t (.unset, .unset, .unset) acc1 t.scope.length j) =
        some (.norm, ⟨r1, c⟩, ddEnv2 t (.int t.scope.length, j.2.2.1, j.2.2.2) acc1 0 (j.1, j.2.1, .unset, .unset)) := by
      ir_simp [ddEnv1, ddEnv2, dd, Gen.V9IR.decodeData]
    have l2 := dd6_loop addr fuel c t (.int t.scope.length, j.2.2.1, j.2.2.2) t.fields.length 0 fuel r1 acc1
      (j.1, j.2.1, .unset, .unset) (Nat.zero_add _) hf
    rw [List.drop_zero] at l2
    simp only [l1]
    rw [exec_blk_cons_norm _ e5, exec_blk_cons, dd6_shape, exec_loop]
    rcases h2 : V9.decFields t.fields r1 acc1 with ⟨e | acc2, r2⟩ <;> simp only [h2, StepOut] at l2
    · obtain ⟨env', l2⟩ := l2
      ir_simp [l2, Gen.V9IR.decodeData]
    · obtain ⟨j', l2⟩ := l2
      simp only [l2]
      ir_simp [ddEnv2, dd, Gen.V9IR.decodeData]

end Vflow.V9IR
