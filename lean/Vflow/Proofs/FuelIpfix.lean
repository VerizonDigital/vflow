import Vflow.Model.Ipfix
import Vflow.Proofs.LinearBase
import Vflow.Proofs.EqnsIpfix
/-!
# C02 (model part) for the IPFIX model: what the decoder does to its reader and its state; fuel, record bound

Every composite read is specified once, as a `Reads`.  From the record loop up every function moves the reader
forward, installs a template it parsed where the reader stands, or keeps a record it decoded there which consumed
≥ 1 octet (the `zeroRec` rule); a predicate closed under the three (`Invariant`) holds throughout a decode, and the
bounds of C02 are three such predicates (`Step` here, `Inv` in `AllocIpfix`, `LInv` in `LinearIpfix`).  Every round of either
loop consumes an octet, so `decode` never runs out of the fuel it supplies.
-/
namespace Vflow.Ipfix
open Vflow

def nfields (t : Template) : Nat := t.scope.length + t.fields.length

theorem readSpec_reads (r : Rd) : Reads r (readSpec r) (· = .short) fun _ r' => r.cnt + 4 ≤ r'.cnt := by
  unfold readSpec
  split
  · exact .fail (.refl r) rfl
  · rename_i id r1 h1
    obtain ⟨d1, c1⟩ := drops_rU16 h1
    split
    · exact .fail d1 rfl
    · rename_i len r2 h2
      obtain ⟨d2, c2⟩ := drops_rU16 h2
      split
      · split
        · exact .fail (d1.trans d2) rfl
        · rename_i ent r3 h3
          obtain ⟨d3, c3⟩ := drops_rU32 h3
          exact .ok ((d1.trans d2).trans d3) (by omega)
      · exact .ok (d1.trans d2) (by omega)

theorem readSpecs_reads : ∀ (n : Nat) (r : Rd) (acc : List Spec),
    Reads r (readSpecs n r acc) (· = .short) fun l r' => r.cnt + 4 * n ≤ r'.cnt ∧ l.length = acc.length + n
  | 0, r, acc => .ok (.refl r) ⟨Nat.le_refl _, rfl⟩
  | n+1, r, acc => by
    unfold readSpecs
    have h := readSpec_reads r
    split
    · rename_i e r1 h1
      exact .fail (h.drops_of h1) (h.err_of h1)
    · rename_i s r1 h1
      have c := h.ok_of h1
      refine (readSpecs_reads n r1 (acc ++ [s])).after (h.drops_of h1) fun l r' ⟨hc, hl⟩ => ⟨by omega, ?_⟩
      rw [hl, List.length_append, List.length_singleton, Nat.add_assoc, Nat.add_comm 1]

theorem parseTpl_reads (r : Rd) :
    Reads r (parseTpl r) (· = .short) fun t r' => r.cnt + 4 + 4 * nfields t ≤ r'.cnt := by
  unfold parseTpl
  split
  · exact .fail (.refl r) rfl
  · rename_i tid r1 h1
    obtain ⟨d1, c1⟩ := drops_rU16 h1
    split
    · exact .fail d1 rfl
    · rename_i n r2 h2
      obtain ⟨d2, c2⟩ := drops_rU16 h2
      have h := readSpecs_reads n r2 []
      split
      · rename_i fs r3 h3
        obtain ⟨hc, hl⟩ := h.ok_of h3
        refine .ok ((d1.trans d2).trans (h.drops_of h3)) ?_
        simp only [nfields, List.length_nil] at hl ⊢
        omega
      · rename_i e r3 h3
        exact .fail ((d1.trans d2).trans (h.drops_of h3)) (h.err_of h3)

theorem parseOptTpl_reads (r : Rd) :
    Reads r (parseOptTpl r) (· = .short) fun t r' => r.cnt + 4 + 4 * nfields t ≤ r'.cnt := by
  unfold parseOptTpl
  split
  · exact .fail (.refl r) rfl
  · rename_i tid r1 h1
    obtain ⟨d1, c1⟩ := drops_rU16 h1
    split
    · exact .fail d1 rfl
    · rename_i n r2 h2
      obtain ⟨d2, c2⟩ := drops_rU16 h2
      split
      · exact .fail (d1.trans d2) rfl
      · rename_i sc r3 h3
        obtain ⟨d3, c3⟩ := drops_rU16 h3
        have d := (d1.trans d2).trans d3
        have hs := readSpecs_reads sc r3 []
        -- the second count is named by an equation, not substituted: with `… % 65536` in place the kernel unfolds
        -- `readSpecs` at it while checking the case splits below, one successor of the literal at a time
        obtain ⟨k, hk⟩ : ∃ k, (n + 65536 - sc) % 65536 = k := ⟨_, rfl⟩
        rw [hk]
        split
        · rename_i e r4 h4
          exact .fail (d.trans (hs.drops_of h4)) (hs.err_of h4)
        · rename_i scs r4 h4
          obtain ⟨hc4, hl4⟩ := hs.ok_of h4
          have hf := readSpecs_reads k r4 []
          split
          · rename_i e r5 h5
            exact .fail ((d.trans (hs.drops_of h4)).trans (hf.drops_of h5)) (hf.err_of h5)
          · rename_i fs r5 h5
            obtain ⟨hc5, hl5⟩ := hf.ok_of h5
            refine .ok ((d.trans (hs.drops_of h4)).trans (hf.drops_of h5)) ?_
            simp only [nfields, List.length_nil] at hl4 hl5 ⊢
            omega

/-- `getDataLength`: unless the specifier's length is 0, the length prefix read here and the field that is read
next take at least one octet between them -/
theorem dataLen_reads (r : Rd) (sl : Nat) :
    Reads r (dataLen r sl) (· = .short) fun n r' => sl ≠ 0 → r.cnt + 1 ≤ r'.cnt + n := by
  unfold dataLen
  split
  · split
    · exact .fail (.refl r) rfl
    · rename_i l8 r1 h1
      obtain ⟨d1, c1⟩ := drops_rU8 h1
      split
      · split
        · exact .fail d1 rfl
        · rename_i l r2 h2
          obtain ⟨d2, c2⟩ := drops_rU16 h2
          exact .ok (d1.trans d2) fun _ => by omega
      · exact .ok d1 fun _ => by omega
  · exact .ok (.refl r) fun _ => by omega

theorem decFields_reads : ∀ (fs : List Spec) (r : Rd) (acc : Record),
    Reads r (decFields fs r acc) (fun e => e = .short ∨ e = .unknownElem) fun l r' =>
      l.length = acc.length + fs.length ∧ r.cnt + fs.length ≤ r'.cnt + zeroCount fs
  | [], r, acc => by
    rw [decFields_nil]
    exact .ok (.refl r) ⟨rfl, Nat.le_refl _⟩
  | f :: fs, r, acc => by
    rw [decFields_cons]
    split
    · exact .fail (.refl r) (.inr rfl)
    · have h := dataLen_reads r f.len
      split
      · rename_i e r1 h1
        exact .fail (h.drops_of h1) (.inl (h.err_of h1))
      · rename_i n r1 h1
        split
        · exact .fail (h.drops_of h1) (.inl rfl)
        · rename_i b r2 h2
          obtain ⟨d2, c2⟩ := drops_readN h2
          have c1 := h.ok_of h1
          have hle := (h.drops_of h1).cnt_le
          refine (decFields_reads fs r2 _).after ((h.drops_of h1).trans d2) fun l r' ⟨hl, hc⟩ => ⟨?_, ?_⟩
          · rw [hl, List.length_append, List.length_singleton, List.length_cons, Nat.add_assoc, Nat.add_comm 1]
          · exact zeroCount_cons_le (c2 ▸ Nat.le_add_right_of_le hle) (fun hz => c2 ▸ c1 hz) hc

theorem decodeData_reads (tr : Template) (r : Rd) :
    Reads r (decodeData tr r) (· ≠ .fuel) fun fs r' =>
      fs.length = nfields tr ∧ fs.length ≤ (r'.cnt - r.cnt) + zeroSpecs tr := by
  unfold decodeData
  have h := decFields_reads (tr.scope ++ tr.fields) r []
  split
  · rename_i e r' h1
    refine .fail (h.drops_of h1) ?_
    rcases h.err_of h1 with rfl | rfl <;> exact Err.noConfusion
  · rename_i fs r' h1
    obtain ⟨hl, hc⟩ := h.ok_of h1
    split
    · exact .fail (h.drops_of h1) Err.noConfusion
    · refine .ok (h.drops_of h1) ?_
      rw [zeroSpecs_eq]
      simp only [nfields, List.length_nil, List.length_append] at hl hc ⊢
      omega

theorem readHeader_drops {r r' : Rd} {h : Hdr} (hh : readHeader r = some (h, r')) : Drops r r' := by
  unfold readHeader at hh
  split at hh
  · cases hh
  · rename_i _ r1 h1
    split at hh
    · cases hh
    · rename_i _ r2 h2
      split at hh
      · cases hh
      · rename_i _ r3 h3
        split at hh
        · cases hh
        · rename_i _ r4 h4
          split at hh
          · cases hh
          · rename_i _ r5 h5
            cases hh
            exact ((((drops_rU16 h1).1.trans (drops_rU16 h2).1).trans (drops_rU32 h3).1).trans
              (drops_rU32 h4).1).trans (drops_rU32 h5).1

/-! The same facts in the form the proofs about the Go code's control flow (`IpfixIR*`) take them. -/

theorem readSpec_adv {r r' : Rd} {res : Except Err Spec} (h : readSpec r = (res, r')) :
    Adv r r' ∧ ∀ s, res = .ok s → r.cnt + 4 ≤ r'.cnt :=
  (readSpec_reads r).adv_of h

theorem readSpecs_adv (n : Nat) (r : Rd) (acc : List Spec) (res : Except Err (List Spec)) (r' : Rd)
    (h : readSpecs n r acc = (res, r')) :
    Adv r r' ∧ ∀ l, res = .ok l → r.cnt + 4 * n ≤ r'.cnt ∧ l.length = acc.length + n :=
  (readSpecs_reads n r acc).adv_of h

theorem parseTpl_adv {r r' : Rd} {res : Except Err Template} (h : parseTpl r = (res, r')) :
    Adv r r' ∧ ∀ t, res = .ok t → r.cnt + 4 + 4 * nfields t ≤ r'.cnt :=
  (parseTpl_reads r).adv_of h

theorem parseOptTpl_adv {r r' : Rd} {res : Except Err Template} (h : parseOptTpl r = (res, r')) :
    Adv r r' ∧ ∀ t, res = .ok t → r.cnt + 4 + 4 * nfields t ≤ r'.cnt :=
  (parseOptTpl_reads r).adv_of h

theorem parseTpl_err {r r' : Rd} {e : Err} (h : parseTpl r = (.error e, r')) : e = .short :=
  (parseTpl_reads r).err_of h

theorem parseOptTpl_err {r r' : Rd} {e : Err} (h : parseOptTpl r = (.error e, r')) : e = .short :=
  (parseOptTpl_reads r).err_of h

theorem decodeData_adv {tr : Template} {r r' : Rd} {res : Except Err Record}
    (h : decodeData tr r = (res, r')) :
    Adv r r' ∧ (∀ l, res = .ok l → l.length = nfields tr) ∧ res ≠ .error .fuel :=
  ⟨((decodeData_reads tr r).drops_of h).adv, fun _ hl => ((decodeData_reads tr r).ok_of (hl ▸ h)).1,
    fun hx => (decodeData_reads tr r).err_of (hx ▸ h) rfl⟩

theorem readHeader_adv {r r' : Rd} {h : Hdr} (hh : readHeader r = some (h, r')) : Adv r r' :=
  (readHeader_drops hh).adv

/-- what the record loop installs and the hypothesis of the linear bound (`TplZ`) ranges over -/
def Parses (r : Rd) (t : Template) (r' : Rd) : Prop :=
  parseTpl r = (.ok t, r') ∨ parseOptTpl r = (.ok t, r')

theorem Parses.reads {r r' : Rd} {t : Template} (h : Parses r t r') :
    Drops r r' ∧ r.cnt + 4 + 4 * nfields t ≤ r'.cnt :=
  h.elim (fun h => ⟨(parseTpl_reads r).drops_of h, (parseTpl_reads r).ok_of h⟩)
    fun h => ⟨(parseOptTpl_reads r).drops_of h, (parseOptTpl_reads r).ok_of h⟩

theorem setLoop_succ (ctx : Ctx) (fuel : Nat) (st : St) :
    (∃ t r', setLoop ctx (fuel + 1) st =
        setLoop ctx fuel { st with r := r', cache := st.cache.insert ctx.addr t.tid t } ∧ Parses st.r t r') ∨
    (∃ fs r', setLoop ctx (fuel + 1) st = setLoop ctx fuel { st with r := r', recs := st.recs ++ [fs] } ∧
        decodeData ctx.tr st.r = (.ok fs, r') ∧ r'.cnt ≠ st.r.cnt) ∨
    ∃ r' e d, setLoop ctx (fuel + 1) st = ({ st with r := r' }, e, d) ∧ Drops st.r r' ∧ e ≠ some .fuel := by
  generalize hx : setLoop ctx (fuel + 1) st = x
  rw [setLoop] at hx
  rcases ite_eq_cases hx with ⟨_, hx⟩ | ⟨_, hx⟩
  · rcases ite_eq_cases hx with ⟨_, hx⟩ | ⟨_, hx⟩
    · rcases ite_eq_cases hx with ⟨_, hx⟩ | ⟨_, hx⟩
      · exact .inr (.inr ⟨_, _, _, hx.symm, .refl _, nofun⟩)
      · split at hx
        · rename_i t r' hp
          exact .inl ⟨t, r', hx.symm, (ite_eq_cases hp).imp And.right And.right⟩
        · rename_i e r' hp
          obtain ⟨d, rfl⟩ : Drops st.r r' ∧ e = .short := by
            rcases ite_eq_cases hp with ⟨_, hp⟩ | ⟨_, hp⟩
            · exact ⟨(parseTpl_reads _).drops_of hp, parseTpl_err hp⟩
            · exact ⟨(parseOptTpl_reads _).drops_of hp, parseOptTpl_err hp⟩
          exact .inr (.inr ⟨_, _, _, hx.symm, d, nofun⟩)
    · rcases ite_eq_cases hx with ⟨_, hx⟩ | ⟨_, hx⟩
      · exact .inr (.inr ⟨_, _, _, hx.symm, .refl _, nofun⟩)
      · rcases ite_eq_cases hx with ⟨_, hx⟩ | ⟨_, hx⟩
        · exact .inr (.inr ⟨_, _, _, hx.symm, .refl _, nofun⟩)
        · have h := decodeData_reads ctx.tr st.r
          split at hx
          · rename_i fs r' hd
            rcases ite_eq_cases hx with ⟨_, hx⟩ | ⟨hc, hx⟩
            · exact .inr (.inr ⟨_, _, _, hx.symm, h.drops_of hd, nofun⟩)
            · exact .inr (.inl ⟨fs, r', hx.symm, hd, hc⟩)
          · rename_i e r' hd
            have he : some e ≠ some Err.fuel := fun hx => h.err_of hd (Option.some.inj hx)
            rcases ite_eq_cases hx with ⟨_, hx⟩ | ⟨_, hx⟩
            · exact .inr (.inr ⟨_, _, _, hx.symm, h.drops_of hd, he⟩)
            · exact .inr (.inr ⟨_, _, _, hx.symm, h.drops_of hd, he⟩)
  · exact .inr (.inr ⟨_, _, _, hx.symm, .refl _, nofun⟩)

/-- `G` is what `P` lets one know of the template a data set is decoded with: it is looked up (a cached template, or
the empty one) before the record loop starts, so it has to hold whatever the loop then does to the state -/
structure Invariant (addr : Bytes) (P : St → Prop) (G : Template → Prop) : Prop where
  move : ∀ {st : St} {r' : Rd}, P st → Drops st.r r' → P { st with r := r' }
  install : ∀ {st : St} {t : Template} {r' : Rd}, P st → Parses st.r t r' →
    P { st with r := r', cache := st.cache.insert addr t.tid t }
  keep : ∀ {st : St} {tr : Template} {fs : Record} {r' : Rd}, P st → G tr →
    decodeData tr st.r = (.ok fs, r') → r'.cnt ≠ st.r.cnt → P { st with r := r', recs := st.recs ++ [fs] }
  cached : ∀ {st : St} {id : Nat} {t : Template}, P st → st.cache.lookup addr id = some t → G t
  empty : G emptyTpl

section
variable {addr : Bytes} {P : St → Prop} {G : Template → Prop}

theorem setLoop_preserves {ctx : Ctx} (inv : Invariant ctx.addr P G) (hG : G ctx.tr) :
    ∀ (fuel : Nat) (st : St), P st → P (setLoop ctx fuel st).1
  | 0, _, h => h
  | fuel+1, st, h => by
    rcases setLoop_succ ctx fuel st with ⟨t, r', he, hp⟩ | ⟨fs, r', he, hd, hc⟩ | ⟨r', e, d, he, hd, _⟩ <;> rw [he]
    · exact setLoop_preserves inv hG fuel _ (inv.install h hp)
    · exact setLoop_preserves inv hG fuel _ (inv.keep h hG hd hc)
    · exact inv.move h hd

theorem skipRest_eq (ctx : Ctx) (st : St) (e : Option Err) :
    ∃ r' e', skipRest ctx st e = ({ st with r := r' }, e') ∧ Drops st.r r' ∧ (e' = e ∨ e' = some .short) := by
  generalize hx : skipRest ctx st e = x
  unfold skipRest at hx
  rcases ite_eq_cases hx with ⟨_, hx⟩ | ⟨_, hx⟩
  · split at hx
    · exact ⟨_, _, hx.symm, .refl _, .inr rfl⟩
    · rename_i b r' hr
      exact ⟨_, _, hx.symm, (drops_readN hr).1, .inl rfl⟩
  · exact ⟨_, _, hx.symm, .refl _, .inl rfl⟩

theorem lookupTpl_cases (c : Cache) (addr : Bytes) (sid : Nat) :
    (∃ t, c.lookup addr sid = some t ∧ lookupTpl c addr sid = (some t, none)) ∨
    lookupTpl c addr sid = (none, none) ∨ lookupTpl c addr sid = (none, some .unknownTpl) := by
  unfold lookupTpl
  split
  · split
    · rename_i t ht; exact .inl ⟨t, ht, rfl⟩
    · exact .inr (.inr rfl)
  · exact .inr (.inl rfl)

theorem setBody_preserves (inv : Invariant addr P G) (sid len start fuel : Nat) (st : St) (h : P st) :
    P (setBody addr sid len start fuel st).1 := by
  have hG : G ((lookupTpl st.cache addr sid).1.getD emptyTpl) := by
    rcases lookupTpl_cases st.cache addr sid with ⟨t, ht, hl⟩ | hl | hl <;> rw [hl]
    · exact inv.cached h ht
    · exact inv.empty
    · exact inv.empty
  unfold setBody
  simp only []
  split
  · obtain ⟨r', e', he, hd, _⟩ := skipRest_eq _ st _
    rw [he]; exact inv.move h hd
  · have h1 := setLoop_preserves (ctx := ⟨addr, sid, len, start, _⟩) inv hG fuel st h
    split
    · exact h1
    · obtain ⟨r', e', he, hd, _⟩ := skipRest_eq _ _ _
      rw [he]; exact inv.move h1 hd

theorem decodeSet_cases (addr : Bytes) (fuel : Nat) (st : St) :
    (∃ r1, decodeSet addr fuel st = ({ st with r := r1 }, some .short) ∧ Drops st.r r1) ∨
    ∃ r2, Drops st.r r2 ∧ r2.cnt = st.r.cnt + 4 ∧
      (decodeSet addr fuel st = ({ st with r := r2 }, some .badSetLen) ∨
        ∃ sid len, decodeSet addr fuel st = setBody addr sid len st.r.cnt fuel { st with r := r2 }) := by
  unfold decodeSet
  split
  · exact .inl ⟨_, rfl, .refl _⟩
  · rename_i sid r1 h1
    obtain ⟨d1, c1⟩ := drops_rU16 h1
    split
    · exact .inl ⟨_, rfl, d1⟩
    · rename_i len r2 h2
      obtain ⟨d2, c2⟩ := drops_rU16 h2
      refine .inr ⟨r2, d1.trans d2, by omega, ?_⟩
      split
      · exact .inl rfl
      · exact .inr ⟨sid, len, rfl⟩

theorem decodeSet_preserves (inv : Invariant addr P G) (fuel : Nat) (st : St) (h : P st) :
    P (decodeSet addr fuel st).1 := by
  rcases decodeSet_cases addr fuel st with ⟨r1, he, d⟩ | ⟨r2, d, _, he | ⟨sid, len, he⟩⟩ <;> rw [he]
  · exact inv.move h d
  · exact inv.move h d
  · exact setBody_preserves inv _ _ _ _ _ (inv.move h d)

theorem outer_succ (addr : Bytes) (fuel : Nat) (st : St) (errs : List Err) :
    ((decodeSet addr (st.r.rem.length + 1) st).2 ≠ some .short ∧ ∃ errs',
      outer addr (fuel + 1) st errs = outer addr fuel (decodeSet addr (st.r.rem.length + 1) st).1 errs') ∨
    outer addr (fuel + 1) st errs =
      ((decodeSet addr (st.r.rem.length + 1) st).1, (decodeSet addr (st.r.rem.length + 1) st).2, errs) ∨
    outer addr (fuel + 1) st errs = (st, none, errs) := by
  rw [outer]
  split
  · split
    · rename_i st' hd
      rw [hd]; exact .inl ⟨nofun, _, rfl⟩
    · rename_i st' e hd
      rw [hd]
      split
      · rename_i hn
        refine .inl ⟨fun he => ?_, _, rfl⟩
        cases he; cases hn
      · exact .inr (.inl rfl)
  · exact .inr (.inr rfl)

theorem outer_preserves (inv : Invariant addr P G) : ∀ (fuel : Nat) (st : St) (errs : List Err),
    P st → P (outer addr fuel st errs).1
  | 0, _, _, h => h
  | fuel+1, st, errs, h => by
    have h1 := decodeSet_preserves inv (st.r.rem.length + 1) st h
    rcases outer_succ addr fuel st errs with ⟨_, errs', he⟩ | he | he <;> rw [he]
    · exact outer_preserves inv fuel _ errs' h1
    · exact h1
    · exact h

/-- `decode` reads its results off a state `outer` left: the cache always, the records unless it failed -/
theorem decode_preserves (inv : Invariant addr P G) (c : Cache) (bs : Bytes) (h : P ⟨⟨bs, 0⟩, c, []⟩) :
    ∃ st, P st ∧ (decode c addr bs).2 = st.cache ∧
      (recordsOf (decode c addr bs).1 = st.recs ∨ recordsOf (decode c addr bs).1 = []) := by
  unfold decode
  split
  · exact ⟨_, h, rfl, .inr rfl⟩
  · rename_i hd r5 hh
    split
    · exact ⟨_, h, rfl, .inr rfl⟩
    · have h1 := outer_preserves inv (bs.length + 1) _ [] (inv.move h (readHeader_drops hh))
      split
      · rename_i st e _ ho
        rw [ho] at h1; exact ⟨st, h1, rfl, .inr rfl⟩
      · rename_i st errs ho
        rw [ho] at h1; exact ⟨st, h1, rfl, .inl rfl⟩

end

def Step (st st' : St) : Prop :=
  Adv st.r st'.r ∧ st'.recs.length + st'.r.rem.length ≤ st.recs.length + st.r.rem.length

theorem Step.refl (st : St) : Step st st := ⟨Adv.refl _, Nat.le_refl _⟩
theorem Step.trans {a b c : St} (h1 : Step a b) (h2 : Step b c) : Step a c :=
  ⟨h1.1.trans h2.1, Nat.le_trans h2.2 h1.2⟩

theorem Step.of_adv {st st' : St} (h : Adv st.r st'.r) (hr : st'.recs = st.recs) : Step st st' := by
  refine ⟨h, ?_⟩
  have := h.1; have := h.2; rw [hr]; omega

theorem Step.invariant (addr : Bytes) (st0 : St) : Invariant addr (Step st0) fun _ => True where
  move h d := h.trans (.of_adv d.adv rfl)
  install h hp := h.trans (.of_adv hp.reads.1.adv rfl)
  keep h _ hd hc := by
    have a := ((decodeData_reads _ _).drops_of hd).adv
    refine h.trans ⟨a, ?_⟩
    have := a.rem_lt hc
    simp only [List.length_append, List.length_singleton]; omega
  cached _ _ := trivial
  empty := trivial

theorem decode_records_le (c : Cache) (addr bs : Bytes) : (recordsOf (decode c addr bs).1).length ≤ bs.length := by
  obtain ⟨st, hs, _, hr | hr⟩ := decode_preserves (Step.invariant addr _) c bs (.refl _) <;> rw [hr]
  · have := hs.2; simp only [List.length_nil] at this; omega
  · exact Nat.zero_le _

/-- every round that goes on has consumed an octet -/
theorem setLoop_ne_fuel (ctx : Ctx) : ∀ (fuel : Nat) (st : St),
    st.r.rem.length < fuel → (setLoop ctx fuel st).2.1 ≠ some .fuel
  | 0, _, h => absurd h (Nat.not_lt_zero _)
  | fuel+1, st, h => by
    rcases setLoop_succ ctx fuel st with ⟨t, r', he, hp⟩ | ⟨fs, r', he, hd, hc⟩ | ⟨r', e, d, he, _, hne⟩ <;> rw [he]
    · have hc : r'.cnt ≠ st.r.cnt := by have := hp.reads.2; omega
      exact setLoop_ne_fuel ctx fuel _ (Nat.lt_of_lt_of_le (hp.reads.1.adv.rem_lt hc) (Nat.le_of_lt_succ h))
    · have a := ((decodeData_reads ctx.tr st.r).drops_of hd).adv
      exact setLoop_ne_fuel ctx fuel _ (Nat.lt_of_lt_of_le (a.rem_lt hc) (Nat.le_of_lt_succ h))
    · exact hne

theorem setBody_ne_fuel (addr : Bytes) (sid len start fuel : Nat) (st : St) (hlt : st.r.rem.length < fuel) :
    (setBody addr sid len start fuel st).2 ≠ some .fuel := by
  unfold setBody
  simp only []
  split
  · rename_i e0 he0
    obtain ⟨r', e', he, _, h' | h'⟩ := skipRest_eq _ st _ <;> rw [he, h']
    · rcases lookupTpl_cases st.cache addr sid with ⟨t, _, hl⟩ | hl | hl <;> rw [hl] at he0 <;> cases he0
      nofun
    · nofun
  · split
    · exact setLoop_ne_fuel _ fuel st hlt
    · obtain ⟨r', e', he, _, h' | h'⟩ := skipRest_eq _ _ _ <;> rw [he, h']
      · exact setLoop_ne_fuel _ fuel st hlt
      · nofun

theorem decodeSet_ne_fuel (addr : Bytes) (fuel : Nat) (st : St) (hlt : st.r.rem.length < fuel) :
    (decodeSet addr fuel st).2 ≠ some .fuel := by
  rcases decodeSet_cases addr fuel st with ⟨r1, he, d⟩ | ⟨r2, d, _, he | ⟨sid, len, he⟩⟩ <;> rw [he]
  · nofun
  · nofun
  · exact setBody_ne_fuel _ _ _ _ _ _ (Nat.lt_of_le_of_lt d.rem_le hlt)

theorem decodeSet_consumes (addr : Bytes) (fuel : Nat) (st : St) :
    (decodeSet addr fuel st).2 = some .short ∨ st.r.cnt + 4 ≤ (decodeSet addr fuel st).1.r.cnt := by
  rcases decodeSet_cases addr fuel st with ⟨r1, he, d⟩ | ⟨r2, d, c, he | ⟨sid, len, he⟩⟩ <;> rw [he]
  · exact .inl rfl
  · exact .inr (Nat.le_of_eq c.symm)
  · have := (setBody_preserves (Step.invariant addr _) sid len st.r.cnt fuel { st with r := r2 } (.refl _)).1.2
    exact .inr (by simp only at this; omega)

/-- every round that goes on has consumed a set header -/
theorem outer_ne_fuel (addr : Bytes) : ∀ (fuel : Nat) (st : St) (errs : List Err),
    st.r.rem.length < fuel → (outer addr fuel st errs).2.1 ≠ some .fuel
  | 0, _, _, h => absurd h (Nat.not_lt_zero _)
  | fuel+1, st, errs, h => by
    rcases outer_succ addr fuel st errs with ⟨hs, errs', he⟩ | he | he <;> rw [he]
    · refine outer_ne_fuel addr fuel _ errs' ?_
      have := (decodeSet_preserves (Step.invariant addr st) (st.r.rem.length + 1) st (.refl st)).1.1
      have := (decodeSet_consumes addr (st.r.rem.length + 1) st).resolve_left hs
      omega
    · exact decodeSet_ne_fuel addr _ st (Nat.lt_succ_self _)
    · nofun

theorem decode_ne_fuel (c : Cache) (addr bs : Bytes) : (decode c addr bs).1 ≠ .error .fuel := by
  unfold decode
  split
  · nofun
  · rename_i hd r5 hh
    split
    · nofun
    · have h1 := outer_ne_fuel addr (bs.length + 1) ⟨r5, c, []⟩ [] (Nat.lt_succ_of_le (readHeader_drops hh).rem_le)
      split
      · rename_i st e _ ho
        rw [ho] at h1; exact fun hx => h1 (by cases hx; rfl)
      · nofun

/-! The fuel lemmas in the form `IpfixIR*` takes them. -/

theorem setLoop_fuel (ctx : Ctx) (fuel : Nat) (st st' : St) (e : Option Err) (d : Bool)
    (hlt : st.r.rem.length < fuel) (h : setLoop ctx fuel st = (st', e, d)) : e ≠ some .fuel ∧ Step st st' := by
  have h1 := setLoop_ne_fuel ctx fuel st hlt
  have h2 := setLoop_preserves (Step.invariant ctx.addr st) trivial fuel st (.refl st)
  rw [h] at h1 h2
  exact ⟨h1, h2⟩

theorem decodeSet_fuel {addr : Bytes} {fuel : Nat} {st st' : St} {e : Option Err}
    (hlt : st.r.rem.length < fuel) (h : decodeSet addr fuel st = (st', e)) :
    e ≠ some .fuel ∧ Step st st' ∧ (e = some .short ∨ st.r.cnt + 4 ≤ st'.r.cnt) := by
  have h1 := decodeSet_ne_fuel addr fuel st hlt
  have h2 := decodeSet_preserves (Step.invariant addr st) fuel st (.refl st)
  have h3 := decodeSet_consumes addr fuel st
  rw [h] at h1 h2 h3
  exact ⟨h1, h2, h3⟩

end Vflow.Ipfix
