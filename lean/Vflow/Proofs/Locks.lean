import Vflow.Model.Locks
import Vflow.Proofs.Threaded
/-!
# The lock discipline as an invariant of every step (C10)

The lock-discipline invariant `LInv`, what `wb` asks of a thread's holdings before its next action
(`Permits`), preservation of the invariant by every step, and absence of races under it. Core Lean only.
-/
namespace Vflow
namespace Locks

/-- invariant: every thread's remaining program is well bracketed from what it holds; nobody holds
    a lock twice; a write lock excludes every other holder -/
structure LInv (σ : Sys) : Prop where
  wbAll : ∀ t ∈ σ.threads, wb t.held t.prog = true
  nodup : ∀ t ∈ σ.threads, t.held.w.Nodup ∧ t.held.r.Nodup ∧ ∀ s, s ∈ t.held.w → s ∉ t.held.r
  excl : ∀ (i j : Nat) (ti tj : Thread) (s : Nat), σ.threads[i]? = some ti → σ.threads[j]? = some tj →
           i ≠ j → s ∈ ti.held.w → s ∉ tj.held.w ∧ s ∉ tj.held.r

/-- what `wb` asks of the holdings before an action: acquisitions go up in shard order, a release or
    an access needs the lock (a write the write lock) -/
def Permits (h : Held) : Act → Prop
  | .lock s | .rlock s => (∀ x ∈ h.w, x < s) ∧ (∀ x ∈ h.r, x < s)
  | .unlock s | .wr s _ _ => s ∈ h.w
  | .runlock s => s ∈ h.r
  | .rd s _ | .iter s => s ∈ h.w ∨ s ∈ h.r

theorem wb_cons_iff {h : Held} {a : Act} {p : List Act} :
    wb h (a :: p) = true ↔ Permits h a ∧ wb (heldAfter h a) p = true := by
  cases a <;> simp [wb, Permits, heldAfter]

theorem wb_permits {h : Held} {a : Act} {p : List Act} (hw : wb h (a :: p) = true) : Permits h a :=
  (wb_cons_iff.mp hw).1

theorem wb_cons {h : Held} {a : Act} {p : List Act} (hw : wb h (a :: p) = true) :
    wb (heldAfter h a) p = true :=
  (wb_cons_iff.mp hw).2

theorem wb_unlock {h : Held} {s : Nat} {p : List Act} (hw : wb h (.unlock s :: p) = true) : s ∈ h.w :=
  wb_permits hw

theorem wb_runlock {h : Held} {s : Nat} {p : List Act} (hw : wb h (.runlock s :: p) = true) : s ∈ h.r :=
  wb_permits hw

theorem wb_nil {h : Held} (hw : wb h [] = true) : h.w = [] ∧ h.r = [] := by
  simpa [wb] using hw

theorem mem_heldAfter_w {h : Held} {a : Act} {x : Nat} (hx : x ∈ (heldAfter h a).w) :
    x ∈ h.w ∨ a = .lock x := by
  cases a <;> try exact .inl hx
  case lock s => exact (List.mem_cons.mp hx).elim (fun e => .inr (e ▸ rfl)) .inl
  case unlock s => exact .inl (List.mem_of_mem_erase hx)

theorem mem_heldAfter_r {h : Held} {a : Act} {x : Nat} (hx : x ∈ (heldAfter h a).r) :
    x ∈ h.r ∨ a = .rlock x := by
  cases a <;> try exact .inl hx
  case rlock s => exact (List.mem_cons.mp hx).elim (fun e => .inr (e ▸ rfl)) .inl
  case runlock s => exact .inl (List.mem_of_mem_erase hx)

theorem heldAfter_nodup {h : Held} {a : Act} (hp : Permits h a)
    (ok : h.w.Nodup ∧ h.r.Nodup ∧ ∀ s, s ∈ h.w → s ∉ h.r) :
    (heldAfter h a).w.Nodup ∧ (heldAfter h a).r.Nodup ∧
      ∀ s, s ∈ (heldAfter h a).w → s ∉ (heldAfter h a).r := by
  obtain ⟨ndw, ndr, ndd⟩ := ok
  refine ⟨?_, ?_, fun x hw hr => ?_⟩
  · cases a <;> try exact ndw
    case lock s => exact List.nodup_cons.mpr ⟨fun hc => Nat.lt_irrefl _ (hp.1 s hc), ndw⟩
    case unlock s => exact ndw.erase s
  · cases a <;> try exact ndr
    case rlock s => exact List.nodup_cons.mpr ⟨fun hc => Nat.lt_irrefl _ (hp.2 s hc), ndr⟩
    case runlock s => exact ndr.erase s
  · rcases mem_heldAfter_w hw with hw | rfl
    · rcases mem_heldAfter_r hr with hr | rfl
      · exact ndd x hw hr
      · exact Nat.lt_irrefl _ (hp.1 x hw)
    · exact Nat.lt_irrefl _ (hp.2 x ((mem_heldAfter_r hr).resolve_right Act.noConfusion))

theorem LInv.permits {σ : Sys} (h : LInv σ) {i : Nat} {t : Thread} {a : Act} {p : List Act}
    (hi : σ.threads[i]? = some t) (hp : t.prog = a :: p) : Permits t.held a :=
  wb_permits (hp ▸ h.wbAll t (List.mem_of_getElem? hi))

/-- **every step keeps the invariant**: the new holdings are the old ones or the lock just taken, which
    `Enabled` says nobody else holds -/
theorem step_preserves {σ σ' : Sys} {i : Nat} {a : Act} (h : LInv σ) (st : Step σ i a σ') : LInv σ' := by
  obtain ⟨t, p, hi, hp, hen, rfl⟩ := st
  have hm : t ∈ σ.threads := List.mem_of_getElem? hi
  have w : wb t.held (a :: p) = true := hp ▸ h.wbAll t hm
  -- what the moved thread write-holds afterwards, nobody else holds
  have hout : ∀ j tj s, σ.threads[j]? = some tj → j ≠ i → s ∈ (heldAfter t.held a).w →
      s ∉ tj.held.w ∧ s ∉ tj.held.r := by
    intro j tj s hj hji hs
    rcases mem_heldAfter_w hs with hs | rfl
    · exact h.excl i j t tj s hi hj (Ne.symm hji) hs
    · exact ⟨fun hc => hen.1 ⟨tj, List.mem_of_getElem? hj, hc⟩, fun hc => hen.2 ⟨tj, List.mem_of_getElem? hj, hc⟩⟩
  -- what another thread write-holds, the moved thread does not hold afterwards
  have hin : ∀ j tj s, σ.threads[j]? = some tj → j ≠ i → s ∈ tj.held.w →
      s ∉ (heldAfter t.held a).w ∧ s ∉ (heldAfter t.held a).r := by
    intro j tj s hj hji hs
    have ex := h.excl j i tj t s hj hi hji hs
    refine ⟨fun hc => ?_, fun hc => ?_⟩
    · rcases mem_heldAfter_w hc with hc | rfl
      · exact ex.1 hc
      · exact hen.1 ⟨tj, List.mem_of_getElem? hj, hs⟩
    · rcases mem_heldAfter_r hc with hc | rfl
      · exact ex.2 hc
      · exact hen ⟨tj, List.mem_of_getElem? hj, hs⟩
  refine ⟨fun x hx => ?_, fun x hx => ?_, ?_⟩
  · rcases List.mem_or_eq_of_mem_set hx with hx | rfl
    · exact h.wbAll x hx
    · exact wb_cons w
  · rcases List.mem_or_eq_of_mem_set hx with hx | rfl
    · exact h.nodup x hx
    · exact heldAfter_nodup (wb_permits w) (h.nodup t hm)
  · intro j k tj tk s hj hk hjk hs
    rcases getElem?_set_cases hj with ⟨rfl, rfl, _⟩ | ⟨hji, hj'⟩
    · rcases getElem?_set_cases hk with ⟨hkj, _, _⟩ | ⟨hki, hk'⟩
      · exact absurd hkj.symm hjk
      · exact hout k tk s hk' hki hs
    · rcases getElem?_set_cases hk with ⟨rfl, rfl, _⟩ | ⟨hki, hk'⟩
      · exact hin j tj s hj' hji hs
      · exact h.excl j k tj tk s hj' hk' hjk hs

theorem linv_init {σ : Sys} (h0 : Init σ) : LInv σ := by
  refine ⟨?_, ?_, ?_⟩
  · intro t ht; rw [(h0 t ht).1]; exact (h0 t ht).2.2
  · intro t ht; rw [(h0 t ht).1]; simp
  · intro i j ti tj s hi _ _ hs
    rw [(h0 ti (List.mem_of_getElem? hi)).1] at hs; simp at hs

theorem run_linv' {init cur : Sys} {hist : List Ev} (h0 : LInv init) (hr : Run init hist cur) : LInv cur := by
  induction hr with
  | start => exact h0
  | step _ st ih => exact step_preserves ih st

theorem run_linv {init cur : Sys} {hist : List Ev} (h0 : Init init) (hr : Run init hist cur) : LInv cur :=
  run_linv' (linv_init h0) hr

theorem inv_no_race {σ : Sys} (h : LInv σ) : ¬ Race σ := by
  rintro ⟨i, j, ti, tj, a, b, hij, hi, hj, ha, hb, hc⟩
  obtain ⟨pi, hpi⟩ := List.head?_eq_some_iff.mp ha
  obtain ⟨pj, hpj⟩ := List.head?_eq_some_iff.mp hb
  have pa := h.permits hi hpi
  have pb := h.permits hj hpj
  cases a <;> try exact hc
  case wr s k v =>
    have ex := h.excl i j ti tj s hi hj hij pa
    cases b <;> try exact hc
    case wr s' k' v' => cases hc; exact ex.1 pb
    case rd s' k' => cases hc; exact pb.elim ex.1 ex.2
    case iter s' => cases hc; exact pb.elim ex.1 ex.2

end Locks
end Vflow
