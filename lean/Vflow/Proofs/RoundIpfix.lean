import Vflow.Model.Ipfix
import Vflow.Proofs.WireLemmas
import Vflow.Proofs.EqnsIpfix
/-!
# C03 — IPFIX round trip: what the RFC 7011 encoder of `Spec/Wire.lean` writes, the decoder model
reads back exactly

From the leaves up: field (incl. variable length) → record → record loop → set → message.  `Props/C03` re-exports
the main statements with what they claim about the decoder.
-/
namespace Vflow.Ipfix
open Vflow Vflow.Wire
open Vflow.Wire.Ipfix (VVal)

attribute [local irreducible] Vflow.lookupElem

/-- `p` is the length prefix `getDataLength` reads (empty for a fixed-length field); `specMin s` is what `minRecLen`
counts for the specifier. -/
theorem wfField_wire {s : Spec} {v : VVal} (hw : Wire.Ipfix.wfField s v = true) :
    (∃ fid ty, lookupElem s.ent s.id = some (fid, ty)) ∧
    ∃ p, Wire.Ipfix.encodeField s v = p ++ v.octets ∧ specMin s ≤ (p ++ v.octets).length ∧
      ∀ tail c, dataLen ⟨p ++ tail, c⟩ s.len = (.ok v.octets.length, ⟨tail, c + p.length⟩) := by
  unfold Wire.Ipfix.wfField at hw
  split at hw
  · cases hw
  · rename_i q hlk
    refine ⟨⟨q.1, q.2, hlk⟩, ?_⟩
    unfold Wire.Ipfix.encodeField specMin dataLen
    by_cases h1 : s.len = 65535
    · simp only [if_pos h1] at hw ⊢
      by_cases h2 : v.long = true
      · simp only [if_pos h2, decide_eq_true_eq] at hw ⊢
        refine ⟨UInt8.ofNat 255 :: be16 v.octets.length, rfl, by simp, fun tail c => ?_⟩
        simp only [List.cons_append, rU8_byte 255 (by decide), if_true, rU16_be16 _ hw, List.length_cons,
          be16_length, Nat.add_assoc]
      · simp only [if_neg h2, decide_eq_true_eq] at hw ⊢
        refine ⟨_, rfl, by simp, fun tail c => ?_⟩
        simp only [List.singleton_append, rU8_byte _ (show v.octets.length < 256 by omega),
          if_neg (show ¬ v.octets.length = 255 by omega)]
        rfl
    · simp only [if_neg h1, beq_iff_eq] at hw ⊢
      exact ⟨[], rfl, by simp [hw], fun tail c => by rw [hw]; rfl⟩

theorem wfField_of_lookup {s : Spec} {p : Nat × Nat} (h : lookupElem s.ent s.id = some p) (v : VVal) :
    Wire.Ipfix.wfField s v =
      if s.len = 65535 then (if v.long then decide (v.octets.length < 65536) else decide (v.octets.length < 255))
      else v.octets.length == s.len := by
  unfold Wire.Ipfix.wfField
  rw [h]

theorem decFields_roundtrip : ∀ (specs : List Spec) (vals : List VVal) (rest : Bytes) (c : Nat)
    (acc : Record),
    specs.length = vals.length → (List.zipWith Wire.Ipfix.wfField specs vals).all id = true →
    decFields specs ⟨(List.zipWith Wire.Ipfix.encodeField specs vals).flatten ++ rest, c⟩ acc =
      (.ok (acc ++ List.zipWith expectedField specs (vals.map (·.octets))),
       ⟨rest, c + (List.zipWith Wire.Ipfix.encodeField specs vals).flatten.length⟩) := by
  intro specs vals rest c acc hl hw
  match specs, vals, hl, hw with
  | [], [], _, _ => simp [decFields_nil]
  | f :: fs, v :: vs, hl, hw =>
    simp only [List.zipWith_cons_cons, List.all_cons, id, Bool.and_eq_true] at hw
    obtain ⟨⟨fid, ty, hlk⟩, p, hp, -, hdl⟩ := wfField_wire hw.1
    rw [decFields_cons]
    simp only [List.zipWith_cons_cons, List.flatten_cons, hp, List.append_assoc, hlk, hdl, readN_append,
      List.map_cons, expectedField_of_lookup hlk]
    rw [decFields_roundtrip fs vs rest _ _ (by simpa using hl) hw.2]
    simp [Nat.add_assoc]

theorem decodeData_roundtrip (t : Template) (vals : List VVal) (rest : Bytes) (c : Nat)
    (hw : Wire.Ipfix.wfRecord t vals = true) :
    decodeData t ⟨Wire.Ipfix.encodeRecord t vals ++ rest, c⟩ =
      (.ok (Wire.Ipfix.expectedRecord t vals), ⟨rest, c + (Wire.Ipfix.encodeRecord t vals).length⟩) := by
  simp only [Wire.Ipfix.wfRecord, Bool.and_eq_true, beq_iff_eq, decide_eq_true_eq] at hw
  obtain ⟨⟨hl, hwf⟩, hlen⟩ := hw
  unfold decodeData
  rw [show t.scope ++ t.fields = specsOf t from rfl, Wire.Ipfix.encodeRecord,
    decFields_roundtrip (specsOf t) vals rest c [] hl hwf, List.nil_append]
  -- a record of positive length has a field
  have hne : (List.zipWith expectedField (specsOf t) (vals.map (·.octets))).isEmpty = false := by
    unfold Wire.Ipfix.encodeRecord at hlen
    cases hsp : specsOf t <;> cases vals <;> simp [hsp] at hlen ⊢
  simp only [hne]
  rfl

def body (t : Template) (records : List (List VVal)) : Bytes :=
  (records.map (Wire.Ipfix.encodeRecord t)).flatten

theorem body_nil (t : Template) : body t [] = [] := rfl
theorem body_cons (t : Template) (x : List VVal) (xs : List (List VVal)) :
    body t (x :: xs) = Wire.Ipfix.encodeRecord t x ++ body t xs := by
  simp [body]

theorem wfRecord_pos {t : Template} {x : List VVal} (h : Wire.Ipfix.wfRecord t x = true) :
    0 < (Wire.Ipfix.encodeRecord t x).length := by
  simp only [Wire.Ipfix.wfRecord, Bool.and_eq_true, decide_eq_true_eq] at h
  exact h.2

theorem fields_length_ge : ∀ (specs : List Spec) (vals : List VVal), specs.length = vals.length →
    (List.zipWith Wire.Ipfix.wfField specs vals).all id = true →
    (specs.map specMin).sum ≤ (List.zipWith Wire.Ipfix.encodeField specs vals).flatten.length
  | [], _, _, _ => by simp
  | _ :: _, [], hl, _ => by simp at hl
  | f :: fs, v :: vs, hl, hw => by
    simp only [List.zipWith_cons_cons, List.all_cons, id, Bool.and_eq_true] at hw
    obtain ⟨-, p, hp, hmin, -⟩ := wfField_wire hw.1
    have := fields_length_ge fs vs (by simpa using hl) hw.2
    simp only [List.map_cons, List.sum_cons, List.zipWith_cons_cons, List.flatten_cons, List.length_append, hp]
      at hmin ⊢
    omega

/-- **RFC 7011 §3.3.1 made precise**: no conforming record is shorter than `minRecLen` of its template -/
theorem wfRecord_minRecLen {t : Template} {x : List VVal} (h : Wire.Ipfix.wfRecord t x = true) :
    Wire.Ipfix.minRecLen t ≤ (Wire.Ipfix.encodeRecord t x).length := by
  simp only [Wire.Ipfix.wfRecord, Bool.and_eq_true, beq_iff_eq, decide_eq_true_eq] at h
  exact fields_length_ge (specsOf t) x h.1.1 h.1.2

/-- the decoder's `minRecordLen` is the RFC's shortest record, clamped to 1 -/
theorem minRecLen_spec (t : Template) :
    minRecLen t = if Wire.Ipfix.minRecLen t < 1 then 1 else Wire.Ipfix.minRecLen t := rfl

/-- `k` octets of the set are left when the reader has consumed `c` octets of the message: the length the set
header announced minus what was read since; the length fits 16 bits, so the decoder's `uint16` arithmetic is exact -/
def Left (ctx : Ctx) (c k : Nat) : Prop :=
  ctx.start ≤ c ∧ (c - ctx.start) + k = ctx.len ∧ ctx.len < 65536

theorem Left.adv {ctx : Ctx} {c m k : Nat} (h : Left ctx c (m + k)) : Left ctx (c + m) k := by
  obtain ⟨h1, h2, h3⟩ := h
  exact ⟨by omega, by omega, h3⟩

/-- what the decoder computes as the rest of the set, `Length - uint16(ReadCount() - startCount)` in `uint16` -/
theorem Left.leftover {ctx : Ctx} {c k : Nat} (h : Left ctx c k) (rem : Bytes) :
    (ctx.len + 65536 - consumed16 ctx ⟨rem, c⟩) % 65536 = k ∧ consumed16 ctx ⟨rem, c⟩ = ctx.len - k := by
  obtain ⟨h1, h2, h3⟩ := h
  simp only [consumed16, Nat.mod_eq_of_lt (show c - ctx.start < 65536 by omega)]
  rw [show ctx.len + 65536 - (c - ctx.start) = k + 65536 by omega, Nat.add_mod_right,
    Nat.mod_eq_of_lt (by omega)]
  exact ⟨rfl, by omega⟩

theorem contCond_eq {ctx : Ctx} {rem : Bytes} {c k : Nat} (h : Left ctx c k) (hrem : k ≤ rem.length) :
    contCond ctx ⟨rem, c⟩ = decide (minLeft ctx ≤ k) := by
  have := minLeft_pos ctx
  have hlen := h.2.1
  unfold contCond
  rw [(h.leftover rem).1, (h.leftover rem).2]
  by_cases hk : minLeft ctx ≤ k
  · rw [decide_eq_true hk, Bool.and_true]
    simp only [Bool.and_eq_true, decide_eq_true_eq]
    omega
  · rw [decide_eq_false hk, Bool.and_false]

/-- One statement for the three kinds of set: `xs` are its items (records, template records, options template
records), `ft x` the templates and `fr x` the records that one round of the loop on `x` yields. -/
theorem setLoop_items {α : Type} (ctx : Ctx) (enc : α → Bytes) (ft : α → List Template)
    (fr : α → List Record) (pad rest : Bytes) (hpad : pad.length < minLeft ctx) :
    ∀ (xs : List α) (fuel c : Nat) (cache : Cache) (recs : List Record),
      (∀ x ∈ xs, minLeft ctx ≤ (enc x).length ∧ ∀ n tail c cache recs,
        contCond ctx ⟨enc x ++ tail, c⟩ = true →
        setLoop ctx (n + 1) ⟨⟨enc x ++ tail, c⟩, cache, recs⟩ =
          setLoop ctx n ⟨⟨tail, c + (enc x).length⟩, insertAll ctx.addr cache (ft x), recs ++ fr x⟩) →
      Left ctx c ((xs.map enc).flatten.length + pad.length) → xs.length < fuel →
      setLoop ctx fuel ⟨⟨(xs.map enc).flatten ++ (pad ++ rest), c⟩, cache, recs⟩ =
        (⟨⟨pad ++ rest, c + (xs.map enc).flatten.length⟩, insertAll ctx.addr cache (xs.flatMap ft),
          recs ++ xs.flatMap fr⟩, none, false)
  | [], fuel + 1, c, cache, recs, _, hleft, _ => by
    simp only [List.map_nil, List.flatten_nil, List.length_nil, Nat.zero_add] at hleft
    rw [setLoop, contCond_eq hleft (by simp), decide_eq_false (by omega)]
    simp [insertAll]
  | x :: xs, fuel + 1, c, cache, recs, hx, hleft, hfuel => by
    obtain ⟨hmin, hstep⟩ := hx x List.mem_cons_self
    simp only [List.map_cons, List.flatten_cons, List.length_append, List.append_assoc, Nat.add_assoc]
      at hleft ⊢
    rw [hstep _ _ _ _ _ (by rw [contCond_eq hleft (by simp)]; exact decide_eq_true (by omega)),
      setLoop_items ctx enc ft fr pad rest hpad xs fuel _ _ _
        (fun y hy => hx y (List.mem_cons_of_mem x hy)) hleft.adv (by simpa using hfuel)]
    simp [insertAll, List.foldl_append, Nat.add_assoc]

theorem setLoop_record (ctx : Ctx) (hsid : 255 < ctx.setId) (x : List VVal)
    (hw : Wire.Ipfix.wfRecord ctx.tr x = true) (n : Nat) (tail : Bytes) (c : Nat) (cache : Cache)
    (recs : List Record) (hc : contCond ctx ⟨Wire.Ipfix.encodeRecord ctx.tr x ++ tail, c⟩ = true) :
    setLoop ctx (n + 1) ⟨⟨Wire.Ipfix.encodeRecord ctx.tr x ++ tail, c⟩, cache, recs⟩ =
      setLoop ctx n ⟨⟨tail, c + (Wire.Ipfix.encodeRecord ctx.tr x).length⟩, insertAll ctx.addr cache [],
        recs ++ [Wire.Ipfix.expectedRecord ctx.tr x]⟩ := by
  have hpos := wfRecord_pos hw
  rw [setLoop, if_pos hc, if_neg (by omega), if_neg (by omega), if_neg (by omega)]
  simp only [decodeData_roundtrip ctx.tr x tail c hw]
  rw [if_neg (by omega)]
  rfl

theorem setLoop_template (ctx : Ctx) (hsid : ctx.setId = 2 ∨ ctx.setId = 3) (enc : Template → Bytes)
    (parse : Rd → Except Err Template × Rd)
    (hsel : ∀ r, (if ctx.setId = 2 then parseTpl r else parseOptTpl r) = parse r)
    (t : Template) (htid : 0 < t.tid)
    (hpeek : ∀ tail c, Rd.peek16 ⟨enc t ++ tail, c⟩ = some t.tid)
    (hparse : ∀ tail c, parse ⟨enc t ++ tail, c⟩ = (.ok t, ⟨tail, c + (enc t).length⟩))
    (n : Nat) (tail : Bytes) (c : Nat) (cache : Cache) (recs : List Record)
    (hc : contCond ctx ⟨enc t ++ tail, c⟩ = true) :
    setLoop ctx (n + 1) ⟨⟨enc t ++ tail, c⟩, cache, recs⟩ =
      setLoop ctx n ⟨⟨tail, c + (enc t).length⟩, insertAll ctx.addr cache [t], recs ++ []⟩ := by
  rw [setLoop, if_pos hc, if_pos hsid]
  simp only [hpeek, hsel, hparse, List.append_nil]
  rw [if_neg (by simp; omega)]
  rfl

theorem encodeSet_length (id : Nat) (b pad : Bytes) :
    (Wire.Ipfix.encodeSet id b pad).length = 4 + (b.length + pad.length) := by
  simp [Wire.Ipfix.encodeSet, be16_length]; omega

/-- `otr` is what `mem.retrieve` returns for the set id (nothing for the template sets) -/
theorem decodeSet_of_setLoop (addr : Bytes) (sid : Nat) (otr : Option Template) (b pad rest : Bytes)
    (c fuel : Nat) (cache cache' : Cache) (recs recs' : List Record) (hsid : sid < 65536)
    (hlen : 4 + (b ++ pad).length < 65536) (hlook : lookupTpl cache addr sid = (otr, none))
    (hloop : ∀ ctx : Ctx, ctx = ⟨addr, sid, 4 + (b ++ pad).length, c, otr.getD emptyTpl⟩ →
      Left ctx (c + 4) (b.length + pad.length) →
      setLoop ctx fuel ⟨⟨b ++ (pad ++ rest), c + 4⟩, cache, recs⟩ =
        (⟨⟨pad ++ rest, c + 4 + b.length⟩, cache', recs'⟩, none, false)) :
    decodeSet addr fuel ⟨⟨Wire.Ipfix.encodeSet sid b pad ++ rest, c⟩, cache, recs⟩ =
      (⟨⟨rest, c + (Wire.Ipfix.encodeSet sid b pad).length⟩, cache', recs'⟩, none) := by
  have hleft : Left ⟨addr, sid, 4 + (b ++ pad).length, c, otr.getD emptyTpl⟩ (c + 4) (b.length + pad.length) :=
    ⟨Nat.le_add_right c 4, by simp only [List.length_append]; omega, hlen⟩
  rw [encodeSet_length]
  simp only [decodeSet, Wire.Ipfix.encodeSet, List.append_assoc, rU16_be16 sid hsid,
    rU16_be16 _ hlen, if_neg (Nat.not_lt.2 (Nat.le_add_right 4 _)), setBody, hlook, hloop _ rfl hleft]
  -- the leftover is the padding
  simp only [Bool.false_eq_true, if_false, skipRest, (hleft.adv.leftover _).1]
  by_cases hp : pad.length = 0
  · rw [List.eq_nil_of_length_eq_zero hp]
    simp [Nat.add_assoc]
  · rw [if_pos (by omega), readN_append]
    simp only [Nat.add_assoc]

theorem setLoop_data (ctx : Ctx) (hsid : 255 < ctx.setId) (hlen16 : ctx.len < 65536)
    (records : List (List VVal)) (pad rest : Bytes) (fuel : Nat) (st : St)
    (hrec : ∀ x ∈ records, Wire.Ipfix.wfRecord ctx.tr x = true)
    (hpad : pad.length < Wire.Ipfix.minRecLen ctx.tr)
    (hrem : st.r.rem = body ctx.tr records ++ (pad ++ rest))
    (hstart : ctx.start ≤ st.r.cnt)
    (hleft : (st.r.cnt - ctx.start) + ((body ctx.tr records).length + pad.length) = ctx.len)
    (hfuel : records.length < fuel) :
    setLoop ctx fuel st =
      ({ st with r := ⟨pad ++ rest, st.r.cnt + (body ctx.tr records).length⟩,
                 recs := st.recs ++ records.map (Wire.Ipfix.expectedRecord ctx.tr) }, none, false) := by
  obtain ⟨⟨rem, c⟩, cache, recs⟩ := st
  subst hrem
  have hmin : minLeft ctx = minRecLen ctx.tr := if_pos hsid
  have := setLoop_items ctx (Wire.Ipfix.encodeRecord ctx.tr) (fun _ => []) (fun x => [Wire.Ipfix.expectedRecord ctx.tr x])
    pad rest (by rw [hmin, minRecLen_spec]; split <;> omega) records fuel c cache recs
    (fun x hx => by
      have h1 := wfRecord_minRecLen (hrec x hx)
      have h2 := wfRecord_pos (hrec x hx)
      exact ⟨by rw [hmin, minRecLen_spec]; split <;> omega, setLoop_record ctx hsid x (hrec x hx)⟩)
    ⟨hstart, hleft, hlen16⟩ hfuel
  rw [flatMap_nil', ← List.map_eq_flatMap] at this
  exact this

theorem decodeSet_data (addr : Bytes) (t : Template) (records : List (List VVal)) (pad rest : Bytes)
    (c fuel : Nat) (cache : Cache) (recs : List Record)
    (hw : Wire.Ipfix.wfSet addr cache (.data t records pad) = true) (hfuel : records.length < fuel) :
    decodeSet addr fuel ⟨⟨Wire.Ipfix.encodeDataSet t records pad ++ rest, c⟩, cache, recs⟩ =
      (⟨⟨rest, c + (Wire.Ipfix.encodeDataSet t records pad).length⟩, cache,
        recs ++ records.map (Wire.Ipfix.expectedRecord t)⟩, none) := by
  simp only [Wire.Ipfix.wfSet, Wire.Ipfix.wfSetLen, Wire.Ipfix.wfDataPad, Bool.and_eq_true, decide_eq_true_eq,
    beq_iff_eq, List.all_eq_true] at hw
  obtain ⟨⟨⟨⟨⟨h255, h64k⟩, hlk⟩, _⟩, hrec⟩, hpad, hlen⟩ := hw
  refine decodeSet_of_setLoop addr t.tid (some t) _ pad rest c fuel cache _ recs _ h64k hlen
    (by simp only [lookupTpl, if_pos h255, hlk]) fun ctx hctx hleft => ?_
  subst hctx
  exact setLoop_data _ h255 hleft.2.2 records pad rest fuel _ hrec hpad rfl hleft.1 hleft.2.1 hfuel

theorem wfSpec_iff (s : Spec) :
    Wire.Ipfix.wfSpec s = true ↔
      s.len < 65536 ∧ s.id < 32768 ∧ s.ent < 4294967296 ∧ (s.ent = 0 ∨ 1 ≤ s.id) := by
  simp only [Wire.Ipfix.wfSpec, Bool.and_eq_true, Bool.or_eq_true, decide_eq_true_eq, beq_iff_eq,
    and_assoc]

theorem readSpec_roundtrip (s : Spec) (hw : Wire.Ipfix.wfSpec s = true) (rest : Bytes) (c : Nat) :
    readSpec ⟨Wire.Ipfix.encodeSpec s ++ rest, c⟩ =
      (.ok s, ⟨rest, c + (Wire.Ipfix.encodeSpec s).length⟩) := by
  obtain ⟨id, len, ent⟩ := s
  obtain ⟨h1, h2, h3, h4⟩ : len < 65536 ∧ id < 32768 ∧ ent < 4294967296 ∧ (ent = 0 ∨ 1 ≤ id) :=
    (wfSpec_iff _).1 hw
  unfold Wire.Ipfix.encodeSpec
  by_cases he : ent = 0
  · subst he
    simp only [if_pos, readSpec, List.append_assoc, rU16_be16 id (by omega), rU16_be16 len h1,
      if_neg (by omega : ¬ id > 0x8000), List.length_append, be16_length, Nat.add_assoc]
  · -- the enterprise bit makes the identifier exceed 0x8000 because enterprise elements have id ≥ 1
    simp only [if_neg he, readSpec, List.append_assoc, rU16_be16 (32768 + id) (by omega), rU16_be16 len h1,
      if_pos (by omega : 32768 + id > 0x8000), rU32_be32 ent h3, List.length_append, be16_length, be32_length,
      Nat.add_assoc, show (32768 + id) % 0x8000 = id by omega]

theorem readSpecs_roundtrip : ∀ (specs : List Spec) (rest : Bytes) (c : Nat) (acc : List Spec),
    specs.all Wire.Ipfix.wfSpec = true →
    readSpecs specs.length ⟨(specs.map Wire.Ipfix.encodeSpec).flatten ++ rest, c⟩ acc =
      (.ok (acc ++ specs), ⟨rest, c + (specs.map Wire.Ipfix.encodeSpec).flatten.length⟩)
  | [], rest, c, acc, _ => by simp [readSpecs]
  | s :: ss, rest, c, acc, hw => by
    simp only [List.all_cons, Bool.and_eq_true] at hw
    simp only [List.length_cons, readSpecs, List.map_cons, List.flatten_cons, List.append_assoc,
      readSpec_roundtrip s hw.1, readSpecs_roundtrip ss rest _ (acc ++ [s]) hw.2, List.singleton_append,
      List.length_append, Nat.add_assoc]

theorem wfTemplate_iff (t : Template) :
    Wire.Ipfix.wfTemplate t = true ↔
      0 < t.tid ∧ t.tid < 65536 ∧ t.scope = [] ∧ t.cnt = t.fields.length ∧ t.scnt = 0 ∧
      1 ≤ t.fields.length ∧ t.fields.length < 65536 ∧ t.fields.all Wire.Ipfix.wfSpec = true := by
  simp only [Wire.Ipfix.wfTemplate, Bool.and_eq_true, decide_eq_true_eq, beq_iff_eq, and_assoc]

theorem parseTpl_roundtrip (t : Template) (hw : Wire.Ipfix.wfTemplate t = true) (rest : Bytes) (c : Nat) :
    parseTpl ⟨Wire.Ipfix.encodeTemplate t ++ rest, c⟩ =
      (.ok t, ⟨rest, c + (Wire.Ipfix.encodeTemplate t).length⟩) := by
  obtain ⟨_, h1, h2, h3, h4, _, h6, h7⟩ := (wfTemplate_iff t).1 hw
  obtain ⟨tid, cnt, scnt, scope, fields⟩ := t
  simp only at h1 h2 h3 h4 h6 h7
  subst h2 h3 h4
  simp only [parseTpl, Wire.Ipfix.encodeTemplate, List.append_assoc, rU16_be16 tid h1, rU16_be16 _ h6,
    readSpecs_roundtrip fields rest _ [] h7, List.nil_append, List.length_append, be16_length, Nat.add_assoc]

theorem wfOptTemplate_iff (t : Template) :
    Wire.Ipfix.wfOptTemplate t = true ↔
      0 < t.tid ∧ t.tid < 65536 ∧ t.cnt = t.scope.length + t.fields.length ∧
      t.scnt = t.scope.length ∧ t.scope.length + t.fields.length < 65536 ∧
      t.scope.all Wire.Ipfix.wfSpec = true ∧ t.fields.all Wire.Ipfix.wfSpec = true := by
  simp only [Wire.Ipfix.wfOptTemplate, Bool.and_eq_true, decide_eq_true_eq, beq_iff_eq, and_assoc]

theorem parseOptTpl_roundtrip (t : Template) (hw : Wire.Ipfix.wfOptTemplate t = true) (rest : Bytes)
    (c : Nat) :
    parseOptTpl ⟨Wire.Ipfix.encodeOptTemplate t ++ rest, c⟩ =
      (.ok t, ⟨rest, c + (Wire.Ipfix.encodeOptTemplate t).length⟩) := by
  obtain ⟨_, h1, h2, h3, h4, h5, h6⟩ := (wfOptTemplate_iff t).1 hw
  obtain ⟨tid, cnt, scnt, scope, fields⟩ := t
  simp only at h1 h2 h3 h4 h5 h6
  subst h2 h3
  -- the decoder's 16-bit `FieldCount - ScopeFieldCount` is the number of option fields
  have e : (scope.length + fields.length + 65536 - scope.length) % 65536 = fields.length := by omega
  simp only [parseOptTpl, Wire.Ipfix.encodeOptTemplate, List.append_assoc, rU16_be16 tid h1, rU16_be16 _ h4,
    rU16_be16 scope.length (by omega)]
  rw [e, readSpecs_roundtrip scope _ _ [] h5]
  simp only []
  rw [readSpecs_roundtrip fields rest _ [] h6]
  simp only [List.nil_append, List.length_append, be16_length, Nat.add_assoc]

theorem decodeSet_templates (addr : Bytes) (sid : Nat) (hsid : sid = 2 ∨ sid = 3) (enc : Template → Bytes)
    (parse : Rd → Except Err Template × Rd)
    (hsel : ∀ r, (if sid = 2 then parseTpl r else parseOptTpl r) = parse r)
    (ts : List Template) (pad rest : Bytes) (c fuel : Nat) (cache : Cache) (recs : List Record)
    (hts : ∀ t ∈ ts, 0 < t.tid ∧ 4 < (enc t).length ∧ (∀ tail c, Rd.peek16 ⟨enc t ++ tail, c⟩ = some t.tid) ∧
      ∀ tail c, parse ⟨enc t ++ tail, c⟩ = (.ok t, ⟨tail, c + (enc t).length⟩))
    (hpad : pad.length ≤ 4) (hlen : 4 + ((ts.map enc).flatten ++ pad).length < 65536)
    (hfuel : ts.length < fuel) :
    decodeSet addr fuel ⟨⟨Wire.Ipfix.encodeSet sid (ts.map enc).flatten pad ++ rest, c⟩, cache, recs⟩ =
      (⟨⟨rest, c + (Wire.Ipfix.encodeSet sid (ts.map enc).flatten pad).length⟩, insertAll addr cache ts,
        recs⟩, none) := by
  have h255 : ¬ sid > 255 := by omega
  refine decodeSet_of_setLoop addr sid none _ pad rest c fuel cache _ recs _ (by omega) hlen
    (by simp only [lookupTpl, if_neg h255]) fun ctx hctx hleft => ?_
  subst hctx
  have := setLoop_items _ enc (fun t => [t]) (fun _ => []) pad rest
    (by simp only [minLeft, if_neg h255]; omega) ts fuel (c + 4) cache recs
    (fun t ht => by
      obtain ⟨h0, hbig, hpeek, hparse⟩ := hts t ht
      exact ⟨by simp only [minLeft, if_neg h255]; omega, setLoop_template _ hsid enc parse hsel t h0 hpeek hparse⟩)
    hleft hfuel
  rw [flatMap_nil', List.flatMap_singleton', List.append_nil] at this
  exact this

theorem wfTemplate_wire {t : Template} (hw : Wire.Ipfix.wfTemplate t = true) :
    0 < t.tid ∧ 4 < (Wire.Ipfix.encodeTemplate t).length ∧
    (∀ tail c, Rd.peek16 ⟨Wire.Ipfix.encodeTemplate t ++ tail, c⟩ = some t.tid) ∧
    ∀ tail c, parseTpl ⟨Wire.Ipfix.encodeTemplate t ++ tail, c⟩ =
      (.ok t, ⟨tail, c + (Wire.Ipfix.encodeTemplate t).length⟩) := by
  obtain ⟨h0, h1, _, _, _, h5, _, _⟩ := (wfTemplate_iff t).1 hw
  refine ⟨h0, ?_, fun tail c => ?_, parseTpl_roundtrip t hw⟩
  · -- at least one specifier of at least 4 octets behind the 4-octet header
    cases hf : t.fields with
    | nil => simp [hf] at h5
    | cons s ss =>
      have : 4 ≤ (Wire.Ipfix.encodeSpec s).length := by
        unfold Wire.Ipfix.encodeSpec
        split <;> simp [be16_length, be32_length]
      simp only [Wire.Ipfix.encodeTemplate, hf, List.map_cons, List.flatten_cons, List.length_append, be16_length]
      omega
  · simp only [Wire.Ipfix.encodeTemplate, List.append_assoc, peek16_be16 _ h1]

theorem wfOptTemplate_wire {t : Template} (hw : Wire.Ipfix.wfOptTemplate t = true) :
    0 < t.tid ∧ 4 < (Wire.Ipfix.encodeOptTemplate t).length ∧
    (∀ tail c, Rd.peek16 ⟨Wire.Ipfix.encodeOptTemplate t ++ tail, c⟩ = some t.tid) ∧
    ∀ tail c, parseOptTpl ⟨Wire.Ipfix.encodeOptTemplate t ++ tail, c⟩ =
      (.ok t, ⟨tail, c + (Wire.Ipfix.encodeOptTemplate t).length⟩) := by
  obtain ⟨h0, h1, _⟩ := (wfOptTemplate_iff t).1 hw
  refine ⟨h0, ?_, fun tail c => ?_, parseOptTpl_roundtrip t hw⟩
  · simp only [Wire.Ipfix.encodeOptTemplate, List.length_append, be16_length]; omega
  · simp only [Wire.Ipfix.encodeOptTemplate, List.append_assoc, peek16_be16 _ h1]

theorem decodeSet_tpl (addr : Bytes) (ts : List Template) (pad rest : Bytes)
    (c fuel : Nat) (cache : Cache) (recs : List Record)
    (hw : Wire.Ipfix.wfSet addr cache (.tpl ts pad) = true) (hfuel : ts.length < fuel) :
    decodeSet addr fuel ⟨⟨Wire.Ipfix.encodeTemplateSet ts pad ++ rest, c⟩, cache, recs⟩ =
      (⟨⟨rest, c + (Wire.Ipfix.encodeTemplateSet ts pad).length⟩, insertAll addr cache ts, recs⟩, none) := by
  simp only [Wire.Ipfix.wfSet, Wire.Ipfix.wfSetLen, Wire.Ipfix.wfTplPad, Bool.and_eq_true, decide_eq_true_eq,
    List.all_eq_true] at hw
  obtain ⟨⟨_, hts⟩, hpad, hlen⟩ := hw
  exact decodeSet_templates addr 2 (.inl rfl) _ parseTpl (fun _ => if_pos rfl) ts pad rest c fuel cache recs
    (fun t ht => wfTemplate_wire (hts t ht)) hpad hlen hfuel

theorem decodeSet_optTpl (addr : Bytes) (ts : List Template) (pad rest : Bytes)
    (c fuel : Nat) (cache : Cache) (recs : List Record)
    (hw : Wire.Ipfix.wfSet addr cache (.optTpl ts pad) = true) (hfuel : ts.length < fuel) :
    decodeSet addr fuel ⟨⟨Wire.Ipfix.encodeOptTemplateSet ts pad ++ rest, c⟩, cache, recs⟩ =
      (⟨⟨rest, c + (Wire.Ipfix.encodeOptTemplateSet ts pad).length⟩, insertAll addr cache ts, recs⟩, none) := by
  simp only [Wire.Ipfix.wfSet, Wire.Ipfix.wfSetLen, Wire.Ipfix.wfTplPad, Bool.and_eq_true, decide_eq_true_eq,
    List.all_eq_true] at hw
  obtain ⟨⟨_, hts⟩, hpad, hlen⟩ := hw
  exact decodeSet_templates addr 3 (.inr rfl) _ parseOptTpl (fun _ => if_neg (by decide)) ts pad rest c fuel cache recs
    (fun t ht => wfOptTemplate_wire (hts t ht)) hpad hlen hfuel

theorem applySet_acc (addr : Bytes) (recs : List Record) (c : Cache) (s : Wire.Ipfix.FlowSet) :
    Wire.Ipfix.applySet addr (recs, c) s =
      (recs ++ (Wire.Ipfix.applySet addr ([], c) s).1, (Wire.Ipfix.applySet addr ([], c) s).2) := by
  cases s <;> simp [Wire.Ipfix.applySet]

theorem decodeSet_flowSet (addr : Bytes) (s : Wire.Ipfix.FlowSet) (cache : Cache)
    (hw : Wire.Ipfix.wfSet addr cache s = true) :
    4 < (Wire.Ipfix.encodeFlowSet s).length ∧ ∀ (rest : Bytes) (c fuel : Nat) (recs : List Record),
      (Wire.Ipfix.encodeFlowSet s).length < fuel →
      decodeSet addr fuel ⟨⟨Wire.Ipfix.encodeFlowSet s ++ rest, c⟩, cache, recs⟩ =
        (⟨⟨rest, c + (Wire.Ipfix.encodeFlowSet s).length⟩, (Wire.Ipfix.applySet addr (recs, cache) s).2,
          (Wire.Ipfix.applySet addr (recs, cache) s).1⟩, none) := by
  -- each set has at least one item, and no more items than octets
  have hw' := hw
  cases s with
  | tpl ts pad =>
    simp only [Wire.Ipfix.wfSet, Bool.and_eq_true, Bool.not_eq_true', List.isEmpty_eq_false_iff,
      List.all_eq_true] at hw'
    have := length_le_flatten_map Wire.Ipfix.encodeTemplate ts fun t ht => by
      have := (wfTemplate_wire (hw'.1.2 t ht)).2.1; omega
    have := List.length_pos_iff.2 hw'.1.1
    have hl : (Wire.Ipfix.encodeFlowSet (.tpl ts pad)).length = _ := encodeSet_length _ _ _
    exact ⟨by omega, fun rest c fuel recs hfuel => decodeSet_tpl addr ts pad rest c fuel cache recs hw (by omega)⟩
  | optTpl ts pad =>
    simp only [Wire.Ipfix.wfSet, Bool.and_eq_true, Bool.not_eq_true', List.isEmpty_eq_false_iff,
      List.all_eq_true] at hw'
    have := length_le_flatten_map Wire.Ipfix.encodeOptTemplate ts fun t ht => by
      have := (wfOptTemplate_wire (hw'.1.2 t ht)).2.1; omega
    have := List.length_pos_iff.2 hw'.1.1
    have hl : (Wire.Ipfix.encodeFlowSet (.optTpl ts pad)).length = _ := encodeSet_length _ _ _
    exact ⟨by omega, fun rest c fuel recs hfuel => decodeSet_optTpl addr ts pad rest c fuel cache recs hw (by omega)⟩
  | data t records pad =>
    simp only [Wire.Ipfix.wfSet, Bool.and_eq_true, Bool.not_eq_true', List.isEmpty_eq_false_iff,
      List.all_eq_true] at hw'
    have := length_le_flatten_map (Wire.Ipfix.encodeRecord t) records fun x hx => wfRecord_pos (hw'.1.2 x hx)
    have := List.length_pos_iff.2 hw'.1.1.2
    have hl : (Wire.Ipfix.encodeFlowSet (.data t records pad)).length = _ := encodeSet_length _ _ _
    exact ⟨by omega, fun rest c fuel recs hfuel => decodeSet_data addr t records pad rest c fuel cache recs hw (by omega)⟩

theorem outer_roundtrip (addr : Bytes) : ∀ (sets : List Wire.Ipfix.FlowSet) (cache : Cache)
    (recs : List Record) (c fuel : Nat) (errs : List Err),
    Wire.Ipfix.wfSets addr cache sets = true → (sets.map Wire.Ipfix.encodeFlowSet).flatten.length < fuel →
    outer addr fuel ⟨⟨(sets.map Wire.Ipfix.encodeFlowSet).flatten, c⟩, cache, recs⟩ errs =
      (⟨⟨[], c + (sets.map Wire.Ipfix.encodeFlowSet).flatten.length⟩,
        (sets.foldl (Wire.Ipfix.applySet addr) (recs, cache)).2,
        (sets.foldl (Wire.Ipfix.applySet addr) (recs, cache)).1⟩, none, errs)
  | [], cache, recs, c, fuel + 1, errs, _, _ => by simp [outer]
  | s :: ss, cache, recs, c, fuel + 1, errs, hw, hf => by
    simp only [Wire.Ipfix.wfSets, Bool.and_eq_true] at hw
    obtain ⟨hlen, hdec⟩ := decodeSet_flowSet addr s cache hw.1
    simp only [List.map_cons, List.flatten_cons, List.length_append] at hf ⊢
    rw [outer, if_pos (by simp only [List.length_append]; omega),
      hdec _ _ _ _ (by simp only [List.length_append]; omega)]
    simp only
    rw [applySet_acc, outer_roundtrip addr ss _ _ _ fuel errs hw.2 (by omega)]
    simp only [List.foldl_cons, Nat.add_assoc]
    rw [applySet_acc addr recs cache s]

theorem readHeader_roundtrip (m : Wire.Ipfix.Msg) (rest : Bytes)
    (h1 : Wire.Ipfix.msgLen m < 65536) (h2 : m.exportTime < 4294967296)
    (h3 : m.seq < 4294967296) (h4 : m.domain < 4294967296) :
    readHeader ⟨Wire.Ipfix.encodeHeader m ++ rest, 0⟩ = some (Wire.Ipfix.expectedHdr m, ⟨rest, 16⟩) := by
  simp only [readHeader, Wire.Ipfix.encodeHeader, List.append_assoc, rU16_be16 10 (by decide), rU16_be16 _ h1,
    rU32_be32 _ h2, rU32_be32 _ h3, rU32_be32 _ h4]
  rfl

theorem decode_roundtrip (c : Cache) (addr : Bytes) (m : Wire.Ipfix.Msg)
    (hw : Wire.Ipfix.wfMsg addr c m = true) :
    decode c addr (Wire.Ipfix.encodeMsg m) =
      (.ok (Wire.Ipfix.expectedHdr m, (Wire.Ipfix.expected addr c m).1, []),
       (Wire.Ipfix.expected addr c m).2) := by
  simp only [Wire.Ipfix.wfMsg, Bool.and_eq_true, decide_eq_true_eq] at hw
  obtain ⟨⟨⟨⟨h1, h2⟩, h3⟩, h4⟩, hsets⟩ := hw
  simp only [decode, Wire.Ipfix.encodeMsg, Wire.Ipfix.setsBytes]
  rw [readHeader_roundtrip m _ h1 h2 h3 h4]
  simp only [Wire.Ipfix.expectedHdr, List.headD_cons, ne_eq, not_true_eq_false, if_false]
  rw [outer_roundtrip addr m.sets c [] 16 _ [] hsets (by simp only [List.length_append]; omega)]
  rfl

end Vflow.Ipfix
