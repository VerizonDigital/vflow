import Vflow.Model.MainSignal
import Vflow.Proofs.ShutdownReach
/-!
# Every reachable state of `main` + a protocol program is a pair of enumerated states

`Vflow.Model.MainSignal.SysReach` (every interleaving of `main`, the goroutines it starts and the signals) is not
enumerated as a product. A step of the system changes either the `main` part — by a step `main` alone can take when run
with both outcomes of the wait (`amNext`) — or the protocol part — by a step of the protocol-level model (`next`) —, never
both (`sysNext_proj`). So every reachable state is a pair (state of `amReachable`, state of `reachable`), and a Boolean
predicate that holds initially and is preserved by every step from every such pair that satisfies it holds in every
reachable state (`sysReach_invariant`); `Props/C15` lets the kernel evaluate the premise on all pairs.
-/
namespace Vflow.Shutdown

theorem sysNext_proj (ms : List MStep) (p : Prog) (a : Assume) (x t : Sys) (h : t ∈ sysNext ms p a x) :
    (t.m = x.m ∨ t.m ∈ amNext ms x.m) ∧ (t.s = x.s ∨ t.s ∈ next p a x.s) := by
  simp only [sysNext, List.mem_append, List.mem_map] at h
  rcases h with ((⟨m', hm, rfl⟩ | ⟨m', hm, rfl⟩) | h) | h
  · exact ⟨Or.inr (by simp only [amNext, List.mem_append]; exact Or.inl (Or.inl hm)), Or.inl rfl⟩
  · refine ⟨Or.inr ?_, Or.inl rfl⟩
    simp only [amNext, List.mem_append]
    cases hd : wgDone p x
    · rw [hd] at hm; exact Or.inr hm
    · rw [hd] at hm; exact Or.inl (Or.inr hm)
  · split at h
    · obtain ⟨s', hs, rfl⟩ := List.mem_map.mp h
      exact ⟨Or.inl rfl, Or.inr (by simp only [next, List.mem_append]; exact Or.inl hs)⟩
    · simp at h
  · split at h
    · obtain ⟨s', hs, rfl⟩ := List.mem_map.mp h
      exact ⟨Or.inl rfl, Or.inr (by simp only [next, List.mem_append]; exact Or.inr hs)⟩
    · simp at h

/-- the invariant rule over pairs of enumerated states -/
theorem sysReach_invariant {ms : List MStep} {p : Prog} {a : Assume} {n : Nat}
    (hA : amClosed ms n = true) (hC : closedUnderNext p a = true) (inv : MSt → St → Bool)
    (hinit : inv { sigsLeft := n } {} = true)
    (hstep : ∀ m ∈ amReachable ms n, ∀ s ∈ reachable p a, inv m s = true →
      ∀ t ∈ sysNext ms p a ⟨m, s⟩, inv t.m t.s = true) :
    ∀ x, SysReach ms p a n x → x.m ∈ amReachable ms n ∧ x.s ∈ reachable p a ∧ inv x.m x.s = true := by
  have hA' := hA
  simp only [amClosed, Bool.and_eq_true, List.all_eq_true, List.contains_iff_mem] at hA'
  have hC' := closedUnderNext_iff.mp hC
  intro x hx
  induction hx with
  | init => exact ⟨hA'.1, init_mem_reachable p a, hinit⟩
  | @step x t _ ht ih =>
    obtain ⟨hm, hs, hi⟩ := ih
    have hp := sysNext_proj ms p a x t ht
    refine ⟨?_, ?_, hstep x.m hm x.s hs hi t ht⟩
    · rcases hp.1 with h | h
      · rw [h]; exact hm
      · exact hA'.2 x.m hm t.m h
    · rcases hp.2 with h | h
      · rw [h]; exact hs
      · exact hC' x.s hs t.s h

/-- a Boolean implication `!a || b` read as an implication -/
theorem imp_of_not_or {a b : Bool} (h : (!a || b) = true) : a = true → b = true := by
  cases a <;> simp_all

/-- a run given by the index of the step taken in each state -/
def follow (ms : List MStep) (p : Prog) (a : Assume) : Sys → List Nat → Option Sys
  | x, [] => some x
  | x, i :: r => match (sysNext ms p a x)[i]? with
    | some t => follow ms p a t r
    | none => none

/-- … ends in a reachable state -/
theorem follow_reach {ms : List MStep} {p : Prog} {a : Assume} {n : Nat} :
    ∀ (cs : List Nat) (x y : Sys), SysReach ms p a n x → follow ms p a x cs = some y → SysReach ms p a n y := by
  intro cs
  induction cs with
  | nil => intro x y hx h; simp only [follow, Option.some.injEq] at h; exact h ▸ hx
  | cons i r ih =>
    intro x y hx h
    simp only [follow] at h
    split at h
    · next t ht => exact ih t y (SysReach.step hx (List.mem_of_getElem? ht)) h
    · simp at h

/-- a state with property `P` at the end of the run `cs` from the initial state -/
theorem exists_of_follow {ms : List MStep} {p : Prog} {a : Assume} {n : Nat} (cs : List Nat) (P : Sys → Bool)
    (h : (follow ms p a ⟨{ sigsLeft := n }, {}⟩ cs).any P = true) : ∃ y, SysReach ms p a n y ∧ P y = true := by
  cases hf : follow ms p a ⟨{ sigsLeft := n }, {}⟩ cs with
  | none => rw [hf] at h; simp at h
  | some y => rw [hf] at h; exact ⟨y, follow_reach cs _ y SysReach.init hf, by simpa using h⟩

end Vflow.Shutdown
