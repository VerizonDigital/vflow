import Vflow.Proofs.PacketSpec
/-!
# The sampled packet header as a whole: abstract header, specification encoder, expected packet,
and the one dissector theorem covering every layer combination

`AHeader` = optional Ethernet layer (absent when the sFlow header protocol is 11 / 12, i.e. the sampled
octets start at the IPv4 / IPv6 header) × network layer (IPv4 with any options the header length field
can announce, IHL 5 … 15 | IPv6) × transport layer (TCP | UDP | ICMP / ICMPv6).  `encodeHeader` lays the
fields out at their IEEE 802.3 / 802.1Q, RFC 791, RFC 8200, RFC 793, RFC 768, RFC 792 / 4443 positions,
composing the per-layer encoders of `Vflow.Proofs.PacketSpec`.
-/
namespace Vflow.Packet
open Vflow Vflow.Sflow

/-- Ethernet layer: addresses and an optional 802.1Q tag `(priority bits, VLAN id)`, where the priority
bits are the top four bits of the tag control information (PCP and DEI) and the VLAN id the low twelve.
The ethertype is not a free field: it is the one of the network layer that follows (0x0800 / 0x86DD) —
any other value makes `decodeEthernetHeader` return `errUnknownEtherType`. -/
structure AEth where
  dst : Bytes
  src : Bytes
  tag : Option (Nat × Nat)

inductive ANet where
  /-- IPv4 header fields and the option octets that follow the destination address (0 … 40 octets, a
  multiple of four: `OptsWF`); the packet struct has no field for them, they only move the transport header -/
  | v4 (h : IPv4Hdr) (opts : Bytes)
  | v6 (h : IPv6Hdr)

inductive ATrans where
  /-- TCP: ports, sequence / acknowledgement numbers, data offset, the three reserved bits, the nine flag bits, … -/
  | tcp (sp dp seq ack off res fl win cs urg : Nat)
  | udp (sp dp len cs : Nat)
  /-- ICMP / ICMPv6: type, code, checksum, and the 4-octet rest of the header -/
  | icmp (ty code cs : Nat) (rest : Bytes)

/-- an abstract sampled header; `eth = none` is header protocol 11 (IPv4) / 12 (IPv6) -/
structure AHeader where
  eth : Option AEth
  net : ANet
  trans : ATrans

def ANet.etherType : ANet → Nat
  | .v4 _ _ => 0x0800
  | .v6 _ => 0x86DD

def ANet.proto : ANet → Nat
  | .v4 h _ => h.protocol
  | .v6 h => h.nextHeader

/-- the sFlow header protocol the sampled header is announced with -/
def protoOf (h : AHeader) : Nat :=
  match h.eth, h.net with
  | some _, _ => 1
  | none, .v4 _ _ => 11
  | none, .v6 _ => 12

def encEthL (e : AEth) (et : Nat) : Bytes :=
  match e.tag with
  | none => encEth e.dst e.src et
  | some (prio, vid) => encEthVlan e.dst e.src (prio * 4096 + vid) et

def encNet : ANet → Bytes
  | .v4 h opts => encIPv4 h opts
  | .v6 h => encIPv6 h

def encTrans : ATrans → Bytes
  | .tcp sp dp seq ack off res fl win cs urg => encTCP sp dp seq ack off res fl win cs urg
  | .udp sp dp len cs => encUDP sp dp len cs
  | .icmp ty code cs rest => encICMP ty code cs ++ rest

/-- **the specification encoder of a sampled header** (trailing payload octets are appended by the caller) -/
def encodeHeader (h : AHeader) : Bytes :=
  (match h.eth with
   | some e => encEthL e h.net.etherType
   | none => []) ++ (encNet h.net ++ encTrans h.trans)

def AEth.WF (e : AEth) : Prop :=
  e.dst.length = 6 ∧ e.src.length = 6 ∧
    match e.tag with
    | none => True
    | some (prio, vid) => prio < 16 ∧ vid < 4096

def ANet.WF : ANet → Prop
  | .v4 h opts => h.WF ∧ OptsWF opts
  | .v6 h => h.WF

/-- field ranges of the transport header; TCP: the three reserved bits take any value 0 … 7 (reported as
`Reserved` since the F19c repair), the nine flag bits are NS CWR ECE URG ACK PSH RST SYN FIN -/
def ATrans.WF : ATrans → Prop
  | .tcp sp dp _ _ off res fl _ _ _ => sp < 65536 ∧ dp < 65536 ∧ off < 16 ∧ res < 8 ∧ fl < 512
  | .udp sp dp _ _ => sp < 65536 ∧ dp < 65536
  | .icmp ty code _ rest => ty < 256 ∧ code < 256 ∧ rest.length = 4

/-- the protocol / next-header value announces the transport header that follows; the code accepts
both 1 (ICMP) and 58 (ICMPv6) after either network layer -/
def ATrans.protoOK : ATrans → Nat → Prop
  | .tcp .., p => p = 6
  | .udp .., p => p = 17
  | .icmp .., p => p = 1 ∨ p = 58

def wfHeader (h : AHeader) : Prop :=
  (match h.eth with
   | some e => e.WF
   | none => True) ∧ h.net.WF ∧ h.trans.WF ∧ h.trans.protoOK h.net.proto

def expEth (e : AEth) (et : Nat) : L2 :=
  { srcMAC := e.src, dstMAC := e.dst, etherType := et,
    vlan := match e.tag with
      | none => 0
      | some (_, vid) => vid }

/-- the IPv4 options do not appear in the decoded packet -/
def expNet : ANet → L3
  | .v4 h _ => .v4 h
  | .v6 h => .v6 h

/-- `RestHeader` of the ICMP struct is `b[4:]`: everything after the checksum up to the end of the
sampled header, i.e. the rest of the header followed by the trailing payload -/
def expTrans : ATrans → Bytes → L4
  | .tcp sp dp _ _ off res fl _ _ _, _ => .tcp sp dp off res fl
  | .udp sp dp _ _, _ => .udp sp dp
  | .icmp ty code _ rest, payload => .icmp ty code (rest ++ payload)

/-- **the packet an abstract header (followed by `payload`) stands for**: with header protocol 11 / 12 the
datalink part is the zero value -/
def expectedPacket (h : AHeader) (payload : Bytes) : Pkt :=
  { l2 := match h.eth with
      | some e => expEth e h.net.etherType
      | none => {},
    l3 := expNet h.net,
    l4 := expTrans h.trans payload }

/-! ## composition

Behind the datalink layer the dissector is `dissectNet`; behind a well-formed network header that is the
transport decoder (`dissectNet_encNet`).  Every statement about whole headers, dissectable or not, goes
through these two steps. -/

/-- the sFlow header protocol of a layer stack: 1 with an Ethernet layer, else 11 / 12 — `protoOf` on the two layers
it depends on (`protoOf_layers`), for stacks without a transport layer (`ABad.ipProto`) -/
def protoOfLayers (eth : Option AEth) (n : ANet) : Nat :=
  match eth, n with
  | some _, _ => 1
  | none, .v4 _ _ => 11
  | none, .v6 _ => 12

theorem protoOf_layers (h : AHeader) : protoOf h = protoOfLayers h.eth h.net := by
  obtain ⟨eth, net, trans⟩ := h
  cases eth <;> cases net <;> rfl

/-- network and transport layers of a sampled header whose network layer is that of `n` -/
def dissectNet (l2 : L2) : ANet → Bytes → Res Pkt
  | .v4 _ _, d => dissectV4 l2 d
  | .v6 _, d => dissectV6 l2 d

theorem dissectNet_encNet (l2 : L2) (n : ANet) (x : Bytes) (hn : n.WF) :
    dissectNet l2 n (encNet n ++ x) = decodeNext n.proto x >>= fun l4 => pure ⟨l2, expNet n, l4⟩ := by
  cases n with
  | v4 h opts => simp only [dissectNet, encNet, dissectV4, decodeIPv4_enc h opts x hn.1 hn.2, ok_bind, expNet, ANet.proto]
  | v6 h => simp only [dissectNet, encNet, dissectV6, decodeIPv6_enc h x hn, ok_bind, expNet, ANet.proto]

theorem dissect_noEth (n : ANet) (x : Bytes) : dissect x (protoOfLayers none n) = dissectNet {} n x := by
  cases n <;> rfl

theorem decodeEthernet_encL (e : AEth) (et : Nat) (rest : Bytes) (he : e.WF) (h1 : et < 65536) (h2 : et ≠ 0x8100) :
    decodeEthernet (encEthL e et ++ rest) = .ok (expEth e et, rest) := by
  obtain ⟨dst, src, tag⟩ := e
  obtain ⟨hd, hs, ht⟩ := he
  cases tag with
  | none => exact decodeEthernet_enc dst src et rest ⟨hd, hs, h1, h2⟩
  | some pv =>
    obtain ⟨prio, vid⟩ := pv
    simp only at ht hd hs
    have := decodeEthernet_vlan_enc dst src (prio * 4096 + vid) et rest ⟨hd, hs, by omega, h1, h2⟩
    rwa [Nat.mul_add_mod_self_right, Nat.mod_eq_of_lt ht.2] at this

theorem dissect_eth (e : AEth) (n : ANet) (x : Bytes) (he : e.WF) :
    dissect (encEthL e n.etherType ++ x) 1 = dissectNet (expEth e n.etherType) n x := by
  cases n with
  | v4 h opts =>
    simp only [dissect, if_true, dissectEth, ANet.etherType, decodeEthernet_encL e 0x0800 x he (by decide) (by decide),
      ok_bind, show (expEth e 0x0800).etherType = 0x0800 from rfl, dissectNet]
  | v6 h =>
    simp only [dissect, if_true, dissectEth, ANet.etherType, decodeEthernet_encL e 0x86DD x he (by decide) (by decide),
      ok_bind, show (expEth e 0x86DD).etherType = 0x86DD from rfl, show ¬ ((0x86DD : Nat) = 0x0800) by decide,
      if_false, dissectNet]

theorem decodeNext_enc (t : ATrans) (p : Nat) (payload : Bytes) (hwf : t.WF) (hp : t.protoOK p) :
    decodeNext p (encTrans t ++ payload) = .ok (expTrans t payload) := by
  rw [decodeNext_eq]
  cases t with
  | tcp sp dp seq ack off res fl win cs urg =>
    cases (hp : p = 6)
    exact decodeTCP_enc sp dp seq ack off res fl win cs urg payload hwf
  | udp sp dp len cs =>
    cases (hp : p = 17)
    exact decodeUDP_enc sp dp len cs payload hwf
  | icmp ty code cs rest =>
    obtain ⟨h1, h2, h3⟩ := hwf
    have hp : p = 1 ∨ p = 58 := hp
    rw [if_pos hp]
    simp only [encTrans, expTrans, List.append_assoc]
    exact decodeICMP_enc ty code cs (rest ++ payload) ⟨h1, h2⟩ (by rw [List.length_append, h3]; omega)

theorem dissectNet_enc (l2 : L2) (n : ANet) (t : ATrans) (payload : Bytes) (hn : n.WF) (ht : t.WF)
    (hp : t.protoOK n.proto) :
    dissectNet l2 n (encNet n ++ (encTrans t ++ payload)) = .ok ⟨l2, expNet n, expTrans t payload⟩ := by
  rw [dissectNet_encNet l2 n _ hn, decodeNext_enc t n.proto payload ht hp]
  rfl

/-- **every combination at once**: for every well-formed abstract header — Ethernet with or without an
802.1Q tag, or none (header protocol 11 / 12); IPv4 with 0 … 40 octets of options of any content, or IPv6;
TCP, UDP or ICMP / ICMPv6 — and every
trailing payload, dissecting the encoded header under its header protocol yields exactly the expected
packet: each output field is the abstract field that was laid out at its RFC position. -/
theorem dissect_encodeHeader (h : AHeader) (payload : Bytes) (hwf : wfHeader h) :
    dissect (encodeHeader h ++ payload) (protoOf h) = .ok (expectedPacket h payload) := by
  obtain ⟨eth, net, trans⟩ := h
  obtain ⟨he, hn, ht, hp⟩ := hwf
  rw [protoOf_layers]
  simp only [encodeHeader, List.append_assoc]
  cases eth with
  | none => rw [List.nil_append, dissect_noEth, dissectNet_enc _ net trans payload hn ht hp]; rfl
  | some e => rw [show protoOfLayers (some e) net = 1 from rfl, dissect_eth e net _ he,
      dissectNet_enc _ net trans payload hn ht hp]; rfl

theorem encodeHeader_length_pos (h : AHeader) : 0 < (encodeHeader h).length := by
  obtain ⟨eth, net, trans⟩ := h
  cases net <;> simp [encodeHeader, encNet, encIPv4, encIPv6] <;> omega

end Vflow.Packet
