import Vflow.Proofs.FuelIpfix
/-!
# C02 (model part), allocation bound for the IPFIX model

`K` bounds the number of field specifiers of every template: those in the cache before the datagram
(hypothesis) and those parsed from the datagram (each specifier consumed at least 4 octets of it, so
`bs.length / 4 ≤ K` suffices).  Then every decoded record has at most `K` fields, every template in the
cache afterwards has at most `K` specifiers (`decode_alloc`); `C02Flow.ipfix_alloc_bound` adds the record bound of
`FuelIpfix`: at most `bs.length * K` decoded fields in all.
-/
namespace Vflow.Ipfix
open Vflow

def CacheB (K : Nat) (c : Cache) : Prop := ∀ e ∈ c, nfields e.2 ≤ K

theorem CacheB.insert {K : Nat} {c : Cache} (h : CacheB K c) (addr : Bytes) (id : Nat) (t : Template)
    (ht : nfields t ≤ K) : CacheB K (c.insert addr id t) :=
  fun e he => (Cache.mem_insert he).elim (fun h' => h' ▸ ht) (h e)

theorem CacheB.lookup {K : Nat} {c : Cache} (h : CacheB K c) {addr : Bytes} {id : Nat} {t : Template}
    (hl : c.lookup addr id = some t) : nfields t ≤ K :=
  let ⟨e, he, ht⟩ := Cache.mem_of_lookup hl
  ht ▸ h e he

def Inv (K L : Nat) (st : St) : Prop :=
  st.r.cnt + st.r.rem.length = L ∧ CacheB K st.cache ∧ ∀ r ∈ st.recs, r.length ≤ K

/-- a template parsed from the datagram has at most a quarter of the datagram's length in specifiers; a record has
as many fields as its template has specifiers -/
theorem Inv.invariant {K L : Nat} (hK : L / 4 ≤ K) (addr : Bytes) :
    Invariant addr (Inv K L) (nfields · ≤ K) where
  move h d := ⟨d.adv.1.trans h.1, h.2.1, h.2.2⟩
  install h hp := by
    obtain ⟨d, c⟩ := hp.reads
    have h1 := d.adv.1.trans h.1
    exact ⟨h1, h.2.1.insert _ _ _ (by omega), h.2.2⟩
  keep h hG hd _ := by
    refine ⟨((decodeData_reads _ _).drops_of hd).adv.1.trans h.1, h.2.1, fun r hr => ?_⟩
    rcases List.mem_append.mp hr with hr | hr
    · exact h.2.2 r hr
    · rw [List.mem_singleton.mp hr, ((decodeData_reads _ _).ok_of hd).1]; exact hG
  cached h hl := h.2.1.lookup hl
  empty := Nat.zero_le K

theorem decodeSet_inv {K L : Nat} (hK : L / 4 ≤ K) {addr : Bytes} {fuel : Nat} {st st' : St}
    {e : Option Err} (hi : Inv K L st) (h : decodeSet addr fuel st = (st', e)) : Inv K L st' := by
  have := decodeSet_preserves (Inv.invariant hK addr) fuel st hi
  rwa [h] at this

theorem decode_alloc (c : Cache) (addr bs : Bytes) (K : Nat) (hc : CacheB K c)
    (hK : bs.length / 4 ≤ K) :
    CacheB K (decode c addr bs).2 ∧ ∀ r ∈ recordsOf (decode c addr bs).1, r.length ≤ K := by
  obtain ⟨st, hs, h1, h2 | h2⟩ := decode_preserves (Inv.invariant hK addr) c bs ⟨Nat.zero_add _, hc, nofun⟩ <;> rw [h1, h2]
  · exact ⟨hs.2.1, hs.2.2⟩
  · exact ⟨hs.2.1, nofun⟩

end Vflow.Ipfix
