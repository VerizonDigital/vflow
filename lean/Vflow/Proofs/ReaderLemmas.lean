import Vflow.Proofs.RdLemmas
/-!
# Reader lemmas shared by the truncation / skip proofs (C09)

Every function of the two template-based decoders is compared on a reader `r` and on `r.ext s k`: the octets `s`
appended to what remains, the count moved by `k`.  `k = 0` is truncation, a fixed `s` gives locality, `s = []`
moves the count alone (all decoder arithmetic is relative to the count at the start of the set).
`Takes`: a primitive read of `n` octets; `Local`: what a composite read does is determined by the octets it consumes,
proved per model function by combinators that mirror how the function is written.
-/
namespace Vflow

def Ext (s : Bytes) (t f : Rd) : Prop := t.cnt = f.cnt ∧ f.rem = t.rem ++ s

theorem Ext.len_eq {s : Bytes} {t f : Rd} (h : Ext s t f) : f.rem.length = t.rem.length + s.length := by
  rw [h.2]; simp

theorem Ext.refl_nil (r : Rd) : Ext [] r r := ⟨rfl, by simp⟩

/-- `r` with `s` appended to the remaining octets and the count moved by `k` -/
def Rd.ext (r : Rd) (s : Bytes) (k : Nat) : Rd := ⟨r.rem ++ s, r.cnt + k⟩

@[simp] theorem Rd.ext_rem (r : Rd) (s : Bytes) (k : Nat) : (r.ext s k).rem = r.rem ++ s := rfl
@[simp] theorem Rd.ext_cnt (r : Rd) (s : Bytes) (k : Nat) : (r.ext s k).cnt = r.cnt + k := rfl

theorem Rd.ext_length (r : Rd) (s : Bytes) (k : Nat) : (r.ext s k).rem.length = r.rem.length + s.length :=
  List.length_append

theorem Ext.eq {s : Bytes} {t f : Rd} (h : Ext s t f) : f = t.ext s 0 := by
  obtain ⟨frem, fcnt⟩ := f
  obtain ⟨hc, hr⟩ := h
  simp only at hc hr
  rw [hr, ← hc]; rfl

theorem Rd.ext_Ext (r : Rd) (s : Bytes) : Ext s r (r.ext s 0) := ⟨rfl, rfl⟩

/-- the primitive read `o` takes `n` octets and returns `f` of them -/
def Takes {β : Type} (n : Nat) (f : Bytes → β) (o : Rd → Option (β × Rd)) : Prop :=
  ∀ r, o r = if r.rem.length < n then none else some (f (r.rem.take n), r.adv n)

theorem readN_takes (n : Nat) : Takes n id (·.readN n) := fun _ => rfl
theorem rU8_takes : Takes 1 beN Rd.rU8 := fun r => by unfold Rd.rU8 Rd.readN; split <;> rfl
theorem rU16_takes : Takes 2 beN Rd.rU16 := fun r => by unfold Rd.rU16 Rd.readN; split <;> rfl
theorem rU32_takes : Takes 4 beN Rd.rU32 := fun r => by unfold Rd.rU32 Rd.readN; split <;> rfl

namespace Takes
variable {β : Type} {n : Nat} {f : Bytes → β} {o : Rd → Option (β × Rd)} (ho : Takes n f o)
include ho

theorem eq_none {r : Rd} (h : r.rem.length < n) : o r = none := by rw [ho, if_pos h]

theorem eq_some {r : Rd} (h : n ≤ r.rem.length) : o r = some (f (r.rem.take n), r.adv n) := by
  rw [ho, if_neg (Nat.not_lt.mpr h)]

theorem ext_some {r : Rd} (h : n ≤ r.rem.length) (s : Bytes) (k : Nat) :
    o (r.ext s k) = some (f (r.rem.take n), (r.adv n).ext s k) := by
  rw [ho.eq_some (Nat.le_trans h (Rd.ext_length r s k ▸ Nat.le_add_right _ _))]
  simp only [Rd.ext, Rd.adv, List.take_append_of_le_length h, List.drop_append_of_le_length h, Nat.add_right_comm]

theorem ext_none {r : Rd} (h : r.rem.length < n) (k : Nat) : o (r.ext [] k) = none :=
  ho.eq_none (by rw [Rd.ext_length]; exact h)

theorem ext_or (r : Rd) (s : Bytes) (k : Nat) :
    (∃ v r', o r = some (v, r') ∧ o (r.ext s k) = some (v, r'.ext s k)) ∨
    (o r = none ∧ (s = [] → o (r.ext s k) = none)) := by
  by_cases h : n ≤ r.rem.length
  · exact .inl ⟨_, _, ho.eq_some h, ho.ext_some h s k⟩
  · exact .inr ⟨ho.eq_none (Nat.lt_of_not_le h), fun hs => hs ▸ ho.ext_none (Nat.lt_of_not_le h) k⟩

end Takes

/-- a successful run of `o` is the same run with more octets behind and at any count -/
def Persists {β : Type} (o : Rd → Option (β × Rd)) : Prop :=
  ∀ r v r', o r = some (v, r') → ∀ s k, o (r.ext s k) = some (v, r'.ext s k)

theorem Takes.persists {β : Type} {n : Nat} {f : Bytes → β} {o : Rd → Option (β × Rd)} (ho : Takes n f o) :
    Persists o := by
  intro r v r' h s k
  by_cases hn : n ≤ r.rem.length
  · rw [ho.eq_some hn] at h; cases h; exact ho.ext_some hn s k
  · rw [ho.eq_none (Nat.lt_of_not_le hn)] at h; cases h

theorem Persists.pure {β : Type} (v : β) : Persists fun r => some (v, r) :=
  fun _ _ _ h _ _ => by cases h; rfl

theorem Persists.bindNat {β : Type} {o : Rd → Option (Nat × Rd)} (ho : Persists o)
    {g : Nat → Rd → Option (β × Rd)} (hg : ∀ v, Persists (g v)) :
    Persists fun r => match o r with
      | none => none
      | some (v, r1) => g v r1 := by
  intro r v r' h s k
  cases hr : o r with
  | none => simp only [hr] at h; cases h
  | some p =>
    simp only [hr] at h
    simp only [ho r p.1 p.2 hr s k]
    exact hg _ _ _ _ h s k

theorem Rd.peek16_ext (r : Rd) (s : Bytes) (k : Nat) (h : 2 ≤ r.rem.length) : (r.ext s k).peek16 = r.peek16 := by
  unfold Rd.peek16
  rw [(readN_takes 2).ext_some h, (readN_takes 2).eq_some h]
  rfl

/-- The composite read `g` is *local*: on the octets `b` it returns some `x`, having consumed some `n` of
them, whatever the count and whatever octets `s` follow — unless it ran out of octets, in which case more
octets may change the outcome. -/
def Local {α : Type} (g : Rd → Except Err α × Rd) : Prop :=
  ∀ b : Bytes, ∃ (x : Except Err α) (n : Nat), n ≤ b.length ∧
    ∀ (s : Bytes) (c : Nat), (s = [] ∨ x ≠ .error .short) → g ⟨b ++ s, c⟩ = (x, ⟨b.drop n ++ s, c + n⟩)

namespace Local
variable {α β : Type}

theorem pure (x : Except Err α) : Local fun r => (x, r) :=
  fun _ => ⟨x, 0, Nat.zero_le _, fun _ _ _ => rfl⟩

theorem ite (c : Prop) [Decidable c] {g₁ g₂ : Rd → Except Err α × Rd} (h₁ : Local g₁) (h₂ : Local g₂) :
    Local fun r => if c then g₁ r else g₂ r := by
  by_cases hc : c
  · simpa only [if_pos hc] using h₁
  · simpa only [if_neg hc] using h₂

theorem read {n : Nat} {f : Bytes → β} {o : Rd → Option (β × Rd)} (ho : Takes n f o)
    {g : β → Rd → Except Err α × Rd} (hg : ∀ v, Local (g v)) {G : Rd → Except Err α × Rd}
    (h0 : ∀ r, o r = none → G r = (.error .short, r))
    (h1 : ∀ r v r1, o r = some (v, r1) → G r = g v r1) : Local G := by
  intro b
  by_cases hn : n ≤ b.length
  · obtain ⟨x, m, hm, H⟩ := hg (f (b.take n)) (b.drop n)
    rw [List.length_drop] at hm
    refine ⟨x, n + m, by omega, fun s c hs => ?_⟩
    have hr : o ⟨b ++ s, c⟩ = some (f (b.take n), ⟨b.drop n ++ s, c + n⟩) :=
      ho.ext_some (r := ⟨b, c⟩) hn s 0
    rw [h1 _ _ _ hr, H s _ hs, List.drop_drop, Nat.add_assoc]
  · refine ⟨.error .short, 0, Nat.zero_le _, fun s c hs => ?_⟩
    obtain rfl : s = [] := hs.resolve_right (fun h => h rfl)
    exact h0 _ (ho.eq_none (by simpa using hn))

theorem bind {h : Rd → Except Err β × Rd} (hh : Local h) {g : β → Rd → Except Err α × Rd}
    (hg : ∀ v, Local (g v)) {G : Rd → Except Err α × Rd}
    (h0 : ∀ r e r', h r = (.error e, r') → G r = (.error e, r'))
    (h1 : ∀ r v r', h r = (.ok v, r') → G r = g v r') : Local G := by
  intro b
  obtain ⟨y, n, hn, H⟩ := hh b
  cases y with
  | error e =>
    refine ⟨.error e, n, hn, fun s c hs => h0 _ _ _ (H s c (hs.imp_right fun hne he => hne ?_))⟩
    cases he; rfl
  | ok v =>
    obtain ⟨x, m, hm, H'⟩ := hg v (b.drop n)
    rw [List.length_drop] at hm
    refine ⟨x, n + m, by omega, fun s c hs => ?_⟩
    rw [h1 _ _ _ (H s c (.inr (by simp))), H' s _ hs, List.drop_drop, Nat.add_assoc]

/-! `read` and `bind` for the `match` expressions of the decoder models.  (A `match` is compiled to an
auxiliary function specialised to the type it scrutinises, and unification does not look into two such
functions: hence one statement per type.) -/

theorem readNat {n : Nat} {f : Bytes → Nat} {o : Rd → Option (Nat × Rd)} (ho : Takes n f o)
    {g : Nat → Rd → Except Err α × Rd} (hg : ∀ v, Local (g v)) :
    Local fun r => match o r with
      | none => (.error .short, r)
      | some (v, r1) => g v r1 :=
  read ho hg (fun _ h => by rw [h]) (fun _ _ _ h => by rw [h])

theorem readBytes {n : Nat} {f : Bytes → Bytes} {o : Rd → Option (Bytes × Rd)} (ho : Takes n f o)
    {g : Bytes → Rd → Except Err α × Rd} (hg : ∀ v, Local (g v)) :
    Local fun r => match o r with
      | none => (.error .short, r)
      | some (v, r1) => g v r1 :=
  read ho hg (fun _ h => by rw [h]) (fun _ _ _ h => by rw [h])

theorem bindSpec {h : Rd → Except Err Spec × Rd} (hh : Local h) {g : Spec → Rd → Except Err α × Rd}
    (hg : ∀ v, Local (g v)) :
    Local fun r => match h r with
      | (.error e, r') => (.error e, r')
      | (.ok v, r') => g v r' :=
  bind hh hg (fun _ _ _ h => by rw [h]) (fun _ _ _ h => by rw [h])

theorem bindSpecs {h : Rd → Except Err (List Spec) × Rd} (hh : Local h)
    {g : List Spec → Rd → Except Err α × Rd} (hg : ∀ v, Local (g v)) :
    Local fun r => match h r with
      | (.error e, r') => (.error e, r')
      | (.ok v, r') => g v r' :=
  bind hh hg (fun _ _ _ h => by rw [h]) (fun _ _ _ h => by rw [h])

theorem bindSpecs' {h : Rd → Except Err (List Spec) × Rd} (hh : Local h)
    {g : List Spec → Rd → Except Err α × Rd} (hg : ∀ v, Local (g v)) :
    Local fun r => match h r with
      | (.ok v, r') => g v r'
      | (.error e, r') => (.error e, r') :=
  bind hh hg (fun _ _ _ h => by rw [h]) (fun _ _ _ h => by rw [h])

theorem bindNat {h : Rd → Except Err Nat × Rd} (hh : Local h) {g : Nat → Rd → Except Err α × Rd}
    (hg : ∀ v, Local (g v)) :
    Local fun r => match h r with
      | (.error e, r') => (.error e, r')
      | (.ok v, r') => g v r' :=
  bind hh hg (fun _ _ _ h => by rw [h]) (fun _ _ _ h => by rw [h])

variable {g : Rd → Except Err α × Rd} (hg : Local g)
include hg

theorem ext (r : Rd) (s : Bytes) (k : Nat) (h : s = [] ∨ (g r).1 ≠ .error .short) :
    g (r.ext s k) = ((g r).1, (g r).2.ext s k) := by
  obtain ⟨x, n, -, H⟩ := hg r.rem
  have hr : g r = (x, ⟨r.rem.drop n, r.cnt + n⟩) := by simpa using H [] r.cnt (.inl rfl)
  rw [hr] at h ⊢
  rw [Rd.ext, H s _ h, Rd.ext, Nat.add_right_comm]

theorem ext_or (r : Rd) (s : Bytes) (k : Nat) :
    g (r.ext s k) = ((g r).1, (g r).2.ext s k) ∨ (s ≠ [] ∧ (g r).1 = .error .short) := by
  by_cases hs : s = []
  · exact .inl (hg.ext r s k (.inl hs))
  · by_cases hx : (g r).1 = .error .short
    · exact .inr ⟨hs, hx⟩
    · exact .inl (hg.ext r s k (.inr hx))

theorem of_run {b : Bytes} {c : Nat} {x : Except Err α} {r' : Rd} (h : g ⟨b, c⟩ = (x, r'))
    (hx : x ≠ .error .short) :
    ∃ n, n ≤ b.length ∧ ∀ (s : Bytes) (c' : Nat), g ⟨b ++ s, c'⟩ = (x, ⟨b.drop n ++ s, c' + n⟩) := by
  obtain ⟨y, n, hn, H⟩ := hg b
  have h0 := H [] c (.inl rfl)
  rw [List.append_nil, h] at h0
  cases h0
  exact ⟨n, hn, fun s c' => H s c' (.inr hx)⟩

end Local

def be16 (v : Nat) : Bytes := encBE 2 v

theorem be16_length (v : Nat) : (be16 v).length = 2 := encBE_length 2 v

theorem rU16_be16 (v : Nat) (rest : Bytes) (cnt : Nat) (hv : v < 65536) :
    (⟨be16 v ++ rest, cnt⟩ : Rd).rU16 = some (v, ⟨rest, cnt + 2⟩) := readN_encBE 2 v hv rest cnt

/-- octets of a set (IPFIX) / flowset (NetFlow v9) with id `sid` and body `body`:
id, total length (header included), body -/
def setBytes (sid : Nat) (body : Bytes) : Bytes := be16 sid ++ be16 (4 + body.length) ++ body

theorem setBytes_length (sid : Nat) (body : Bytes) : (setBytes sid body).length = 4 + body.length := by
  simp [setBytes, be16_length]; omega

def Rd.shift (r : Rd) (k : Nat) : Rd := ⟨r.rem, r.cnt + k⟩

@[simp] theorem Rd.shift_rem (r : Rd) (k : Nat) : (r.shift k).rem = r.rem := rfl
@[simp] theorem Rd.shift_cnt (r : Rd) (k : Nat) : (r.shift k).cnt = r.cnt + k := rfl

end Vflow
