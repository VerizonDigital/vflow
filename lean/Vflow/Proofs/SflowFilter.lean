import Vflow.Proofs.SflowSafe
/-!
# The type filter: step-wise and loop-wise agreement of the filtered and the unfiltered decoder

A listed sample is skipped by its declared length, an unlisted one is decoded: the two leave the reader in the
same place exactly when the sample is *framed* (`HeadFramed`).  Along a framed run (`Framed`) the filtered loop
yields the items of the unfiltered one with the listed types removed (`loopN_filter`), hence `dropTypes` of its
datagram (`mkDatagram_keep`).
-/
namespace Vflow.Sflow
open Vflow Vflow.Packet

/-- what the filter leaves of one loop item -/
def keep (f : List Nat) (o : Option Sample) : Option Sample :=
  o.bind fun s => if s.type ∈ f then none else some s

/-- the datagram without the samples of the listed types (flow samples are type 1, counter samples type 2) -/
def dropTypes (f : List Nat) (d : Datagram) : Datagram :=
  { d with samples := if 1 ∈ f then [] else d.samples, counters := if 2 ∈ f then [] else d.counters }

/-- map over the value of a `Res` (the model has only `Res.mapFst`; `C18.filter_spec` is stated with this one) -/
def Res.map {α β : Type} (g : α → β) : Res α → Res β
  | .ok a => .ok (g a)
  | .err e => .err e
  | .panic => .panic
  | .fuel => .fuel

/-- the sample at the head of `bs` is a standard one (enterprise 0: the upper 20 bits of its type word) whose format
(the lower 12 bits) is in `f` -/
def HeadFiltered (f : List Nat) (bs : Bytes) : Prop :=
  ∃ fmt len r, sampleInfo bs = .ok ((0, fmt, len), r) ∧ fmt ∈ f

/-- the sample at the head of `bs` is *framed*: if it is a flow or counter sample, decoding its body
succeeds and ends exactly where its declared length says -/
def HeadFramed (bs : Bytes) : Prop :=
  ∀ fmt len r, sampleInfo bs = .ok ((0, fmt, len), r) →
    (fmt = 1 → ∃ s, decodeFlowSample r = .ok (s, r.drop len)) ∧
    (fmt = 2 → ∃ c, decodeCounterSample r = .ok (c, r.drop len))

/-- along the (unfiltered) sample loop, every sample the filter would skip is framed -/
def Framed (f : List Nat) : Nat → Nat → Bytes → Prop
  | _, 0, _ => True
  | 0, _ + 1, _ => True
  | fuel + 1, n + 1, bs =>
    (HeadFiltered f bs → HeadFramed bs) ∧ ∀ a r, sampleStep [] bs = .ok (a, r) → Framed f fuel n r

theorem keep_none (f : List Nat) : keep f none = none := rfl
theorem keep_flow (f : List Nat) (s : FlowSample) : keep f (some (.flow s)) = if 1 ∈ f then none else some (.flow s) := rfl
theorem keep_counter (f : List Nat) (c : CounterSample) :
    keep f (some (.counter c)) = if 2 ∈ f then none else some (.counter c) := rfl

/-- a sample of type `ty` whose body `x` decodes up to `r'`: skipping it to `r'` when `ty` is listed is decoding it
and dropping the result -/
theorem skip_or_keep {α : Type} (f : List Nat) (mk : α → Sample) (ty : Nat) (hty : ∀ a, (mk a).type = ty)
    (x : Res (α × Bytes)) (r' : Bytes) (h : ty ∈ f → ∃ a, x = .ok (a, r')) :
    (if ty ∈ f then .ok (none, r') else x.mapFst fun a => some (mk a)) =
      (x.mapFst fun a => some (mk a)).mapFst (keep f) := by
  rw [mapFst_mapFst]
  by_cases hf : ty ∈ f
  · obtain ⟨a, rfl⟩ := h hf
    simp [Res.mapFst, keep, hty, hf]
  · rw [if_neg hf]
    exact congrArg (Res.mapFst · x) (funext fun a => by simp [keep, hty, hf])

theorem sampleStep_filter (f : List Nat) (bs : Bytes) (h : HeadFiltered f bs → HeadFramed bs) :
    sampleStep f bs = (sampleStep [] bs).mapFst (keep f) := by
  unfold sampleStep
  split
  · rename_i ent fmt len r hx
    simp only [List.not_mem_nil, if_false]
    by_cases he : ent ≠ 0
    · simp only [if_pos he]; rfl
    obtain rfl : ent = 0 := by omega
    simp only [if_neg he]
    by_cases f1 : fmt = 1
    · subst f1
      simp only [if_true]
      exact skip_or_keep f .flow 1 (fun _ => rfl) _ _ fun hf => (h ⟨1, len, r, hx, hf⟩ 1 len r hx).1 rfl
    rw [if_neg f1]
    by_cases f2 : fmt = 2
    · subst f2
      simp only [if_true]
      exact skip_or_keep f .counter 2 (fun _ => rfl) _ _ fun hf => (h ⟨2, len, r, hx, hf⟩ 2 len r hx).2 rfl
    · simp only [if_neg f2, ite_self]; rfl
  all_goals rfl

theorem loopN_filter (f : List Nat) (fuel n : Nat) (bs : Bytes) (hfr : Framed f fuel n bs) :
    loopN (sampleStep f) fuel n bs = (loopN (sampleStep []) fuel n bs).mapFst (List.map (keep f)) := by
  induction fuel generalizing n bs with
  | zero => cases n <;> rfl
  | succ fuel ih =>
    cases n with
    | zero => rfl
    | succ n =>
      rw [loopN, loopN, sampleStep_filter f bs hfr.1]
      cases hs : sampleStep [] bs with
      | ok p =>
        simp only [Res.mapFst, ih n p.2 (hfr.2 p.1 p.2 hs)]
        cases loopN (sampleStep []) fuel n p.2 <;> rfl
      | _ => rfl

theorem keep_bind_flow? (f : List Nat) (o : Option Sample) :
    (keep f o).bind Sample.flow? = if 1 ∈ f then none else o.bind Sample.flow? := by
  rcases o with _ | s | c
  · simp [keep]
  · rw [keep_flow]; split <;> rfl
  · rw [keep_counter]; split <;> simp [Sample.flow?]

theorem keep_bind_counter? (f : List Nat) (o : Option Sample) :
    (keep f o).bind Sample.counter? = if 2 ∈ f then none else o.bind Sample.counter? := by
  rcases o with _ | s | c
  · simp [keep]
  · rw [keep_flow]; split <;> simp [Sample.counter?]
  · rw [keep_counter]; split <;> rfl

theorem mkDatagram_keep (f : List Nat) (h : Header) (items : List (Option Sample)) :
    mkDatagram h (items.map (keep f)) = dropTypes f (mkDatagram h items) := by
  simp only [mkDatagram, dropTypes, List.filterMap_map, Function.comp_def, keep_bind_flow?, keep_bind_counter?]
  congr 1 <;> split <;> simp

theorem dropTypes_unlisted {f : List Nat} (h1 : 1 ∉ f) (h2 : 2 ∉ f) (d : Datagram) : dropTypes f d = d := by
  simp only [dropTypes, if_neg h1, if_neg h2]

theorem map_dropTypes_unlisted {f : List Nat} (h1 : 1 ∉ f) (h2 : 2 ∉ f) (x : Res Datagram) :
    x.map (dropTypes f) = x := by
  cases x <;> simp only [Res.map, dropTypes_unlisted h1 h2]

theorem dropTypes_append (f g : List Nat) (d : Datagram) : dropTypes (f ++ g) d = dropTypes f (dropTypes g d) := by
  have ite_or (a b : Prop) [Decidable a] [Decidable b] {α : Type} (x y : α) :
      (if a ∨ b then x else y) = if a then x else if b then x else y := by
    by_cases ha : a <;> simp [ha]
  simp only [dropTypes, List.mem_append, ite_or]

theorem framed_of_unlisted (f : List Nat) (h1 : 1 ∉ f) (h2 : 2 ∉ f) (fuel n : Nat) (bs : Bytes) :
    Framed f fuel n bs := by
  induction fuel generalizing n bs with
  | zero => cases n <;> trivial
  | succ fuel ih =>
    cases n with
    | zero => trivial
    | succ n =>
      refine ⟨?_, fun a r _ => ih n r⟩
      rintro ⟨fmt, len, r, hx, hf⟩ fmt' len' r' hx'
      cases hx.symm.trans hx'
      exact ⟨fun h => absurd (h ▸ hf) h1, fun h => absurd (h ▸ hf) h2⟩

end Vflow.Sflow
