import Vflow.Proofs.PipelineWork
/-!
# Accounting in the pipeline (the invariant behind C13)

Every datagram id is in at most one place (read loop, UDP channel, one worker, `fin`), events about a
datagram are only appended by its holder, and the event counts of a datagram are a function of where
it is: `Cnts log id u e c p` = number of `countUDP` / `decoded` / `countDecoded` / publish-attempt
(`published` or `dropped`) events about `id`.

A step either moves a datagram from one place to the next and logs nothing about it (`Acct.move`), or logs one event
about the datagram its actor holds and moves nothing (`Acct.event` for the workers, `Acct.rxCount` for the read loop).

`Logged`, `Tot`, `RecvUniq` and `PubInv`, in the second half, need no `Canonical` program.
-/
namespace Vflow.Pipeline
open Vflow
variable {K : Codec}

/-- (kind, datagram id) of the accounting events: 0 countUDP, 1 decoded, 2 countDecoded, 3 publish attempt -/
def tag : Event K → Option (Nat × Nat)
  | .countUDP id => some (0, id)
  | .decoded id _ _ => some (1, id)
  | .countDecoded id => some (2, id)
  | .published id _ => some (3, id)
  | .dropped id _ => some (3, id)
  | .received _ => none
  | .mirrored _ _ => none

def nK (k : Nat) (log : List (Event K)) (id : Nat) : Nat := log.countP (fun e => tag e == some (k, id))

theorem nK_cons (k : Nat) (e0 : Event K) (log : List (Event K)) (id : Nat) :
    nK k (e0 :: log) id = nK k log id + if tag e0 = some (k, id) then 1 else 0 := by
  simp only [nK, List.countP_cons, beq_iff_eq]

theorem nK_zero {k : Nat} {log : List (Event K)} {id : Nat} (h : ∀ e, e ∈ log → tag e ≠ some (k, id)) :
    nK k log id = 0 := by
  simp only [nK, List.countP_eq_zero, beq_iff_eq]
  exact h

def Cnts (log : List (Event K)) (id u e c p : Nat) : Prop :=
  nK 0 log id = u ∧ nK 1 log id = e ∧ nK 2 log id = c ∧ nK 3 log id = p

theorem Cnts.cons_other {log : List (Event K)} {id u e c p : Nat} (e0 : Event K)
    (h : ∀ k, tag e0 ≠ some (k, id)) : Cnts (e0 :: log) id u e c p ↔ Cnts log id u e c p := by
  simp only [Cnts, nK_cons, h, if_false, Nat.add_zero]

theorem Cnts.cons_self {log : List (Event K)} {id u e c p k : Nat} (e0 : Event K) (h : tag e0 = some (k, id))
    (hc : Cnts log id u e c p) :
    Cnts (e0 :: log) id (u + if k = 0 then 1 else 0) (e + if k = 1 then 1 else 0) (c + if k = 2 then 1 else 0)
      (p + if k = 3 then 1 else 0) := by
  obtain ⟨h0, h1, h2, h3⟩ := hc
  simp only [Cnts, nK_cons, h, h0, h1, h2, h3, Option.some.injEq, Prod.mk.injEq, and_true]

def counts (K : Codec) (spec : CountSpec) (r : Option K.Msg) : Bool :=
  match spec with
  | .onMsg => r.isSome
  | .onYield => (outcome K r).isSome

/-- the complete account of a datagram whose iteration is over -/
def Final (spec : CountSpec) (log : List (Event K)) (d : Dgram) : Prop :=
  Event.received d ∈ log ∧
  ∃ c, Event.decoded d.id c (K.decode c d.addr d.bytes).1 ∈ log ∧
    Cnts log d.id 1 1 (if counts K spec (K.decode c d.addr d.bytes).1 = true then 1 else 0)
      (if (outcome K (K.decode c d.addr d.bytes).1).isSome = true then 1 else 0)

theorem Final.cons_other {spec : CountSpec} {log : List (Event K)} {d : Dgram} (e0 : Event K)
    (h : ∀ k, tag e0 ≠ some (k, d.id)) : Final spec log d → Final spec (e0 :: log) d
  | ⟨h1, c, h2, h3⟩ => ⟨.tail _ h1, c, .tail _ h2, (Cnts.cons_other e0 h).mpr h3⟩

def rxd : RxPhase → Nat → Nat
  | .read _ d, id => if d.id = id then 1 else 0
  | .counted _ d, id => if d.id = id then 1 else 0
  | _, _ => 0

def qd (q : List (BufId × Dgram)) (id : Nat) : Nat := (q.map (·.2.id)).count id
def wd (w : Worker K) (id : Nat) : Nat :=
  match w.cur with
  | some d => if d.id = id then 1 else 0
  | none => 0
def wdsum (ws : List (Worker K)) (id : Nat) : Nat := (ws.map (fun w => wd w id)).sum
def fd (fin : List Dgram) (id : Nat) : Nat := (fin.map (·.id)).count id

def drefs (s : State K) (id : Nat) : Nat := rxd s.rx id + qd s.udpq id + wdsum s.workers id + fd s.fin id

theorem qd_cons (p : BufId × Dgram) (q) (x : Nat) : qd (p :: q) x = qd q x + if p.2.id = x then 1 else 0 := by
  simp only [qd, List.map_cons, List.count_cons, beq_iff_eq]

theorem qd_append (q : List (BufId × Dgram)) (p : BufId × Dgram) (x : Nat) :
    qd (q ++ [p]) x = qd q x + if p.2.id = x then 1 else 0 := by
  simp only [qd, List.map_append, List.count_append, List.map_cons, List.map_nil, List.count_cons, beq_iff_eq,
    List.count_nil, Nat.zero_add]

theorem qd_pos {q : List (BufId × Dgram)} {b d} (h : (b, d) ∈ q) : 1 ≤ qd q d.id :=
  List.count_pos_iff.mpr (List.mem_map.mpr ⟨(b, d), h, rfl⟩)

theorem fd_pos {fin : List Dgram} {d} (h : d ∈ fin) : 1 ≤ fd fin d.id :=
  List.count_pos_iff.mpr (List.mem_map.mpr ⟨d, h, rfl⟩)

theorem wd_cur {w : Worker K} {d : Dgram} (h : w.cur = some d) (id : Nat) : wd w id = if d.id = id then 1 else 0 := by
  simp only [wd, h]

theorem wd_none {w : Worker K} (h : w.cur = none) (id : Nat) : wd w id = 0 := by simp only [wd, h]

theorem wdsum_set {ws : List (Worker K)} {i : Nat} {w : Worker K} (h : ws[i]? = some w) (w' : Worker K) (x : Nat) :
    wdsum (ws.set i w') x + wd w x = wdsum ws x + wd w' x :=
  sum_map_set (fun w => wd w x) ws i w w' h

theorem wdsum_set_same {ws : List (Worker K)} {i : Nat} {w w' : Worker K} (h : ws[i]? = some w) (hcur : w'.cur = w.cur)
    (x : Nat) : wdsum (ws.set i w') x = wdsum ws x := by
  have := wdsum_set h w' x
  rw [show wd w' x = wd w x by simp only [wd, hcur]] at this
  exact Nat.add_right_cancel this

theorem ne_of_pos_of_zero {f : Nat → Nat} {x y : Nat} (hp : 1 ≤ f x) (hz : f y = 0) : x ≠ y :=
  fun e => by rw [e, hz] at hp; exact Nat.not_succ_le_zero 0 hp

/-- of four kinds of place that hold an id at most once between them, the one that holds it is alone -/
theorem alone {a b c d : Nat} (h : a + b + c + d ≤ 1) :
    (1 ≤ a → b = 0 ∧ c = 0 ∧ d = 0) ∧ (1 ≤ c → a = 0 ∧ b = 0 ∧ d = 0 ∧ c = 1) := by
  omega

theorem wdsum_append (ws : List (Worker K)) (w : Worker K) (x : Nat) :
    wdsum (ws ++ [w]) x = wdsum ws x + wd w x :=
  sum_map_append_single (fun w => wd w x) ws w

theorem wdsum_pos {ws : List (Worker K)} {i : Nat} {w : Worker K} (h : ws[i]? = some w) {d : Dgram}
    (hd : w.cur = some d) : 1 ≤ wdsum ws d.id := by
  have := le_sum_map (fun w => wd w d.id) h
  rwa [wd_cur hd, if_pos rfl] at this

def inPlace (s : State K) (d : Dgram) : Prop :=
  (∃ b, s.rx = .read b d ∨ s.rx = .counted b d) ∨ (∃ b, (b, d) ∈ s.udpq) ∨
  (∃ (i : Nat) (w : Worker K), s.workers[i]? = some w ∧ w.cur = some d) ∨ d ∈ s.fin

theorem inPlace_rx {s : State K} {b : BufId} {d : Dgram} (h : s.rx = .read b d ∨ s.rx = .counted b d) : inPlace s d :=
  .inl ⟨b, h⟩
theorem inPlace_udpq {s : State K} {b : BufId} {d : Dgram} (h : (b, d) ∈ s.udpq) : inPlace s d := .inr (.inl ⟨b, h⟩)
theorem inPlace_worker {s : State K} {i : Nat} {w : Worker K} {d : Dgram} (hi : s.workers[i]? = some w)
    (hd : w.cur = some d) : inPlace s d := .inr (.inr (.inl ⟨i, w, hi, hd⟩))
theorem inPlace_fin {s : State K} {d : Dgram} (h : d ∈ s.fin) : inPlace s d := .inr (.inr (.inr h))

def isCountUDP : Event K → Bool
  | .countUDP _ => true
  | _ => false
def isCountDecoded : Event K → Bool
  | .countDecoded _ => true
  | _ => false

/-- `dlive`, `dfresh`, `place`: where the received datagrams are; `rxR` … `finA`: the event counts each place expects of
the datagram it holds; `evfresh`: no event is about a datagram yet to come -/
structure Acct (spec : CountSpec) (s : State K) : Prop where
  dlive : ∀ id, drefs s id ≤ 1
  dfresh : ∀ id, 1 ≤ drefs s id → id < s.nextId
  evfresh : ∀ e, e ∈ s.log → ∀ k id, tag e = some (k, id) → id < s.nextId
  rxR : ∀ b d, s.rx = .read b d → Cnts s.log d.id 0 0 0 0
  rxC : ∀ b d, s.rx = .counted b d → Cnts s.log d.id 1 0 0 0
  qA : ∀ b d, (b, d) ∈ s.udpq → Cnts s.log d.id 1 0 0 0
  wA : ∀ (i : Nat) (w : Worker K), s.workers[i]? = some w → ∀ d, w.cur = some d →
      Cnts s.log d.id 1 w.nDec w.nCnt w.nPub
  finA : ∀ d, d ∈ s.fin → Final spec s.log d
  place : ∀ d, Event.received d ∈ s.log → inPlace s d

theorem init_acct (spec : CountSpec) (c : K.Cache) (mem0 : BufId → Bytes) : Acct spec (init K c mem0) := by
  constructor <;> simp [init, drefs, rxd, qd, wdsum, fd]

section
variable {cfg : Cfg} {spec : CountSpec} {s s' : State K} {i : Nat} {w : Worker K}

/-- **A step that logs nothing about any datagram** (at most a `received` or a `mirrored` event) and may move datagrams.
`hD`: no datagram id is added to a place, unless the one handed out; `prx` … `pf`, `pnew`: every received datagram still
has a place; of what a place holds afterwards: "it was there before" (the default) or "these are its counts". -/
theorem Acct.move (h : Acct spec s)
    (hD : s'.nextId = s.nextId ∧ (∀ id, drefs s' id ≤ drefs s id) ∨
      s'.nextId = s.nextId + 1 ∧ ∀ id, drefs s' id ≤ drefs s id + if s.nextId = id then 1 else 0)
    (e0 : Option (Event K) := none) (hlog : s'.log = e0.toList ++ s.log := by rfl)
    (htag : e0.bind tag = none := by rfl)
    (prx : ∀ b d, (s.rx = .read b d ∨ s.rx = .counted b d) → inPlace s' d := by exact fun b _ h => .inl ⟨b, h⟩)
    (pq : ∀ b d, (b, d) ∈ s.udpq → inPlace s' d := by exact fun b _ h => .inr (.inl ⟨b, h⟩))
    (pw : ∀ (j : Nat) (x : Worker K) d, s.workers[j]? = some x → x.cur = some d → inPlace s' d := by
      exact fun j x _ h1 h2 => .inr (.inr (.inl ⟨j, x, h1, h2⟩)))
    (pf : ∀ d, d ∈ s.fin → inPlace s' d := by exact fun _ h => .inr (.inr (.inr h)))
    (pnew : ∀ d, e0 = some (.received d) → inPlace s' d := by exact fun _ h => nomatch h)
    (hrxR : ∀ b d, s'.rx = .read b d → s.rx = .read b d ∨ Cnts s'.log d.id 0 0 0 0 := by exact fun _ _ h => .inl h)
    (hrxC : ∀ b d, s'.rx = .counted b d → s.rx = .counted b d ∨ Cnts s'.log d.id 1 0 0 0 := by exact fun _ _ h => .inl h)
    (hq : ∀ b d, (b, d) ∈ s'.udpq → (b, d) ∈ s.udpq ∨ Cnts s'.log d.id 1 0 0 0 := by exact fun _ _ h => .inl h)
    (hw : ∀ (j : Nat) (x : Worker K) d, s'.workers[j]? = some x → x.cur = some d →
      s.workers[j]? = some x ∨ Cnts s'.log d.id 1 x.nDec x.nCnt x.nPub := by exact fun _ _ _ h _ => .inl h)
    (hf : ∀ d, d ∈ s'.fin → d ∈ s.fin ∨ Final spec s'.log d := by exact fun _ h => .inl h) :
    Acct spec s' := by
  have hnew : ∀ e, e ∈ s'.log → e0 = some e ∨ e ∈ s.log := fun e he => by
    rw [hlog] at he
    exact (List.mem_append.mp he).imp_left Option.mem_toList.mp
  have hnt : ∀ e, e0 = some e → ∀ k id, tag e ≠ some (k, id) := fun e he k id ht => by
    rw [he, Option.bind_some, ht] at htag
    cases htag
  have keepC : ∀ {id u e c p}, Cnts s.log id u e c p → Cnts s'.log id u e c p := fun hc => by
    rw [hlog]
    cases e0 with
    | none => exact hc
    | some e => exact (Cnts.cons_other e fun k => hnt e rfl k _).mpr hc
  have keepF : ∀ {d}, Final spec s.log d → Final spec s'.log d := fun hf => by
    rw [hlog]
    cases e0 with
    | none => exact hf
    | some e => exact hf.cons_other e fun k => hnt e rfl k _
  have hn : s.nextId ≤ s'.nextId := by rcases hD with ⟨e, _⟩ | ⟨e, _⟩ <;> rw [e] <;> omega
  obtain ⟨hU, hF⟩ := count_step h.dlive h.dfresh hD
  refine ⟨hU, hF, ?_, ?_, ?_, ?_, ?_, ?_, ?_⟩
  · intro e he k id ht
    rcases hnew e he with he | he
    · exact absurd ht (hnt e he k id)
    · exact Nat.lt_of_lt_of_le (h.evfresh e he k id ht) hn
  · exact fun b d hb => (hrxR b d hb).elim (fun hb => keepC (h.rxR b d hb)) fun h => h
  · exact fun b d hb => (hrxC b d hb).elim (fun hb => keepC (h.rxC b d hb)) fun h => h
  · exact fun b d hb => (hq b d hb).elim (fun hb => keepC (h.qA b d hb)) fun h => h
  · exact fun j x hj d hd => (hw j x d hj hd).elim (fun hj => keepC (h.wA j x hj d hd)) fun h => h
  · exact fun d hd => (hf d hd).elim (fun hd => keepF (h.finA d hd)) fun h => h
  · intro d hd
    rcases hnew _ hd with hd | hd
    · exact pnew d hd
    · rcases h.place d hd with ⟨b, hb⟩ | ⟨b, hb⟩ | ⟨j, x, hj, hx⟩ | hb
      · exact prx b d hb
      · exact pq b d hb
      · exact pw j x d hj hx
      · exact pf d hb

theorem pw_set {w' : Worker K} (hi : s.workers[i]? = some w) (hW : s'.workers = s.workers.set i w')
    (hown : ∀ d, w.cur = some d → inPlace s' d) (j : Nat) (x : Worker K) (d : Dgram) (hj : s.workers[j]? = some x)
    (hx : x.cur = some d) : inPlace s' d := by
  by_cases hji : j = i
  · subst hji
    cases hi.symm.trans hj
    exact hown d hx
  · exact inPlace_worker (by rw [hW, List.getElem?_set_ne (fun e => hji e.symm)]; exact hj) hx

theorem pw_same {w' : Worker K} (hi : s.workers[i]? = some w) (hW : s'.workers = s.workers.set i w')
    (hcur : w'.cur = w.cur) : ∀ (j : Nat) (x : Worker K) (d : Dgram), s.workers[j]? = some x → x.cur = some d → inPlace s' d :=
  pw_set hi hW fun _ hd => inPlace_worker (by rw [hW, List.getElem?_set_self', hi]; rfl) (hcur.trans hd)

theorem fd_cur_append (w : Worker K) (fin : List Dgram) (id : Nat) : fd (w.cur.toList ++ fin) id = fd fin id + wd w id := by
  cases hd : w.cur with
  | none => simp [wd, hd]
  | some d => simp only [wd, hd, fd, Option.toList_some, List.singleton_append, List.map_cons, List.count_cons, beq_iff_eq]

theorem Sim.final {a h0 : Abs} {d : Dgram} (hsim : Sim s w a) (hend : atEnd spec h0 a = true) (hd : w.cur = some d)
    (hc : Cnts s.log d.id 1 w.nDec w.nCnt w.nPub) : Final spec s.log d := by
  obtain ⟨-, -, y, hky, hpy, hspec⟩ := atEnd_iff.mp hend
  obtain ⟨hdd, hk⟩ := hsim.kyield y hky
  obtain ⟨d', c, h1, hdec, hlog⟩ := hsim.decoded hdd
  cases h1.symm.trans hd
  have hy := hk _ _ hdec
  obtain ⟨c0, c1, c2, c3⟩ := hc
  refine ⟨hsim.cur_recv d hd, c, hlog, c0, ?_, ?_, ?_⟩
  · rw [c1, hsim.cnt_dec, hdd]; rfl
  · rw [c2, hsim.cnt_cnt]
    cases spec with
    | onMsg => rw [← (hsim.kmsg _ hspec).2 _ _ hdec]; rfl
    | onYield => rw [show a.counted = y from hspec, ← hy]; rfl
  · rw [c3, hsim.cnt_pub, hpy, hy]

/-- **A step of worker `i` that logs one event (of kind `k`) about the datagram it holds** and moves nothing.  No other
place holds that datagram's id, so every other account stands. -/
theorem Acct.event (h : Acct spec s) (hi : s.workers[i]? = some w) {d : Dgram} (hd : w.cur = some d)
    {ev : Event K} (k : Nat) {w' : Worker K} {c : K.Cache} {n : Nat} {q : List MQItem}
    (htag : tag ev = some (k, d.id) := by rfl) (hk : k ≠ 0 := by decide) (hcur : w'.cur = w.cur := by rfl)
    (hc : w'.nDec = w.nDec + (if k = 1 then 1 else 0) ∧ w'.nCnt = w.nCnt + (if k = 2 then 1 else 0) ∧
      w'.nPub = w.nPub + (if k = 3 then 1 else 0) := by exact ⟨rfl, rfl, rfl⟩) :
    Acct spec { s.setW i w' with log := ev :: s.log, cache := c, decCount := n, mq := q } := by
  have hdr : ∀ id, drefs { s.setW i w' with log := ev :: s.log, cache := c, decCount := n, mq := q } id = drefs s id := by
    intro id
    simp only [drefs, State.setW, wdsum_set_same hi hcur]
  -- worker `i` holds `d`: nobody else does
  have hpos := wdsum_pos hi hd
  obtain ⟨z1, z2, z3, z4⟩ := (alone (h.dlive d.id)).2 hpos
  have other : ∀ {id}, id ≠ d.id → ∀ k', tag ev ≠ some (k', id) := fun hne k' ht => by
    rw [htag] at ht
    cases ht
    exact hne rfl
  refine ⟨fun id => hdr id ▸ h.dlive id, fun id hid => h.dfresh id (hdr id ▸ hid), ?_, ?_, ?_, ?_, ?_, ?_, ?_⟩
  · intro e he k' id ht
    rcases List.mem_cons.mp he with rfl | he
    · rw [htag] at ht
      cases ht
      exact h.dfresh d.id (Nat.le_trans hpos (Nat.le_trans (Nat.le_add_left _ _) (Nat.le_add_right _ _)))
    · exact h.evfresh e he k' id ht
  · intro b' d' hrx
    have : 1 ≤ rxd s.rx d'.id := by simp [show s.rx = _ from hrx, rxd]
    exact (Cnts.cons_other ev (other (ne_of_pos_of_zero this z1))).mpr (h.rxR b' d' hrx)
  · intro b' d' hrx
    have : 1 ≤ rxd s.rx d'.id := by simp [show s.rx = _ from hrx, rxd]
    exact (Cnts.cons_other ev (other (ne_of_pos_of_zero this z1))).mpr (h.rxC b' d' hrx)
  · intro b' d' hq
    exact (Cnts.cons_other ev (other (ne_of_pos_of_zero (qd_pos hq) z2))).mpr (h.qA b' d' hq)
  · intro j x hj d' hd'
    rcases getElem?_set_cases hj with ⟨_, rfl, _⟩ | ⟨hji, hj⟩
    · cases hd.symm.trans (hcur.symm.trans hd')
      have := Cnts.cons_self ev htag (h.wA i w hi d hd)
      rwa [if_neg hk, ← hc.1, ← hc.2.1, ← hc.2.2] at this
    · -- two workers with the same datagram id would make two places
      -- (take `d` from worker `i`: worker `j` still counts for its own)
      have h1 := wdsum_set hi { w with cur := none } d.id
      have h2 := wdsum_pos (ws := s.workers.set i { w with cur := none }) (i := j)
        (by rw [List.getElem?_set_ne fun e => hji e.symm]; exact hj) hd'
      rw [z4, wd_cur hd, if_pos rfl, wd_none (w := { w with cur := none }) rfl] at h1
      exact (Cnts.cons_other ev (other (ne_of_pos_of_zero h2 (Nat.succ.inj h1)))).mpr (h.wA j x hj d' hd')
  · intro d' hf
    exact (h.finA d' hf).cons_other ev (other (ne_of_pos_of_zero (fd_pos hf) z3))
  · intro d' hd'
    rcases List.mem_cons.mp hd' with rfl | hd'
    · cases htag
    · rcases h.place d' hd' with ⟨b, hb⟩ | ⟨b, hb⟩ | ⟨j, x, hj, hx⟩ | hb
      · exact inPlace_rx hb
      · exact inPlace_udpq hb
      · exact pw_same hi rfl hcur j x d' hj hx
      · exact inPlace_fin hb

theorem Acct.local (h : Acct spec s) (hi : s.workers[i]? = some w) {w' : Worker K} {p : List BufId} {n : BufId}
    {m : BufId → Bytes} {q : List (BufId × Dgram)} (hcur : w'.cur = w.cur := by rfl)
    (hc : w'.nDec = w.nDec ∧ w'.nCnt = w.nCnt ∧ w'.nPub = w.nPub := by exact ⟨rfl, rfl, rfl⟩) :
    Acct spec { s.setW i w' with pool := p, next := n, mem := m, mirq := q } := by
  refine h.move (.inl ⟨rfl, fun id => ?_⟩) (pw := pw_same hi rfl hcur) (hw := fun j x d hj hx => ?_)
  · simp only [drefs, State.setW, wdsum_set_same hi hcur]
    exact Nat.le_refl _
  · rcases getElem?_set_cases hj with ⟨_, rfl, _⟩ | ⟨_, hj⟩
    · rw [hc.1, hc.2.1, hc.2.2]
      exact .inr (h.wA i w hi d (hcur ▸ hx))
    · exact .inl hj

/-- a new worker holds no datagram -/
theorem Acct.spawn (h : Acct spec s) {w0 : Worker K} {p : List BufId} {n : BufId} (hc : w0.cur = none) :
    Acct spec { s with workers := s.workers ++ [w0], pool := p, next := n } :=
  h.move (.inl ⟨rfl, fun id => by simp only [drefs, wdsum_append, wd_none hc]; omega⟩)
    (pw := fun j x d hj hx => inPlace_worker ((List.getElem?_append_left (List.getElem?_eq_some_iff.mp hj).1).trans hj) hx)
    (hw := fun j x d hj hx => (getElem?_append_single hj).imp_right fun e => by rw [e, hc] at hx; cases hx)

/-- the read loop between two datagrams -/
theorem Acct.idle (h : Acct spec s) {r : RxPhase} {p : List BufId} {n : BufId} (h0 : s.rx = .idle ∨ ∃ b, s.rx = .got b)
    (h1 : r = .idle ∨ ∃ b, r = .got b) : Acct spec { s with rx := r, pool := p, next := n } := by
  have e0 : ∀ id, rxd s.rx id = 0 := fun id => by rcases h0 with e | ⟨b, e⟩ <;> rw [e] <;> rfl
  have e1 : ∀ id, rxd r id = 0 := fun id => by rcases h1 with e | ⟨b, e⟩ <;> rw [e] <;> rfl
  have n1 : ∀ b d, r ≠ .read b d ∧ r ≠ .counted b d := fun b d => by
    rcases h1 with e | ⟨b, e⟩ <;> rw [e] <;> exact ⟨nofun, nofun⟩
  have n0 : ∀ b d, ¬ (s.rx = .read b d ∨ s.rx = .counted b d) := fun b d => by
    rcases h0 with e | ⟨b, e⟩ <;> rw [e] <;> exact fun h => h.elim nofun nofun
  exact h.move (.inl ⟨rfl, fun id => by simp only [drefs, e0, e1]; omega⟩) (prx := fun b d e => absurd e (n0 b d))
    (hrxR := fun b d e => absurd e (n1 b d).1) (hrxC := fun b d e => absurd e (n1 b d).2)

/-- **`UDPCount++`**: the read loop logs `countUDP` about the datagram it holds -/
theorem Acct.rxCount (h : Acct spec s) {b : BufId} {d : Dgram} (hrx : s.rx = .read b d) :
    Acct spec { s with rx := .counted b d, udpCount := s.udpCount + 1, log := .countUDP d.id :: s.log } := by
  -- the read loop holds `d`: nobody else does
  have hpos : 1 ≤ rxd s.rx d.id := by simp only [hrx, rxd, if_pos]; exact Nat.le_refl 1
  obtain ⟨z1, z2, z3⟩ := (alone (h.dlive d.id)).1 hpos
  have other : ∀ {id}, id ≠ d.id → ∀ k, tag (Event.countUDP (K := K) d.id) ≠ some (k, id) := fun hne k ht => by
    cases ht
    exact hne rfl
  have hdr : ∀ id, drefs { s with rx := .counted b d, udpCount := s.udpCount + 1, log := .countUDP d.id :: s.log } id =
      drefs s id := fun id => by simp only [drefs, hrx, rxd]
  refine ⟨fun id => hdr id ▸ h.dlive id, fun id hid => h.dfresh id (hdr id ▸ hid), ?_, (fun _ _ e => nomatch e),
    ?_, ?_, ?_, ?_, ?_⟩
  · intro e he k id ht
    rcases List.mem_cons.mp he with rfl | he
    · cases ht
      exact h.dfresh d.id (by simp only [drefs, hrx, rxd, if_pos, z1, z2, z3]; decide)
    · exact h.evfresh e he k id ht
  · intro _ _ e
    cases e
    exact Cnts.cons_self (.countUDP d.id) rfl (h.rxR b d hrx)
  · intro b' d' hq
    exact (Cnts.cons_other _ (other (ne_of_pos_of_zero (qd_pos hq) z1))).mpr (h.qA b' d' hq)
  · intro j x hj d' hd'
    exact (Cnts.cons_other _ (other (ne_of_pos_of_zero (wdsum_pos hj hd') z2))).mpr (h.wA j x hj d' hd')
  · intro d' hf
    exact (h.finA d' hf).cons_other _ (other (ne_of_pos_of_zero (fd_pos hf) z3))
  · intro d' hd'
    rcases h.place d' ((List.mem_cons.mp hd').resolve_left nofun) with ⟨b', hb⟩ | hp
    · rw [hrx] at hb
      obtain ⟨rfl, rfl⟩ : b = b' ∧ d = d' := by simpa using hb
      exact inPlace_rx (.inr rfl)
    · exact .inr hp

theorem acct_step (hinv : Inv cfg spec s) (h : Acct spec s) (hs : Step cfg s s') : Acct spec s' := by
  obtain ⟨_, hm⟩ := hs.move
  cases hm with
  | spawnPool | spawnNew | spawnBare => exact h.spawn rfl
  | rxGetPool hrx | rxGetNew hrx => exact h.idle (.inl hrx) (.inr ⟨_, rfl⟩)
  | rxReadErr hrx => exact h.idle (.inr ⟨_, hrx⟩) (.inl rfl)
  | rxCount hrx => exact h.rxCount hrx
  | @rxRead b addr bytes hrx =>
    have hz : ∀ k, nK k s.log s.nextId = 0 := fun k =>
      nK_zero fun e he hk => Nat.lt_irrefl _ (h.evfresh e he k _ hk)
    refine h.move (.inr ⟨rfl, fun id => ?_⟩) (some (.received ⟨s.nextId, addr, bytes⟩))
      (prx := fun b d e => by rw [hrx] at e; exact e.elim nofun nofun)
      (pnew := fun d e => by cases e; exact inPlace_rx (.inl rfl))
      (hrxR := fun _ _ e => by cases e; exact .inr ((Cnts.cons_other _ fun _ h => by cases h).mpr ⟨hz 0, hz 1, hz 2, hz 3⟩))
      (hrxC := fun _ _ e => nomatch e)
    simp only [drefs, hrx, rxd]
    omega
  | @rxEnqueue b d hrx room =>
    refine h.move (.inl ⟨rfl, fun id => ?_⟩) (hrxR := nofun) (hrxC := nofun)
      (prx := fun b' d' e => ?_) (pq := fun _ _ hm => inPlace_udpq (List.mem_append_left _ hm))
      (hq := fun b' d' hm => (List.mem_append.mp hm).imp_right fun e => ?_)
    · simp only [drefs, hrx, rxd, qd_append]
      omega
    · rw [hrx] at e
      obtain ⟨rfl, rfl⟩ : b = b' ∧ d = d' := by simpa using e
      exact inPlace_udpq (List.mem_append_right _ (.head _))
    · cases List.mem_singleton.mp e
      exact h.rxC b d hrx
  | mirConsume => exact h.move (.inl ⟨rfl, fun _ => Nat.le_refl _⟩) (some (.mirrored _ _))
  | mqConsume => exact h.move (.inl ⟨rfl, fun _ => Nat.le_refl _⟩)
  | @work i _ _ w s' hi hh hw =>
    obtain ⟨a, hsim, hchk⟩ := (hinv.wk i w hi).sim hh
    cases hw with
    | finish hpc =>
      rw [hpc, check_nil] at hchk
      refine h.move (.inl ⟨rfl, fun id => ?_⟩)
        (pw := pw_set hi rfl fun d hd => inPlace_fin (List.mem_append_left _ (Option.mem_toList.mpr hd)))
        (pf := fun d hd => inPlace_fin (List.mem_append_right _ hd))
        (hw := fun j x d hj hx => (getElem?_set_cases hj).elim (fun e => by rw [e.2.1] at hx; cases hx) fun e => .inl e.2)
        (hf := fun d hd => (List.mem_append.mp hd).symm.imp_right fun e =>
          have hd := Option.mem_toList.mp e
          hsim.final hchk hd (h.wA i w hi d hd))
      have := wdsum_set hi (w.restart cfg.prog.loop) id
      rw [wd_none (w := w.restart cfg.prog.loop) rfl] at this
      simp only [drefs, State.setW, fd_cur_append]
      omega
    | @recv rest b d q hpc hq =>
      have hcn := hsim.cur_none (check_recvOrQuit.mp (hpc ▸ hchk)).1
      refine h.move (.inl ⟨rfl, fun id => ?_⟩) (pq := fun b' d' hm => ?_)
        (pw := pw_set hi rfl fun d hd => by rw [hcn] at hd; cases hd)
        (hq := fun _ _ hm => .inl (hq ▸ .tail _ hm)) (hw := fun j x d' hj hx => ?_)
      · have := wdsum_set hi (w.take rest b d) id
        rw [wd_none hcn, wd_cur (w := w.take rest b d) rfl] at this
        simp only [drefs, State.setW, hq, qd_cons]
        omega
      · rcases List.mem_cons.mp (hq ▸ hm) with e | hm
        · cases e
          exact inPlace_worker (by rw [State.setW, List.getElem?_set_self', hi]; rfl) rfl
        · exact inPlace_udpq hm
      · rcases getElem?_set_cases hj with ⟨_, rfl, _⟩ | ⟨_, hj⟩
        · cases hx
          exact .inr (h.qA b d (hq ▸ .head _))
        · exact .inl hj
    | decode hpc hb hd => exact h.event hi hd 1
    | countDecoded hpc hd => exact h.event hi hd 2
    | publish hpc hins hd => exact h.event hi hd 3
    | drop hpc hins hd => exact h.event hi hd 3
    | _ => exact h.local hi

/-- a step appends at most one event `e0`, and what it does along with it: a `received` datagram gets the next id,
the two counters move with their events, a publish attempt is recorded as what it was -/
def Logged (cfg : Cfg) (s s' : State K) (e0 : Option (Event K)) : Prop :=
  s'.log = e0.toList ++ s.log ∧
  s'.udpCount = s.udpCount + e0.toList.countP isCountUDP ∧
  s'.decCount = s.decCount + e0.toList.countP isCountDecoded ∧
  (match e0 with
    | some (.received d) => d.id = s.nextId ∧ s'.nextId = s.nextId + 1
    | _ => s'.nextId = s.nextId) ∧
  (match e0 with
    | some (.published _ _) => s.mq.length < cfg.mqCap
    | some (.dropped _ _) => cfg.mqCap ≤ s.mq.length
    | _ => True)

theorem Step.logged (hs : Step cfg s s') : ∃ e0, Logged cfg s s' e0 := by
  obtain ⟨_, hm⟩ := hs.move
  cases hm with
  | rxRead => exact ⟨some _, rfl, rfl, rfl, ⟨rfl, rfl⟩, trivial⟩
  | rxCount | mirConsume => exact ⟨some _, rfl, rfl, rfl, rfl, trivial⟩
  | work _ _ hw =>
    cases hw with
    | decode | countDecoded => exact ⟨some _, rfl, rfl, rfl, rfl, trivial⟩
    | publish _ _ _ _ room => exact ⟨some _, rfl, rfl, rfl, rfl, room⟩
    | drop _ _ _ _ full => exact ⟨some _, rfl, rfl, rfl, rfl, full⟩
    | _ => exact ⟨none, rfl, rfl, rfl, rfl, trivial⟩
  | _ => exact ⟨none, rfl, rfl, rfl, rfl, trivial⟩

theorem Logged.mem {e0 : Option (Event K)} (h : Logged cfg s s' e0) {e : Event K} (he : e ∈ s'.log) :
    e0 = some e ∨ e ∈ s.log :=
  (List.mem_append.mp (h.1 ▸ he)).imp_left Option.mem_toList.mp

/-- the two counters count their events; this needs nothing of the worker programs -/
def Tot (s : State K) : Prop := s.udpCount = s.log.countP isCountUDP ∧ s.decCount = s.log.countP isCountDecoded

theorem tot_step (h : Tot s) (hs : Step cfg s s') : Tot s' := by
  obtain ⟨e0, hlog, hudp, hdec, -⟩ := hs.logged
  exact ⟨by rw [hudp, hlog, List.countP_append, h.1, Nat.add_comm],
    by rw [hdec, hlog, List.countP_append, h.2, Nat.add_comm]⟩

/-- the payloads handed to the MQ channel, newest first -/
def pubList : List (Event K) → List (Nat × Bytes)
  | [] => []
  | .published id p :: l => (id, p) :: pubList l
  | .received _ :: l => pubList l
  | .countUDP _ :: l => pubList l
  | .decoded _ _ _ :: l => pubList l
  | .countDecoded _ :: l => pubList l
  | .dropped _ _ :: l => pubList l
  | .mirrored _ _ :: l => pubList l

def itemPair : MQItem → Nat × Bytes
  | .val id p => (id, p)
  | .ref id _ => (id, [])

/-- what was enqueued on the MQ channel is what is still queued plus what the consumer has read -/
def PubInv (s : State K) : Prop := pubList s.log = (s.mq.reverse.map itemPair) ++ s.delivered

theorem mem_pubList {log : List (Event K)} {id : Nat} {p : Bytes} :
    (id, p) ∈ pubList log ↔ Event.published id p ∈ log := by
  induction log with
  | nil => simp [pubList]
  | cons e l ih => cases e <;> simp [pubList, ih]

theorem count_pubList_le (log : List (Event K)) (id : Nat) :
    ((pubList log).map (·.1)).count id ≤ nK 3 log id := by
  induction log with
  | nil => simp [pubList, nK]
  | cons e l ih =>
    rw [nK_cons]
    cases e <;> simp only [pubList, tag, List.map_cons, List.count_cons, beq_iff_eq] <;> (try simp) <;> (try omega)

theorem pub_step (hinv : Inv cfg spec s) (h : PubInv s) (hs : Step cfg s s') : PubInv s' := by
  obtain ⟨_, hm⟩ := hs.move
  cases hm with
  | @mqConsume it q hq =>
    obtain ⟨id, p, rfl, _⟩ := hinv.mqOk it (hq ▸ .head _)
    simpa [PubInv, hq, resolve, itemPair] using h
  | @work i _ _ w s' hi hh hw =>
    cases hw with
    | @publish ins rest d p item hpc hins hd hp room =>
      obtain ⟨a, hsim, hchk⟩ := (hinv.wk i w hi).sim hh
      cases hsim.publish_item hpc hchk hins hd hp
      simpa [PubInv, pubList, itemPair, State.setW] using h
    | _ => exact h
  | _ => exact h

/-- received datagrams have distinct ids below `nextId`; this needs nothing of the worker programs -/
def RecvUniq (s : State K) : Prop :=
  (∀ d, Event.received d ∈ s.log → d.id < s.nextId) ∧
  (∀ d1 d2, Event.received d1 ∈ s.log → Event.received d2 ∈ s.log → d1.id = d2.id → d1 = d2)

theorem recvUniq_step (h : RecvUniq s) (hs : Step cfg s s') : RecvUniq s' := by
  obtain ⟨e0, hl⟩ := hs.logged
  have hr := hl.2.2.2.1
  -- a received datagram is the one just received, which has the next id, or an earlier one, with a smaller id
  have new : ∀ d, Event.received d ∈ s'.log →
      (e0 = some (.received d) ∧ d.id = s.nextId ∧ s'.nextId = s.nextId + 1) ∨
      (Event.received d ∈ s.log ∧ d.id < s.nextId) := fun d hd =>
    (hl.mem hd).imp (fun e => ⟨e, by rw [e] at hr; exact hr⟩) fun hd => ⟨hd, h.1 d hd⟩
  have hn : s.nextId ≤ s'.nextId := by split at hr <;> omega
  refine ⟨fun d hd => ?_, fun d1 d2 h1 h2 he => ?_⟩
  · rcases new d hd with ⟨-, hid, e⟩ | ⟨-, hlt⟩ <;> omega
  · rcases new d1 h1 with ⟨e1, i1, -⟩ | ⟨h1, l1⟩ <;> rcases new d2 h2 with ⟨e2, i2, -⟩ | ⟨h2, l2⟩
    · exact Event.received.inj (Option.some.inj (e1.symm.trans e2))
    · omega
    · omega
    · exact h.2 d1 d2 h1 h2 he

theorem reach_recvUniq {c : K.Cache} {mem0 : BufId → Bytes} (hr : Reach cfg (init K c mem0) s) : RecvUniq s := by
  induction hr with
  | refl => exact ⟨nofun, nofun⟩
  | step _ st ih => exact recvUniq_step ih st

theorem reach_tot {c : K.Cache} {mem0 : BufId → Bytes} (hr : Reach cfg (init K c mem0) s) : Tot s := by
  induction hr with
  | refl => exact ⟨rfl, rfl⟩
  | step _ st ih => exact tot_step ih st

theorem reach_all (hc : Canonical spec cfg.prog) {c : K.Cache} {mem0 : BufId → Bytes}
    (hr : Reach cfg (init K c mem0) s) : Inv cfg spec s ∧ Acct spec s ∧ PubInv s := by
  induction hr with
  | refl => exact ⟨init_inv cfg spec c mem0, init_acct spec c mem0, rfl⟩
  | step _ st ih => exact ⟨step_inv hc ih.1 st, acct_step ih.1 ih.2.1 st, pub_step ih.1 ih.2.2 st⟩

end
end Vflow.Pipeline
