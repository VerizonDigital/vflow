import Vflow.Model.Sflow
import Vflow.Proofs.BigEndian
/-!
# The reader operations of the sFlow model

For each operation (`full`, `u32`, `rawRead`, `readHdr`, `readFields`) two facts: what a successful read
returned and left (`_some`), and what it returns on an encoding followed by anything (`_append` / `_enc`).
-/
namespace Vflow.Sflow
open Vflow

theorem beN_lt (bs : Bytes) : beN bs < 256 ^ bs.length := Vflow.beN_lt bs

theorem full_append (x t : Bytes) (n : Nat) (h : x.length = n) : full n (x ++ t) = some (x, t) := by
  subst h
  simp [full]

theorem full_some {n : Nat} {bs b r : Bytes} (h : full n bs = some (b, r)) :
    b = bs.take n ∧ r = bs.drop n ∧ n ≤ bs.length := by
  unfold full at h
  split at h
  · cases h
  · cases h; exact ⟨rfl, rfl, by omega⟩

theorem full_some_length {n : Nat} {bs b r : Bytes} (h : full n bs = some (b, r)) :
    r.length + n = bs.length ∧ b.length = n := by
  obtain ⟨rfl, rfl, h3⟩ := full_some h
  exact ⟨by rw [List.length_drop, Nat.sub_add_cancel h3], List.length_take_of_le h3⟩

theorem u32_append (x t : Bytes) (h : x.length = 4) : u32 (x ++ t) = some (beN x, t) := by
  simp [u32, full_append x t 4 h]

theorem u32_some {bs r : Bytes} {v : Nat} (h : u32 bs = some (v, r)) : r = bs.drop 4 ∧ 4 ≤ bs.length := by
  unfold u32 at h
  split at h
  · cases h
  · cases h; exact (full_some ‹_›).2

theorem u32_some_length {bs r : Bytes} {v : Nat} (h : u32 bs = some (v, r)) : r.length + 4 = bs.length := by
  obtain ⟨rfl, h2⟩ := u32_some h
  rw [List.length_drop, Nat.sub_add_cancel h2]

theorem u32_u32_length {bs r1 r2 : Bytes} {a b : Nat} (h1 : u32 bs = some (a, r1)) (h2 : u32 r1 = some (b, r2)) :
    r2.length + 8 = bs.length := by
  have := u32_some_length h1
  have := u32_some_length h2
  omega

theorem rawRead_append (x t : Bytes) (n : Nat) (h : x.length = n) (hn : 0 < n) :
    rawRead n (x ++ t) = some (x, t) := by
  subst h
  have : x ≠ [] := by rintro rfl; simp at hn
  simp [rawRead, this]

theorem rawRead_some {n : Nat} {bs buf r : Bytes} (h : rawRead n bs = some (buf, r)) :
    buf.length = n ∧ r = bs.drop n ∧ 0 < bs.length := by
  unfold rawRead at h
  split at h
  · cases h
  · cases h
    refine ⟨?_, rfl, Nat.pos_of_ne_zero ‹_›⟩
    rw [List.length_append, List.length_replicate, Nat.add_sub_cancel' (List.length_take_le n bs)]

/-- the header octets are read whole, whatever follows — also when there are none and nothing follows -/
theorem readHdr_append (x t : Bytes) (n : Nat) (h : x.length = n) : readHdr n (x ++ t) = some (x, t) := by
  unfold readHdr
  split
  · obtain rfl : x = [] := List.eq_nil_of_length_eq_zero (by omega)
    rfl
  · exact rawRead_append x t n h (by omega)

theorem readHdr_some {n : Nat} {bs buf r : Bytes} (h : readHdr n bs = some (buf, r)) :
    buf.length = n ∧ r = bs.drop n := by
  unfold readHdr at h
  split at h
  · cases h; simp [*]
  · exact ⟨(rawRead_some h).1, (rawRead_some h).2.1⟩

/-- spec encoder of a field list: each value big-endian in its width -/
def encFields : List Nat → List Nat → Bytes
  | w :: ws, v :: vs => encBE w v ++ encFields ws vs
  | _, _ => []

def Fits : List Nat → List Nat → Prop
  | [], [] => True
  | w :: ws, v :: vs => v < 256 ^ w ∧ Fits ws vs
  | _, _ => False

theorem encFields_length (ws vs : List Nat) (h : Fits ws vs) : (encFields ws vs).length = ws.sum := by
  induction ws generalizing vs with
  | nil => cases vs <;> rfl
  | cons w ws ih =>
    cases vs with
    | nil => exact h.elim
    | cons v vs => rw [encFields, List.length_append, encBE_length, ih vs h.2, List.sum_cons]

theorem readFields_enc (ws vs : List Nat) (t : Bytes) (h : Fits ws vs) :
    readFields ws (encFields ws vs ++ t) = some (vs, t) := by
  induction ws generalizing vs with
  | nil => cases vs with
    | nil => rfl
    | cons => exact h.elim
  | cons w ws ih =>
    cases vs with
    | nil => exact h.elim
    | cons v vs =>
      simp only [encFields, readFields, List.append_assoc, full_append _ _ w (encBE_length w v), ih vs h.2,
        beN_encBE w v h.1]

theorem readFields_some {ws : List Nat} {bs r : Bytes} {vs : List Nat} (h : readFields ws bs = some (vs, r)) :
    vs.length = ws.length ∧ r.length + ws.sum = bs.length ∧ r = bs.drop ws.sum := by
  induction ws generalizing bs vs with
  | nil => cases h; simp
  | cons w ws ih =>
    simp only [readFields] at h
    split at h
    · cases h
    · rename_i b r1 hf
      split at h
      · cases h
      · rename_i vs' r' hr
        cases h
        obtain ⟨h1, h2, rfl⟩ := ih hr
        obtain ⟨_, rfl, hl⟩ := full_some hf
        refine ⟨by simp [h1], ?_, by simp [List.drop_drop]⟩
        simp only [List.length_drop, List.sum_cons] at h2 ⊢
        omega

end Vflow.Sflow
