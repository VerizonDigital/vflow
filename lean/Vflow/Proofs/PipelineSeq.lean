import Vflow.Proofs.PipelineAcct
/-!
# Order of decoding in the pipeline (the invariant behind `C04.one_worker_in_order`, finding K5)

The template cache is shared by all workers and a worker decodes whatever datagram it has taken from the UDP
channel, whenever the scheduler lets it: with several workers the order in which the datagrams of one exporter
are decoded is not the order in which they arrived (K5).  With at most ONE worker it is: the UDP channel is a
FIFO, the worker holds at most one undecoded datagram, and the cache in the state is the fold of `K.decode`
over the datagrams decoded so far — `Seq`.

`arrivals log` / `decodes log` read the ghost log (newest first) oldest first.
-/
namespace Vflow.Pipeline
open Vflow
variable {K : Codec}

def Event.dgram? : Event K → Option Dgram
  | .received d => some d
  | _ => none

/-- (datagram id, cache the datagram was decoded against, result) of a `decoded` event -/
def Event.decoded? : Event K → Option (Nat × K.Cache × Option K.Msg)
  | .decoded id c r => some (id, c, r)
  | _ => none

/-- the received datagrams in arrival order (oldest first) -/
def arrivals (log : List (Event K)) : List Dgram := (log.filterMap Event.dgram?).reverse

/-- the `decoded` events in the order in which the decodes happened (oldest first) -/
def decodes (log : List (Event K)) : List (Nat × K.Cache × Option K.Msg) := (log.filterMap Event.decoded?).reverse

/-- the sequential semantics: decode the datagrams one after the other, threading the cache; the entry of a
datagram is (its id, the cache it is decoded against, the result) -/
def decodeAll (K : Codec) (c : K.Cache) : List Dgram → List (Nat × K.Cache × Option K.Msg)
  | [] => []
  | d :: ds => (d.id, c, (K.decode c d.addr d.bytes).1) :: decodeAll K (K.decode c d.addr d.bytes).2 ds

def cacheAfter (K : Codec) (c : K.Cache) (ds : List Dgram) : K.Cache :=
  ds.foldl (fun c d => (K.decode c d.addr d.bytes).2) c

theorem decodeAll_append (c : K.Cache) (ds es : List Dgram) :
    decodeAll K c (ds ++ es) = decodeAll K c ds ++ decodeAll K (cacheAfter K c ds) es := by
  induction ds generalizing c with
  | nil => rfl
  | cons d ds ih => simp [decodeAll, cacheAfter, ih]

theorem cacheAfter_append (c : K.Cache) (ds es : List Dgram) :
    cacheAfter K c (ds ++ es) = cacheAfter K (cacheAfter K c ds) es := by
  simp [cacheAfter]

theorem decodeAll_length (c : K.Cache) (ds : List Dgram) : (decodeAll K c ds).length = ds.length := by
  induction ds generalizing c with
  | nil => rfl
  | cons d ds ih => simp [decodeAll, ih]

theorem decodeAll_take (c : K.Cache) (ds es : List Dgram) :
    decodeAll K c ds = (decodeAll K c (ds ++ es)).take ds.length := by
  rw [decodeAll_append, List.take_left' (decodeAll_length c ds)]

theorem decodeAll_getElem? (c : K.Cache) (ds : List Dgram) (k : Nat) :
    (decodeAll K c ds)[k]? = (ds[k]?).map (fun d =>
      (d.id, cacheAfter K c (ds.take k), (K.decode (cacheAfter K c (ds.take k)) d.addr d.bytes).1)) := by
  induction ds generalizing c k with
  | nil => simp [decodeAll]
  | cons d ds ih =>
    cases k with
    | zero => simp [decodeAll, cacheAfter]
    | succ k => simp [decodeAll, ih, cacheAfter]

/-- the datagram a worker holds and has not decoded yet -/
def pendW (w : Worker K) : List Dgram :=
  match w.cur with
  | some d => if w.nDec = 0 then [d] else []
  | none => []

def pendRx : RxPhase → List Dgram
  | .read _ d => [d]
  | .counted _ d => [d]
  | _ => []

/-- the received, not yet decoded datagrams: held by a worker, in the UDP channel, in the read loop -/
def pending (s : State K) : List Dgram :=
  s.workers.flatMap pendW ++ s.udpq.map (·.2) ++ pendRx s.rx

/-- **the sequencing invariant** (for at most one worker): the arrivals are the decoded datagrams followed by the
pending ones, in this order; the decodes are the sequential semantics of the decoded ones; the shared cache is
the cache the sequential semantics leaves -/
def Seq (c0 : K.Cache) (s : State K) : Prop :=
  ∃ done, arrivals s.log = done ++ pending s ∧ decodes s.log = decodeAll K c0 done ∧ s.cache = cacheAfter K c0 done

theorem flatMap_set_same {α β} (f : α → List β) : ∀ (l : List α) (i : Nat) (x y : α), l[i]? = some x → f y = f x →
    (l.set i y).flatMap f = l.flatMap f
  | [], _, _, _, h, _ => by simp at h
  | a :: l, 0, x, y, h, hf => by
      simp at h; subst h; simp [hf]
  | a :: l, i+1, x, y, h, hf => by
      simp at h
      simp [flatMap_set_same f l i x y h hf]

theorem Seq.of_eq {c0 : K.Cache} {s s' : State K} (h : Seq c0 s) (hp : pending s' = pending s)
    (ha : arrivals s'.log = arrivals s.log := by rfl) (hd : decodes s'.log = decodes s.log := by rfl)
    (hc : s'.cache = s.cache := by rfl) : Seq c0 s' := by
  obtain ⟨done, h1, h2, h3⟩ := h
  exact ⟨done, by rw [ha, hp, h1], by rw [hd, h2], by rw [hc, h3]⟩

theorem pending_setW {s s' : State K} {i : Nat} {w w' : Worker K} (hi : s.workers[i]? = some w)
    (hW : s'.workers = s.workers.set i w') (hp : pendW w' = pendW w) (hq : s'.udpq = s.udpq := by rfl)
    (hrx : s'.rx = s.rx := by rfl) : pending s' = pending s := by
  simp only [pending, hW, hq, hrx, flatMap_set_same pendW _ _ _ _ hi hp]

theorem arrivals_cons_received (d : Dgram) (log : List (Event K)) :
    arrivals (Event.received d :: log) = arrivals log ++ [d] := by
  simp [arrivals, Event.dgram?]

theorem decodes_cons_decoded (id : Nat) (c : K.Cache) (r : Option K.Msg) (log : List (Event K)) :
    decodes (Event.decoded id c r :: log) = decodes log ++ [(id, c, r)] := by
  simp [decodes, Event.decoded?]

theorem workers_eq_singleton {s : State K} {i : Nat} {w : Worker K} (h1 : s.workers.length ≤ 1)
    (hi : s.workers[i]? = some w) : s.workers = [w] ∧ i = 0 := by
  match hws : s.workers, i, h1, hi with
  | [x], 0, _, hi => exact ⟨by rw [Option.some.inj hi], rfl⟩
  | [], _, _, hi => simp at hi
  | [_], _ + 1, _, hi => simp at hi
  | _ :: _ :: _, _, h1, _ => simp at h1

/-- a step, in a state with at most one worker: the worker takes the head of the UDP channel, which is the oldest
pending datagram it does not hold itself, and decodes it against the cache the sequential semantics has reached -/
theorem seq_step {cfg : Cfg} {spec : CountSpec} {c0 : K.Cache} {s s' : State K} (hinv : Inv cfg spec s)
    (h : Seq c0 s) (h1 : s.workers.length ≤ 1) (hs : Step cfg s s') : Seq c0 s' := by
  obtain ⟨_, hm⟩ := hs.move
  cases hm with
  | spawnPool | spawnNew | spawnBare => exact h.of_eq (by simp [pending, pendW])
  | rxGetPool hrx | rxGetNew hrx | rxReadErr hrx | rxCount hrx | rxEnqueue hrx => exact h.of_eq (by simp [pending, hrx, pendRx])
  | mirConsume | mqConsume => exact h.of_eq rfl
  | @rxRead b addr bytes hrx =>
    obtain ⟨done, h1, h2, h3⟩ := h
    refine ⟨done, ?_, h2, h3⟩
    show arrivals (Event.received _ :: s.log) = _
    rw [arrivals_cons_received, h1]
    simp [pending, hrx, pendRx]
  | @work i _ _ w s' hi hh hw =>
    obtain ⟨a, hsim, hchk⟩ := (hinv.wk i w hi).sim hh
    cases hw with
    | finish hpc =>
      -- the datagram of the iteration that ends has been decoded
      obtain ⟨-, -, y, hky, -⟩ := atEnd_iff.mp (check_nil ▸ hpc ▸ hchk)
      have hn : w.nDec = 1 := by rw [hsim.cnt_dec, (hsim.kyield y hky).1]; rfl
      refine h.of_eq (pending_setW hi rfl ?_)
      simp only [pendW, hn]
      cases w.cur <;> rfl
    | @recv rest b d q hpc hq =>
      obtain ⟨hws, rfl⟩ := workers_eq_singleton h1 hi
      have hcn := hsim.cur_none (check_recvOrQuit.mp (hpc ▸ hchk)).1
      exact h.of_eq (by simp [pending, State.setW, hws, hq, pendW, hcn, Worker.take])
    | @decode rest b d hpc hb hd =>
      obtain ⟨hws, rfl⟩ := workers_eq_singleton h1 hi
      obtain ⟨⟨ho, _, hnd⟩, _⟩ := check_decode.mp (hpc ▸ hchk)
      have hn : w.nDec = 0 := by rw [hsim.cnt_dec, hnd]; rfl
      obtain ⟨done, e1, e2, e3⟩ := h
      rw [hsim.buf_ok b d (hsim.owns ho) hb hd, e3]
      refine ⟨done ++ [d], ?_, ?_, (cacheAfter_append c0 done [d]).symm⟩
      · show arrivals s.log = _
        rw [e1]
        simp [pending, State.setW, hws, pendW, hd, hn]
      · show decodes (Event.decoded _ _ _ :: s.log) = _
        rw [decodes_cons_decoded, e2, decodeAll_append]
        rfl
    | _ => exact h.of_eq (pending_setW hi rfl rfl)

def Action.isSpawn : Action → Bool
  | .spawn _ => true
  | _ => false

/-- workers are only ever added, by `spawn`, one at a time (a worker that quits stays in the list, halted) -/
theorem step_workers_length {cfg : Cfg} {s s' : State K} {a : Action} (hs : step cfg s a = some s') :
    s'.workers.length = s.workers.length + (if a.isSpawn then 1 else 0) := by
  cases step_move hs with
  | spawnPool | spawnNew | spawnBare => exact List.length_append
  | work _ _ hw =>
    obtain ⟨w', e⟩ := hw.workers
    rw [e, List.length_set]
    rfl
  | _ => rfl

theorem run_workers_length (cfg : Cfg) (s : State K) (acts : List Action) :
    (run cfg s acts).workers.length ≤ s.workers.length + acts.countP Action.isSpawn := by
  induction acts generalizing s with
  | nil => simp [run]
  | cons a as ih =>
    simp only [run, List.countP_cons]
    split
    · rename_i s' hs
      have h1 := step_workers_length hs
      have h2 := ih s'
      split at h1 <;> rename_i hsp <;> simp [hsp] <;> omega
    · have h2 := ih s
      omega

theorem reach_seq {cfg : Cfg} {spec : CountSpec} (hc : Canonical spec cfg.prog) {c0 : K.Cache} {mem0 : BufId → Bytes}
    {s : State K} (hr : Reach cfg (init K c0 mem0) s) : s.workers.length ≤ 1 → Seq c0 s := by
  induction hr with
  | refl => exact fun _ => ⟨[], rfl, rfl, rfl⟩
  | @step b c' hr' st ih =>
    intro h1
    obtain ⟨a, ha⟩ := st
    have h1' : b.workers.length ≤ 1 := by have := step_workers_length ha; omega
    exact seq_step (reach_inv (spec := spec) hc hr') (ih h1') h1' ⟨a, ha⟩

theorem mem_arrivals {log : List (Event K)} {d : Dgram} : d ∈ arrivals log ↔ Event.received d ∈ log := by
  simp only [arrivals, List.mem_reverse, List.mem_filterMap]
  constructor
  · rintro ⟨e, he, hd⟩
    cases e <;> simp [Event.dgram?] at hd
    subst hd; exact he
  · intro h; exact ⟨_, h, rfl⟩

theorem mem_decodes {log : List (Event K)} {id : Nat} {c : K.Cache} {r : Option K.Msg} :
    (id, c, r) ∈ decodes log ↔ Event.decoded id c r ∈ log := by
  simp only [decodes, List.mem_reverse, List.mem_filterMap]
  constructor
  · rintro ⟨e, he, hd⟩
    cases e <;> simp [Event.decoded?] at hd
    obtain ⟨rfl, rfl, rfl⟩ := hd; exact he
  · intro h; exact ⟨_, h, rfl⟩

/-- `Seq`, read as a statement about the log alone -/
theorem Seq.in_order {c0 : K.Cache} {s : State K} (h : Seq c0 s) :
    ∃ n, n ≤ (arrivals s.log).length ∧
      decodes s.log = (decodeAll K c0 (arrivals s.log)).take n ∧
      s.cache = cacheAfter K c0 ((arrivals s.log).take n) ∧
      (arrivals s.log).drop n = pending s := by
  obtain ⟨done, h1, h2, h3⟩ := h
  refine ⟨done.length, by rw [h1]; simp, ?_, ?_, ?_⟩
  · rw [h2, h1]; exact decodeAll_take c0 done _
  · rw [h3, h1, List.take_left' rfl]
  · rw [h1, List.drop_left' rfl]

/-- at most one worker: what is published for a datagram is what the sequential semantics yields for it -/
theorem published_sequential {cfg : Cfg} {spec : CountSpec} (hc : Canonical spec cfg.prog) {c0 : K.Cache}
    {mem0 : BufId → Bytes} {s : State K} (hr : Reach cfg (init K c0 mem0) s) (h1 : s.workers.length ≤ 1)
    {id : Nat} {p : Bytes} (hp : Event.published id p ∈ s.log) :
    ∃ k d, (arrivals s.log)[k]? = some d ∧ d.id = id ∧
      outcome K (K.decode (cacheAfter K c0 ((arrivals s.log).take k)) d.addr d.bytes).1 = some p := by
  obtain ⟨d, c, hrecv, hid, hdec, hout⟩ := (reach_inv (spec := spec) hc hr).pubOk id p hp
  obtain ⟨n, _, hn, _, _⟩ := (reach_seq hc hr h1).in_order
  have hm : (id, c, (K.decode c d.addr d.bytes).1) ∈ decodes s.log := mem_decodes.mpr hdec
  rw [hn] at hm
  obtain ⟨k, hk⟩ := List.getElem?_of_mem (List.mem_of_mem_take hm)
  rw [decodeAll_getElem?] at hk
  cases hd' : (arrivals s.log)[k]? with
  | none => rw [hd'] at hk; simp at hk
  | some d' =>
    rw [hd'] at hk
    simp only [Option.map_some, Option.some.injEq, Prod.mk.injEq] at hk
    obtain ⟨e1, e2, _⟩ := hk
    have hrecv' : Event.received d' ∈ s.log := mem_arrivals.mp (List.mem_of_getElem? hd')
    have : d' = d := (reach_recvUniq hr).2 d' d hrecv' hrecv (by rw [e1, hid])
    subst this
    exact ⟨k, d', hd', hid, by rw [e2]; exact hout⟩

end Vflow.Pipeline
