import Vflow.Model.V9
/-!
# Unfolding equations for `V9.decFields`, and `minLeft_pos`

Lean's automatically generated equation lemmas for `decFields` cannot be produced (their generation
tries to evaluate the 400-row information-model table behind `lookupElem`), so the two defining
equations are stated here and proved by `rfl` with `lookupElem` kept folded.
-/
namespace Vflow.V9
open Vflow

attribute [local irreducible] Vflow.lookupElem

theorem decFields_nil (r : Rd) (acc : Record) : decFields [] r acc = (.ok acc, r) := rfl

theorem decFields_cons (f : Spec) (fs : List Spec) (r : Rd) (acc : Record) :
    decFields (f :: fs) r acc =
      match r.readN f.len with
      | none => (.error .short, r)
      | some (b, r1) =>
        match lookupElem 0 f.id with
        | none => (.error .unknownElem, r1)
        | some (fid, t) => decFields fs r1 (acc ++ [⟨fid, 0, interpret b t⟩]) := rfl

theorem minLeft_pos (ctx : Ctx) : 0 < minLeft ctx := by
  unfold minLeft minRecLen
  split
  · dsimp only; split <;> omega
  · omega

end Vflow.V9
