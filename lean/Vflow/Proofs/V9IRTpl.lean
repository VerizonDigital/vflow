import Vflow.Proofs.V9IR
/-!
# The translated `unmarshal` functions of `netflow/v9/decoder.go` are the model's readers (`Vflow.V9`)

As `Proofs/IpfixIRTpl.lean`: the header functions are chains of reads into fields; the three specifier loops of `TemplateRecord.unmarshal` / `unmarshalOpts` are
instances of `specLoop`, with the invariant that the scratch specifier has no enterprise number (the v9 struct has none,
the model's `Spec` keeps 0 there).
-/
namespace Vflow.V9IR
open Vflow Vflow.IpfixIR

/-! ## the `unmarshal` functions -/

theorem fieldSpecUnmarshal_sem (addr : Bytes) (fuel : Nat) (r : Rd) (c : Cache) (s0 : Spec) (h0 : s0.ent = 0) :
    SpecOut (V9.readSpec r) c (V9Prog.fieldSpecUnmarshal addr fuel [.spec s0] ⟨r, c⟩) := by
  rw [V9Prog.fieldSpecUnmarshal, Func.sem_eq rfl rfl]
  unfold V9.readSpec SpecOut
  obtain ⟨id0, len0, ent0⟩ := s0
  simp only at h0; subst h0
  rcases h1 : r.rU16 with _ | ⟨id, r1⟩
  · exact ⟨⟨0, len0, 0⟩, by ir_simp [Gen.V9IR.fieldSpecUnmarshal, h1]⟩
  · simp only []
    rcases h2 : r1.rU16 with _ | ⟨len, r2⟩
    · exact ⟨⟨id, 0, 0⟩, by ir_simp [Gen.V9IR.fieldSpecUnmarshal, h1, h2]⟩
    · ir_simp [Gen.V9IR.fieldSpecUnmarshal, h1, h2]

theorem tplHeaderUnmarshal_sem (addr : Bytes) (fuel : Nat) (r : Rd) (c : Cache) (a b ol osl : Nat) :
    V9Prog.tplHeaderUnmarshal addr fuel [.thdr9 a b ol osl] ⟨r, c⟩ =
      match r.rU16 with
      | none => some (⟨r, c⟩, [.thdr9 0 b ol osl], [errReader])
      | some (tid, r1) =>
        match r1.rU16 with
        | none => some (⟨r1, c⟩, [.thdr9 tid 0 ol osl], [errReader])
        | some (n, r2) => some (⟨r2, c⟩, [.thdr9 tid n ol osl], [.nil]) := by
  rw [V9Prog.tplHeaderUnmarshal, Func.sem_eq rfl rfl]
  rcases h1 : r.rU16 with _ | ⟨tid, r1⟩
  · ir_simp [Gen.V9IR.tplHeaderUnmarshal, h1]
  · rcases h2 : r1.rU16 with _ | ⟨n, r2⟩ <;> ir_simp [Gen.V9IR.tplHeaderUnmarshal, h1, h2]

theorem tplHeaderUnmarshalOpts_sem (addr : Bytes) (fuel : Nat) (r : Rd) (c : Cache) (a b ol osl : Nat) :
    V9Prog.tplHeaderUnmarshalOpts addr fuel [.thdr9 a b ol osl] ⟨r, c⟩ =
      match r.rU16 with
      | none => some (⟨r, c⟩, [.thdr9 0 b ol osl], [errReader])
      | some (tid, r1) =>
        match r1.rU16 with
        | none => some (⟨r1, c⟩, [.thdr9 tid b ol 0], [errReader])
        | some (sl, r2) =>
          match r2.rU16 with
          | none => some (⟨r2, c⟩, [.thdr9 tid b 0 sl], [errReader])
          | some (l, r3) => some (⟨r3, c⟩, [.thdr9 tid b l sl], [.nil]) := by
  rw [V9Prog.tplHeaderUnmarshalOpts, Func.sem_eq rfl rfl]
  rcases h1 : r.rU16 with _ | ⟨tid, r1⟩
  · ir_simp [Gen.V9IR.tplHeaderUnmarshalOpts, h1]
  · rcases h2 : r1.rU16 with _ | ⟨n, r2⟩
    · ir_simp [Gen.V9IR.tplHeaderUnmarshalOpts, h1, h2]
    · rcases h3 : r2.rU16 with _ | ⟨m, r3⟩ <;> ir_simp [Gen.V9IR.tplHeaderUnmarshalOpts, h1, h2, h3]

theorem setHeaderUnmarshal_sem (addr : Bytes) (fuel : Nat) (r : Rd) (c : Cache) (a b : Nat) :
    V9Prog.setHeaderUnmarshal addr fuel [.shdr a b] ⟨r, c⟩ =
      match r.rU16 with
      | none => some (⟨r, c⟩, [.shdr 0 b], [errReader])
      | some (sid, r1) =>
        match r1.rU16 with
        | none => some (⟨r1, c⟩, [.shdr sid 0], [errReader])
        | some (len, r2) => some (⟨r2, c⟩, [.shdr sid len], [.nil]) := by
  rw [V9Prog.setHeaderUnmarshal, Func.sem_eq rfl rfl]
  rcases h1 : r.rU16 with _ | ⟨tid, r1⟩
  · ir_simp [Gen.V9IR.setHeaderUnmarshal, h1]
  · rcases h2 : r1.rU16 with _ | ⟨n, r2⟩ <;> ir_simp [Gen.V9IR.setHeaderUnmarshal, h1, h2]

theorem pktHeaderUnmarshal_sem (addr : Bytes) (fuel : Nat) (r : Rd) (c : Cache) (h0 : PHdr) :
    match V9.readHeader r with
    | some (h, r') => ∃ h1 : PHdr, h1.toHdr = h ∧
        V9Prog.pktHeaderUnmarshal addr fuel [.phdr h0] ⟨r, c⟩ = some (⟨r', c⟩, [.phdr h1], [.nil])
    | none => ∃ r' h1, V9Prog.pktHeaderUnmarshal addr fuel [.phdr h0] ⟨r, c⟩ = some (⟨r', c⟩, [.phdr h1], [errReader]) := by
  rw [V9Prog.pktHeaderUnmarshal, Func.sem_eq rfl rfl]
  unfold V9.readHeader
  rcases h1 : r.rU16 with _ | ⟨ver, r1⟩
  · exact ⟨r, { h0 with ver := 0 }, by ir_simp [Gen.V9IR.pktHeaderUnmarshal, h1]⟩
  · simp only []
    rcases h2 : r1.rU16 with _ | ⟨cnt, r2⟩
    · exact ⟨r1, { h0 with ver := ver, cnt := 0 }, by ir_simp [Gen.V9IR.pktHeaderUnmarshal, h1, h2]⟩
    · simp only []
      rcases h3 : r2.rU32 with _ | ⟨up, r3⟩
      · exact ⟨r2, { h0 with ver := ver, cnt := cnt, up := 0 }, by ir_simp [Gen.V9IR.pktHeaderUnmarshal, h1, h2, h3]⟩
      · simp only []
        rcases h4 : r3.rU32 with _ | ⟨secs, r4⟩
        · exact ⟨r3, { h0 with ver := ver, cnt := cnt, up := up, secs := 0 }, by ir_simp [Gen.V9IR.pktHeaderUnmarshal, h1, h2, h3, h4]⟩
        · simp only []
          rcases h5 : r4.rU32 with _ | ⟨sq, r5⟩
          · exact ⟨r4, { h0 with ver := ver, cnt := cnt, up := up, secs := secs, sq := 0 }, by ir_simp [Gen.V9IR.pktHeaderUnmarshal, h1, h2, h3, h4, h5]⟩
          · simp only []
            rcases h6 : r5.rU32 with _ | ⟨src, r6⟩
            · exact ⟨r5, ⟨ver, cnt, up, secs, sq, 0⟩, by ir_simp [Gen.V9IR.pktHeaderUnmarshal, h1, h2, h3, h4, h5, h6]⟩
            · exact ⟨⟨ver, cnt, up, secs, sq, src⟩, rfl, by ir_simp [Gen.V9IR.pktHeaderUnmarshal, h1, h2, h3, h4, h5, h6]⟩

theorem pktHeaderValidate_sem (addr : Bytes) (fuel : Nat) (st : St) (h : PHdr) :
    V9Prog.pktHeaderValidate addr fuel [.phdr h] st =
      some (st, [.phdr h], [if h.toHdr.headD 0 ≠ 9 then .err ⟨false, .badVersion⟩ else .nil]) := by
  rw [V9Prog.pktHeaderValidate, Func.sem_eq rfl rfl]
  by_cases hv : h.ver = 9 <;> ir_simp [Gen.V9IR.pktHeaderValidate, hv, PHdr.toHdr, List.headD_cons]

/-! ### `TemplateRecord.unmarshal` / `unmarshalOpts` -/

def tru (i : Nat) : Stmt := Gen.V9IR.tplRecordUnmarshal.body.nth i
theorem tru_body : Gen.V9IR.tplRecordUnmarshal.body =
    blk (tru 0 :: tru 1 :: tru 2 :: [tru 3, tru 4, tru 5, tru 6] ++ tru 7 :: [tru 8]) := rfl
theorem tru7_shape : tru 7 = .loop (tru 7).loopCond (tru 7).loopBody (tru 7).loopPost := rfl
def truo (i : Nat) : Stmt := Gen.V9IR.tplRecordUnmarshalOpts.body.nth i
theorem truo_body : Gen.V9IR.tplRecordUnmarshalOpts.body =
    blk (truo 0 :: truo 1 :: truo 2 :: [truo 3, truo 4, truo 5] ++ truo 6 :: truo 7 :: truo 8 :: [truo 9]) := rfl
theorem truo6_shape : truo 6 = .loop (truo 6).loopCond (truo 6).loopBody (truo 6).loopPost := rfl
theorem truo8_shape : truo 8 = .loop (truo 8).loopCond (truo 8).loopBody (truo 8).loopPost := rfl

theorem readSpec_ok {r r' : Rd} {s : Spec} (h : V9.readSpec r = (.ok s, r')) : r'.rem.length < r.rem.length ∧ s.ent = 0 := by
  have ha := V9.readSpec_adv h
  have h2 := ha.2 s rfl
  have h1 := ha.1.1
  refine ⟨by omega, ?_⟩
  unfold V9.readSpec at h
  rcases h1 : r.rU16 with _ | ⟨id, r1⟩ <;> simp only [h1] at h
  · cases h
  rcases h2 : r1.rU16 with _ | ⟨len, r2⟩ <;> simp only [h2] at h <;> cases h
  rfl

section
variable (addr : Bytes) (fuel : Nat) (c : Cache)

abbrev truLink : Linkage :=
  [("tplHeaderUnmarshal", V9Prog.tplHeaderUnmarshal addr fuel), ("fieldSpecUnmarshal", V9Prog.fieldSpecUnmarshal addr fuel)]
abbrev truoLink : Linkage :=
  [("tplHeaderUnmarshalOpts", V9Prog.tplHeaderUnmarshalOpts addr fuel), ("fieldSpecUnmarshal", V9Prog.fieldSpecUnmarshal addr fuel)]

/-- the locals of `unmarshal` in its loop: `tr`, `th`, `tf`, `err`, `i` -/
def truEnv (tid cnt : Nat) (th : V) (acc : List Spec) (tf : Spec) (i : Nat) (e : V) : Env :=
  [.tpl ⟨tid, cnt, 0, [], acc⟩, th, .spec tf, e, .int i]

/-- the locals of `unmarshalOpts` in its scope loop: `tr`, `th`, `tf`, `err`, the loop's `i`, and the `i` of the field loop -/
def truoEnv6 (tid : Nat) (th x5 : V) (acc : List Spec) (tf : Spec) (i : Nat) (e : V) : Env :=
  [.tpl ⟨tid, 0, 0, acc, []⟩, th, .spec tf, e, .int i, x5]

/-- the locals of `unmarshalOpts` in its field loop (`x4`: the `i` of the scope loop) -/
def truoEnv8 (tid : Nat) (scope : List Spec) (th x4 : V) (acc : List Spec) (tf : Spec) (i : Nat) (e : V) : Env :=
  [.tpl ⟨tid, 0, 0, scope, acc⟩, th, .spec tf, e, x4, .int i]

theorem tru7_body (tid cnt : Nat) (th : V) (r : Rd) (acc : List Spec) (tf : Spec) (i : Nat) (e : V) (htf : tf.ent = 0) :
    SpecStepOut c (fun s => truEnv tid cnt th (acc ++ [s]) s i .nil) (V9.readSpec r)
      (exec addr (truLink addr fuel) fuel (tru 7).loopBody ⟨r, c⟩ (truEnv tid cnt th acc tf i e)) := by
  have hs := fieldSpecUnmarshal_sem addr fuel r c tf htf
  rcases hrs : V9.readSpec r with ⟨e' | s, r'⟩ <;> simp only [hrs, SpecOut, SpecStepOut] at hs ⊢
  · obtain ⟨s', hs⟩ := hs
    refine ⟨⟨tid, cnt, 0, [], acc⟩, [th, .spec s', .err ⟨false, e'⟩, .int i], ?_⟩
    ir_simp [truEnv, tru, Gen.V9IR.tplRecordUnmarshal, hs]
  · ir_simp [truEnv, tru, Gen.V9IR.tplRecordUnmarshal, hs]

theorem truo6_body (tid : Nat) (th x5 : V) (r : Rd) (acc : List Spec) (tf : Spec) (i : Nat) (e : V) (htf : tf.ent = 0) :
    SpecStepOut c (fun s => truoEnv6 tid th x5 (acc ++ [s]) s i .nil) (V9.readSpec r)
      (exec addr (truoLink addr fuel) fuel (truo 6).loopBody ⟨r, c⟩ (truoEnv6 tid th x5 acc tf i e)) := by
  have hs := fieldSpecUnmarshal_sem addr fuel r c tf htf
  rcases hrs : V9.readSpec r with ⟨e' | s, r'⟩ <;> simp only [hrs, SpecOut, SpecStepOut] at hs ⊢
  · obtain ⟨s', hs⟩ := hs
    refine ⟨⟨tid, 0, 0, acc, []⟩, [th, .spec s', .err ⟨false, e'⟩, .int i, x5], ?_⟩
    ir_simp [truoEnv6, truo, Gen.V9IR.tplRecordUnmarshalOpts, hs]
  · ir_simp [truoEnv6, truo, Gen.V9IR.tplRecordUnmarshalOpts, hs]

theorem truo8_body (tid : Nat) (scope : List Spec) (th x4 : V) (r : Rd) (acc : List Spec) (tf : Spec) (i : Nat) (e : V)
    (htf : tf.ent = 0) :
    SpecStepOut c (fun s => truoEnv8 tid scope th x4 (acc ++ [s]) s i .nil) (V9.readSpec r)
      (exec addr (truoLink addr fuel) fuel (truo 8).loopBody ⟨r, c⟩ (truoEnv8 tid scope th x4 acc tf i e)) := by
  have hs := fieldSpecUnmarshal_sem addr fuel r c tf htf
  rcases hrs : V9.readSpec r with ⟨e' | s, r'⟩ <;> simp only [hrs, SpecOut, SpecStepOut] at hs ⊢
  · obtain ⟨s', hs⟩ := hs
    refine ⟨⟨tid, 0, 0, scope, acc⟩, [th, .spec s', .err ⟨false, e'⟩, x4, .int i], ?_⟩
    ir_simp [truoEnv8, truo, Gen.V9IR.tplRecordUnmarshalOpts, hs]
  · ir_simp [truoEnv8, truo, Gen.V9IR.tplRecordUnmarshalOpts, hs]
end

theorem tplRecordUnmarshal_sem (addr : Bytes) (fuel : Nat) (r : Rd) (c : Cache) (hfuel : r.rem.length < fuel) :
    TplOut (V9.parseTpl r) c (V9Prog.tplRecordUnmarshal addr fuel [.tpl V9.emptyTpl] ⟨r, c⟩) := by
  have herr : ∀ r' th', V9Prog.tplHeaderUnmarshal addr fuel [.thdr9 0 0 0 0] ⟨r, c⟩ = some (⟨r', c⟩, [th'], [errReader]) →
      ∃ t', V9Prog.tplRecordUnmarshal addr fuel [.tpl V9.emptyTpl] ⟨r, c⟩ = some (⟨r', c⟩, [.tpl t'], [errReader]) := by
    intro r' th' h
    rw [V9Prog.tplRecordUnmarshal, Func.sem_eq rfl rfl]
    exact ⟨V9.emptyTpl, by ir_simp [Gen.V9IR.tplRecordUnmarshal, h, V9.emptyTpl]⟩
  have hh := tplHeaderUnmarshal_sem addr fuel r c 0 0 0 0
  rw [V9.parseTpl]
  unfold TplOut
  rcases h1 : r.rU16 with _ | ⟨tid, r1⟩ <;> simp only [h1] at hh ⊢
  · exact herr _ _ hh
  rcases h2 : r1.rU16 with _ | ⟨n, r2⟩ <;> simp only [h2] at hh ⊢
  · exact herr _ _ hh
  rw [V9Prog.tplRecordUnmarshal, Func.sem_eq (env0 := .tpl V9.emptyTpl :: List.replicate 4 .unset) rfl rfl, tru_body]
  have pre : exec addr (truLink addr fuel) fuel (blk (tru 0 :: tru 1 :: tru 2 :: [tru 3, tru 4, tru 5, tru 6])) ⟨r, c⟩
      (.tpl V9.emptyTpl :: List.replicate 4 .unset) =
      some (.norm, ⟨r2, c⟩, truEnv tid n (.thdr9 tid n 0 0) [] ⟨0, 0, 0⟩ n .nil) := by
    ir_simp [truEnv, tru, Gen.V9IR.tplRecordUnmarshal, hh, V9.emptyTpl]
  have hr2 : r2.rem.length < fuel := Nat.lt_of_le_of_lt ((adv_rU16 h1).1.trans (adv_rU16 h2).1).rem_le hfuel
  have hl := specLoop (P := fun s => s.ent = 0) (read := V9.readSpec) (reads := V9.readSpecs) (truEnv tid n (.thdr9 tid n 0 0))
    (fun _ _ => rfl) (fun _ _ _ => rfl) readSpec_ok
    (cond := fun st env => eval addr st env (tru 7).loopCond) (post := exec addr (truLink addr fuel) fuel (tru 7).loopPost)
    (by intros; ir_simp [truEnv, tru, Gen.V9IR.tplRecordUnmarshal])
    (by intro _ _ _ i _ hi; ir_simp [truEnv, tru, Gen.V9IR.tplRecordUnmarshal, subAt_u16_pred i hi])
    (tru7_body addr fuel c tid n (.thdr9 tid n 0 0))
    n fuel r2 [] ⟨0, 0, 0⟩ .nil rfl (rU16_lt h2) hr2
  rw [exec_blk_append_norm _ pre, exec_blk_cons, tru7_shape, exec_loop]
  rcases hrs : V9.readSpecs n r2 [] with ⟨e | fs, r3⟩ <;> simp only [hrs, SpecsOut] at hl ⊢
  · obtain ⟨t', rest, hl⟩ := hl
    exact ⟨t', by ir_simp [hl, Gen.V9IR.tplRecordUnmarshal]⟩
  · obtain ⟨tf', e', _, hl⟩ := hl
    simp only [hl]
    ir_simp [truEnv, tru, Gen.V9IR.tplRecordUnmarshal]

theorem tplRecordUnmarshalOpts_sem (addr : Bytes) (fuel : Nat) (r : Rd) (c : Cache) (hfuel : r.rem.length < fuel) :
    TplOut (V9.parseOptTpl r) c (V9Prog.tplRecordUnmarshalOpts addr fuel [.tpl V9.emptyTpl] ⟨r, c⟩) := by
  have herr : ∀ r' th', V9Prog.tplHeaderUnmarshalOpts addr fuel [.thdr9 0 0 0 0] ⟨r, c⟩ = some (⟨r', c⟩, [th'], [errReader]) →
      ∃ t', V9Prog.tplRecordUnmarshalOpts addr fuel [.tpl V9.emptyTpl] ⟨r, c⟩ = some (⟨r', c⟩, [.tpl t'], [errReader]) := by
    intro r' th' h
    rw [V9Prog.tplRecordUnmarshalOpts, Func.sem_eq rfl rfl]
    exact ⟨V9.emptyTpl, by ir_simp [Gen.V9IR.tplRecordUnmarshalOpts, h, V9.emptyTpl]⟩
  have hh := tplHeaderUnmarshalOpts_sem addr fuel r c 0 0 0 0
  rw [V9.parseOptTpl]
  unfold TplOut
  rcases h1 : r.rU16 with _ | ⟨tid, r1⟩ <;> simp only [h1] at hh ⊢
  · exact herr _ _ hh
  rcases h2 : r1.rU16 with _ | ⟨sl, r2⟩ <;> simp only [h2] at hh ⊢
  · exact herr _ _ hh
  rcases h3 : r2.rU16 with _ | ⟨ol, r3⟩ <;> simp only [h3] at hh ⊢
  · exact herr _ _ hh
  rw [V9Prog.tplRecordUnmarshalOpts, Func.sem_eq (env0 := .tpl V9.emptyTpl :: List.replicate 5 .unset) rfl rfl, truo_body]
  have hsl := rU16_lt h2
  have hol := rU16_lt h3
  have pre : exec addr (truoLink addr fuel) fuel (blk (truo 0 :: truo 1 :: truo 2 :: [truo 3, truo 4, truo 5])) ⟨r, c⟩
      (.tpl V9.emptyTpl :: List.replicate 5 .unset) =
      some (.norm, ⟨r3, c⟩, truoEnv6 tid (.thdr9 tid 0 ol sl) .unset [] ⟨0, 0, 0⟩ (sl / 4) .nil) := by
    ir_simp [truoEnv6, truo, Gen.V9IR.tplRecordUnmarshalOpts, hh, V9.emptyTpl]
  have hr3 : r3.rem.length < fuel :=
    Nat.lt_of_le_of_lt (((adv_rU16 h1).1.trans (adv_rU16 h2).1).trans (adv_rU16 h3).1).rem_le hfuel
  have hl := specLoop (P := fun s => s.ent = 0) (read := V9.readSpec) (reads := V9.readSpecs)
    (truoEnv6 tid (.thdr9 tid 0 ol sl) .unset) (fun _ _ => rfl) (fun _ _ _ => rfl) readSpec_ok
    (cond := fun st env => eval addr st env (truo 6).loopCond) (post := exec addr (truoLink addr fuel) fuel (truo 6).loopPost)
    (by intros; ir_simp [truoEnv6, truo, Gen.V9IR.tplRecordUnmarshalOpts])
    (by intro _ _ _ i _ hi; ir_simp [truoEnv6, truo, Gen.V9IR.tplRecordUnmarshalOpts, subAt_u16_pred i hi])
    (truo6_body addr fuel c tid (.thdr9 tid 0 ol sl) .unset)
    (sl / 4) fuel r3 [] ⟨0, 0, 0⟩ .nil rfl (Nat.lt_of_le_of_lt (Nat.div_le_self _ _) hsl) hr3
  rw [exec_blk_append_norm _ pre, exec_blk_cons, truo6_shape, exec_loop]
  rcases hrs : V9.readSpecs (sl / 4) r3 [] with ⟨e | scs, r4⟩ <;> simp only [hrs, SpecsOut] at hl ⊢
  · obtain ⟨t', rest, hl⟩ := hl
    exact ⟨t', by ir_simp [hl, Gen.V9IR.tplRecordUnmarshalOpts]⟩
  obtain ⟨tf', e', htf', hl⟩ := hl
  have hr4 : r4.rem.length < fuel := Nat.lt_of_le_of_lt (V9.readSpecs_adv (sl / 4) r3 [] _ _ hrs).1.rem_le hr3
  have e7 : exec addr (truoLink addr fuel) fuel (truo 7) ⟨r4, c⟩ (truoEnv6 tid (.thdr9 tid 0 ol sl) .unset scs tf' 0 e') =
      some (.norm, ⟨r4, c⟩, truoEnv8 tid scs (.thdr9 tid 0 ol sl) (.int 0) [] tf' (ol / 4) e') := by
    ir_simp [truoEnv6, truoEnv8, truo, Gen.V9IR.tplRecordUnmarshalOpts]
  have hl2 := specLoop (P := fun s => s.ent = 0) (read := V9.readSpec) (reads := V9.readSpecs)
    (truoEnv8 tid scs (.thdr9 tid 0 ol sl) (.int 0)) (fun _ _ => rfl) (fun _ _ _ => rfl) readSpec_ok
    (cond := fun st env => eval addr st env (truo 8).loopCond) (post := exec addr (truoLink addr fuel) fuel (truo 8).loopPost)
    (by intros; ir_simp [truoEnv8, truo, Gen.V9IR.tplRecordUnmarshalOpts])
    (by intro _ _ _ i _ hi; ir_simp [truoEnv8, truo, Gen.V9IR.tplRecordUnmarshalOpts, subAt_u16_pred i hi])
    (truo8_body addr fuel c tid scs (.thdr9 tid 0 ol sl) (.int 0))
    (ol / 4) fuel r4 [] tf' e' htf' (Nat.lt_of_le_of_lt (Nat.div_le_self _ _) hol) hr4
  simp only [hl]
  rw [exec_blk_cons_norm _ e7, exec_blk_cons, truo8_shape, exec_loop]
  rcases hrs2 : V9.readSpecs (ol / 4) r4 [] with ⟨e | fs, r5⟩ <;> simp only [hrs2, SpecsOut] at hl2 ⊢
  · obtain ⟨t', rest, hl2⟩ := hl2
    exact ⟨t', by ir_simp [hl2, Gen.V9IR.tplRecordUnmarshalOpts]⟩
  · obtain ⟨tf'', e'', _, hl2⟩ := hl2
    simp only [hl2]
    ir_simp [truoEnv8, truo, Gen.V9IR.tplRecordUnmarshalOpts]

end Vflow.V9IR
