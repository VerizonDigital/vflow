import Vflow.Model.Options
import Vflow.Proofs.OptionsCfg
/-!
# What the command line says against what package `flag` reads (helper lemmas for C17, F31)

* `parse_full`: when `FlagSet.Parse` succeeds and leaves no positional argument (`strayArgs … = []`), the
  assignments it makes are, one by one and in order, the mentions `cliGiven` reads off the whole token
  list, each read through the key table (`assignOf`).
* `cliSource_eq_lastOf`: then the command line as a source is the same from both readings.
* `mention_assigned`: the first mention of a key in a list of mentions decides the key's field (distinct keys have
  distinct fields); C17 applies it to the reversed lists, where it is the last mention that decides.
* `wordOf_key`: the words read as a key `name` are `-name`, `--name`, `-name=v`, `--name=v`.
-/
namespace Vflow.Options
open Vflow

theorem boolIn_of_find {regs : List FlagReg} {k : String} {reg : FlagReg}
    (h : regs.find? (fun r => r.name = k) = some reg) : boolIn regs k = (reg.kind == .bool) := by
  simp [boolIn, h]

theorem assignOf_eq_some {regs : List FlagReg} {p : String × String} {b : Option String × Val} :
    assignOf regs p = some b ↔ ∃ reg val, regs.find? (fun r => r.name = p.1) = some reg ∧
      flagValue reg.kind p.2 = some val ∧ b = (reg.target, val) := by
  unfold assignOf
  cases regs.find? (fun r => r.name = p.1) with
  | none => simp
  | some reg =>
    simp only [Option.map_eq_some_iff, Option.some.injEq]
    exact ⟨fun ⟨v, h, e⟩ => ⟨reg, v, rfl, h, e.symm⟩, fun ⟨_, v, e', h, e⟩ => ⟨v, e' ▸ h, e' ▸ e.symm⟩⟩

theorem assignOf_of_find {regs : List FlagReg} {k v : String} {reg : FlagReg} {val : Val}
    (h : regs.find? (fun r => r.name = k) = some reg) (hv : flagValue reg.kind v = some val) :
    assignOf regs (k, v) = some (reg.target, val) :=
  assignOf_eq_some.2 ⟨reg, val, h, hv, rfl⟩

theorem flagValue_bool_true : flagValue .bool "true" = some (.bool true) := by decide

theorem not_nonflag_of_no_stray {regs : List FlagReg} {fuel : Nat} {args : List String}
    (hl : args.length < fuel) (h : strayArgs regs fuel args = []) : ∀ w ∈ args.head?, wordOf w ≠ .nonflag := by
  intro w hw hn
  cases args with
  | nil => cases hw
  | cons a rest =>
    cases hw
    cases fuel with
    | zero => cases hl
    | succ f => simp [strayArgs, hn] at h

theorem cliGiven_inline {b : String → Bool} {s k v : String} (rest : List String)
    (hw : wordOf s = .flag k (some v)) : cliGiven b (s :: rest) = (k, v) :: cliGiven b rest := by
  cases rest <;> simp [cliGiven, hw]

theorem cliGiven_true {b : String → Bool} {s k : String} (rest : List String) (hw : wordOf s = .flag k none)
    (hb : b k = true) (hn : ∀ w ∈ rest.head?, wordOf w ≠ .nonflag) :
    cliGiven b (s :: rest) = (k, "true") :: cliGiven b rest := by
  cases rest with
  | nil => simp [cliGiven, hw, hb]
  | cons w r => simp [cliGiven, hw, hb, hn w rfl]

theorem cliGiven_next {b : String → Bool} {s k w : String} (rest : List String) (hw : wordOf s = .flag k none)
    (hb : b k = false) : cliGiven b (s :: w :: rest) = (k, w) :: cliGiven b rest := by
  simp [cliGiven, hw, hb]

/-- **a parse that consumes every word reads what the command line says**: if `FlagSet.Parse` succeeds
(`parseArgs … = .ok l`) and leaves no positional argument, its assignments `l` are exactly the mentions of
`cliGiven`, in order, each one the mention's text read as a value of the key's kind and bound to the key's
field. -/
theorem parse_full {regs : List FlagReg} :
    ∀ (fuel : Nat) (args : List String) (l : List (Option String × Val)), args.length < fuel →
      parseArgs regs fuel args = .ok l → strayArgs regs fuel args = [] →
      (cliGiven (boolIn regs) args).map (assignOf regs) = l.map some := by
  intro fuel
  induction fuel with
  | zero => intro args l hlen; exact absurd hlen (Nat.not_lt_zero _)
  | succ fuel ih =>
    intro args l hlen hp hs
    cases args with
    | nil =>
      simp only [parseArgs] at hp
      injection hp with hp; subst hp
      simp [cliGiven]
    | cons s rest =>
      have hlen' : rest.length < fuel := Nat.lt_of_succ_lt_succ hlen
      rcases parseArgs_step hp with ⟨hw, rfl⟩ | ⟨name, v?, reg, val, rest', l', hw, hreg, hp', rfl, hshape⟩
      · rcases hw with hw | hw
        · simp [strayArgs, hw] at hs
        · simp only [strayArgs, hw] at hs
          subst hs
          simp [cliGiven, hw]
      · simp only [List.map_cons]
        rcases hshape with ⟨rfl, ⟨rfl, hk, rfl⟩ | ⟨v, rfl, hval⟩⟩ | ⟨rfl, hnb, v, rfl, hval⟩
        · -- a bare boolean
          have hs' : strayArgs regs fuel rest' = [] := by simpa [strayArgs, hw, hreg, hk] using hs
          rw [cliGiven_true _ hw (by simp [boolIn_of_find hreg, hk]) (not_nonflag_of_no_stray hlen' hs'),
            List.map_cons, assignOf_of_find hreg (by rw [hk]; exact flagValue_bool_true), ih _ _ hlen' hp' hs']
        · -- an inline value
          have hs' : strayArgs regs fuel rest' = [] := by
            cases hk : reg.kind <;> simpa [strayArgs, hw, hreg, hk] using hs
          rw [cliGiven_inline _ hw, List.map_cons, assignOf_of_find hreg hval, ih _ _ hlen' hp' hs']
        · -- the value is the next word
          have hlen'' : rest'.length < fuel := Nat.lt_of_succ_lt hlen'
          have hs' : strayArgs regs fuel rest' = [] := by
            cases hk : reg.kind <;> first | exact absurd hk hnb | simpa [strayArgs, hw, hreg, hk] using hs
          have hb : boolIn regs name = false := by
            rw [boolIn_of_find hreg]
            cases hk : reg.kind <;> first | rfl | exact absurd hk hnb
          rw [cliGiven_next _ hw hb, List.map_cons, assignOf_of_find hreg hval, ih _ _ hlen'' hp' hs']

/-- **the two readings give the same source**: when the parse succeeds and leaves no positional argument,
what the command line says (`cliSource`) is what package `flag` assigned -/
theorem cliSource_eq_lastOf (tbl : List Row) (args : List String) (l : List (Option String × Val))
    (hp : parseArgs (configReg :: regsOf tbl) (args.length + 1) args = .ok l)
    (hs : strayArgs (configReg :: regsOf tbl) (args.length + 1) args = []) :
    cliSource tbl args = lastOf l := by
  unfold cliSource boolKey
  have h := parse_full _ _ _ (Nat.lt_succ_self _) hp hs
  rw [show List.filterMap _ _ = l by simpa [List.filterMap_map] using congrArg (List.filterMap id) h]

theorem eq_of_nodup_map {α β : Type} (f : α → β) :
    ∀ (l : List α), (l.map f).Nodup → ∀ a, a ∈ l → ∀ b, b ∈ l → f a = f b → a = b := by
  intro l
  induction l with
  | nil => intro _ a ha; cases ha
  | cons x xs ih =>
    intro hn a ha b hb hab
    simp only [List.map_cons, List.nodup_cons, List.mem_map, not_exists, not_and] at hn
    rcases List.mem_cons.mp ha with rfl | ha' <;> rcases List.mem_cons.mp hb with rfl | hb'
    · rfl
    · exact absurd hab.symm (hn.1 b hb')
    · exact absurd hab (hn.1 a ha')
    · exact ih hn.2 a ha' b hb' hab

/-- distinct keys have distinct fields -/
def KeysToFields (regs : List FlagReg) : Prop :=
  ∀ r1, r1 ∈ regs → ∀ r2, r2 ∈ regs → r1.target = r2.target → r1.target ≠ none → r1.name = r2.name

theorem keysToFields_table (tbl : List Row) (hd : (tbl.map (·.field)).Nodup) :
    KeysToFields (configReg :: regsOf tbl) := by
  intro r1 h1 r2 h2 ht hne
  have hcfg : configReg.target = none := rfl
  rcases List.mem_cons.mp h1 with rfl | h1
  · exact absurd hcfg hne
  · rcases List.mem_cons.mp h2 with rfl | h2
    · rw [ht] at hne; exact absurd hcfg hne
    · simp only [regsOf, List.mem_map, List.mem_filter] at h1 h2
      obtain ⟨a, ⟨ha, _⟩, rfl⟩ := h1
      obtain ⟨b, ⟨hb, _⟩, rfl⟩ := h2
      simp only [Option.some.injEq] at ht
      have := eq_of_nodup_map (·.field) tbl hd a ha b hb ht
      subst this; rfl

/-- **the first mention found decides its key's field**: mentions `g` and assignments `l` that correspond one
by one (`g.map (assignOf regs) = l.map some`): the first mention of a key `k` in `g` is of a registered key,
its text is a value of the key's kind, and the first assignment in `l` to the key's field is that value
(applied to the reversed lists: the last mention, the last assignment). -/
theorem mention_assigned {regs : List FlagReg} (hinj : KeysToFields regs) :
    ∀ (g : List (String × String)) (l : List (Option String × Val)), g.map (assignOf regs) = l.map some →
      ∀ (k : String) (p : String × String), g.find? (fun p => p.1 = k) = some p →
        ∃ reg val, regs.find? (fun r => r.name = k) = some reg ∧ flagValue reg.kind p.2 = some val ∧
          ∀ f, reg.target = some f → (l.find? (fun q => q.1 = some f)).map (·.2) = some val := by
  intro g
  induction g with
  | nil => intro l _ k p h; cases h
  | cons a g ih =>
    intro l h k p hf
    cases l with
    | nil => simp at h
    | cons b l =>
      simp only [List.map_cons, List.cons.injEq] at h
      obtain ⟨ha, hrest⟩ := h
      obtain ⟨rega, vala, hra, hva, hb⟩ := assignOf_eq_some.1 ha
      by_cases hk : a.1 = k
      · simp only [List.find?_cons, hk, decide_true] at hf
        injection hf with hf; subst hf
        refine ⟨rega, vala, by rw [← hk]; exact hra, hva, fun f hf => ?_⟩
        simp [hb, hf]
      · simp only [List.find?_cons, hk, decide_false] at hf
        obtain ⟨reg, val, hr, hv, hl⟩ := ih l hrest k p hf
        refine ⟨reg, val, hr, hv, fun f hf => ?_⟩
        have hne : b.1 ≠ some f := by
          intro e
          rw [hb] at e
          have e' : rega.target = some f := e
          have hn := hinj rega (List.mem_of_find?_eq_some hra) reg (List.mem_of_find?_eq_some hr)
            (by rw [e', hf]) (by rw [e']; simp)
          have h1 : rega.name = a.1 := by simpa using List.find?_some hra
          have h2 : reg.name = k := by simpa using List.find?_some hr
          exact hk (by rw [← h1, hn, h2])
        simp only [List.find?_cons, hne, decide_false]
        exact hl f hf

/-- a flag name as `flagSet` registers them: not empty, does not begin with `-` or `=`, holds no `=` -/
def keyShape (n : String) : Bool :=
  match n.toList with
  | [] => false
  | c :: r => c != '-' && c != '=' && !(c :: r).contains '='

/-- **how a key is spelt**: for a name of that shape the words package `flag` (and `cliGiven`) read as the key
are exactly the documented ones: `-name`, `--name` (no inline value), `-name=v`, `--name=v` (inline value `v`,
whatever `v` is) -/
theorem wordOf_key {n : String} (h : keyShape n = true) :
    wordOf ("-" ++ n) = .flag n none ∧ wordOf ("--" ++ n) = .flag n none ∧
    ∀ v : String, wordOf ("-" ++ n ++ "=" ++ v) = .flag n (some v) ∧ wordOf ("--" ++ n ++ "=" ++ v) = .flag n (some v) := by
  unfold keyShape at h
  cases hn : n.toList with
  | nil => simp [hn] at h
  | cons c r =>
    simp only [hn, Bool.and_eq_true, bne_iff_ne, ne_eq, Bool.not_eq_eq_eq_not, Bool.not_true,
      List.contains_eq_mem, decide_eq_false_iff_not] at h
    obtain ⟨⟨h1, -⟩, he⟩ := h
    have key : ∀ (s : String) (v : Option (List Char)),
        (s.toList = '-' :: (n.toList ++ eqTail v) ∨ s.toList = '-' :: '-' :: (n.toList ++ eqTail v)) →
        wordOf s = .flag n (v.map String.ofList) := fun s v hs => by
      have := wordOf_name v (by simp [hn]) (fun t e => h1 (by rw [hn] at e; exact (List.cons.inj e).1))
        (by rw [hn]; exact he) hs
      rwa [String.ofList_toList] at this
    refine ⟨key _ none (Or.inl ?_), key _ none (Or.inr ?_), fun v => ?_⟩
    · simp [String.toList_append, eqTail]
    · simp [String.toList_append, eqTail]
    · have hv : (some v.toList).map String.ofList = some v := by simp [String.ofList_toList]
      rw [← hv]
      exact ⟨key _ _ (Or.inl (by simp [String.toList_append, eqTail])),
        key _ _ (Or.inr (by simp [String.toList_append, eqTail]))⟩
end Vflow.Options
