import Vflow.Model.V5
import Vflow.Gen.Layouts
/-!
# The fixed-layout readers of the IPFIX / NetFlow v9 models read the REGENERATED layouts

`Gen.Layouts.*` is re-extracted on every run from the `unmarshal` functions of `ipfix/decoder.go`
and `netflow/v9/decoder.go` (ordered `(field, octets)` chains; anything else is `!unrecognised`).
`Props/C03` and `Props/C06` state, for each hand-written reader of the two models, that it is
`V5.readFields` (the generic "read these widths in this order, big endian") over the regenerated layout,
so a reordered, dropped, widened or added header field in the Go source breaks a proof there rather than
going unnoticed.  Here: what a `readFields` result says about its single 16-bit reads, and the field names.
-/
namespace Vflow.HeaderLayouts
open Vflow

theorem readFields_u16_some {ws : List Nat} {r r' : Rd} {v : Nat} {vs : List Nat}
    (h : V5.readFields (2 :: ws) r = some (v :: vs, r')) :
    ∃ r1, r.rU16 = some (v, r1) ∧ V5.readFields ws r1 = some (vs, r') := by
  unfold V5.readFields at h
  split at h
  · cases h
  · rename_i b r1 h1
    split at h
    · cases h
    · rename_i h2
      cases h
      exact ⟨r1, by simp [Rd.rU16, h1], h2⟩

theorem readFields_u16_none {ws : List Nat} {r : Rd} (h : V5.readFields (2 :: ws) r = none) :
    r.rU16 = none ∨ ∃ v r1, r.rU16 = some (v, r1) ∧ V5.readFields ws r1 = none := by
  unfold V5.readFields at h
  split at h
  · rename_i h1
    exact .inl (by simp [Rd.rU16, h1])
  · rename_i b r1 h1
    split at h
    · rename_i h2
      exact .inr ⟨beN b, r1, by simp [Rd.rU16, h1], h2⟩
    · cases h

theorem readFields_22_some {r r2 : Rd} {a b : Nat} (h : V5.readFields [2, 2] r = some ([a, b], r2)) :
    ∃ r1, r.rU16 = some (a, r1) ∧ r1.rU16 = some (b, r2) := by
  obtain ⟨r1, h1, h⟩ := readFields_u16_some h
  obtain ⟨_, h2, h⟩ := readFields_u16_some h
  cases h
  exact ⟨r1, h1, h2⟩

theorem readFields_222_some {r r3 : Rd} {a b c : Nat} (h : V5.readFields [2, 2, 2] r = some ([a, b, c], r3)) :
    ∃ r1 r2, r.rU16 = some (a, r1) ∧ r1.rU16 = some (b, r2) ∧ r2.rU16 = some (c, r3) := by
  obtain ⟨r1, h1, h⟩ := readFields_u16_some h
  obtain ⟨r2, h2, h3⟩ := readFields_22_some h
  exact ⟨r1, r2, h1, h2, h3⟩

theorem readFields_22_none {r : Rd} (h : V5.readFields [2, 2] r = none) :
    r.rU16 = none ∨ ∃ a r1, r.rU16 = some (a, r1) ∧ r1.rU16 = none := by
  rcases readFields_u16_none h with h1 | ⟨a, r1, h1, h⟩
  · exact .inl h1
  · rcases readFields_u16_none h with h2 | ⟨_, _, _, h⟩
    · exact .inr ⟨a, r1, h1, h2⟩
    · cases h

theorem readFields_222_none {r : Rd} (h : V5.readFields [2, 2, 2] r = none) :
    r.rU16 = none ∨ (∃ a r1, r.rU16 = some (a, r1) ∧ r1.rU16 = none) ∨
      ∃ a r1 b r2, r.rU16 = some (a, r1) ∧ r1.rU16 = some (b, r2) ∧ r2.rU16 = none := by
  rcases readFields_u16_none h with h1 | ⟨a, r1, h1, h⟩
  · exact .inl h1
  · rcases readFields_22_none h with h2 | ⟨b, r2, h2, h3⟩
    · exact .inr (.inl ⟨a, r1, h1, h2⟩)
    · exact .inr (.inr ⟨a, r1, b, r2, h1, h2, h3⟩)

/-- the field NAMES of the regenerated layouts (a renamed / swapped field with the same width is caught here) -/
theorem gen_field_names :
    Gen.Layouts.ipfixHeader.map (·.1) = ["Version", "Length", "ExportTime", "SequenceNo", "DomainID"] ∧
    Gen.Layouts.ipfixSetHeader.map (·.1) = ["SetID", "Length"] ∧
    Gen.Layouts.ipfixTplHeader.map (·.1) = ["TemplateID", "FieldCount"] ∧
    Gen.Layouts.ipfixOptTplHeader.map (·.1) = ["TemplateID", "FieldCount", "ScopeFieldCount"] ∧
    Gen.Layouts.v9Header.map (·.1) = ["Version", "Count", "SysUpTime", "UNIXSecs", "SeqNum", "SrcID"] ∧
    Gen.Layouts.v9SetHeader.map (·.1) = ["FlowSetID", "Length"] ∧
    Gen.Layouts.v9TplHeader.map (·.1) = ["TemplateID", "FieldCount"] ∧
    Gen.Layouts.v9OptTplHeader.map (·.1) = ["TemplateID", "OptionScopeLen", "OptionLen"] ∧
    Gen.Layouts.v9FieldSpec.map (·.1) = ["ElementID", "Length"] :=
  ⟨rfl, rfl, rfl, rfl, rfl, rfl, rfl, rfl, rfl⟩

end Vflow.HeaderLayouts
