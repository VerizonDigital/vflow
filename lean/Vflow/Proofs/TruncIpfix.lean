import Vflow.Proofs.EqnsIpfix
import Vflow.Proofs.ReaderLemmas
import Vflow.Proofs.OuterLoop
/-!
# IPFIX: the decoder on an input and on an extension of it

Every function is compared on a state `a` and on `a.ext s k` (octets `s` appended, the count and the count at which
the set started moved by `k`): the run on `a.ext s k`, with `j` more fuel, does what the run on `a` does — unless
`s ≠ []` or `0 < j` and the run on `a` ends with a fatal error.  `k = 0` is the simulation of a truncated input by
the full one; `s = []`, `j = 0` says that decoding commutes with moving the count.
Particular to IPFIX: the 16-bit wrapping arithmetic (`consumed16` depends on the difference of the counts only), the
direct return of `setLoop`, and the `peek16` padding test.
-/
namespace Vflow.Ipfix
open Vflow

theorem readSpec_local : Local readSpec :=
  .readNat rU16_takes fun _ => .readNat rU16_takes fun _ =>
    .ite _ (.readNat rU32_takes fun _ => .pure _) (.pure _)

theorem readSpecs_local : ∀ (n : Nat) (acc : List Spec), Local fun r => readSpecs n r acc
  | 0, _ => .pure _
  | n+1, _ => .bindSpec readSpec_local fun _ => readSpecs_local n _

theorem parseTpl_local : Local parseTpl :=
  .readNat rU16_takes fun _ => .readNat rU16_takes fun _ => .bindSpecs' (readSpecs_local _ _) fun _ => .pure _

/-- `parseOptTpl` with the modulus `65536` abstracted.  The proofs about `parseOptTpl` are carried out on
this copy and transferred by definitional unfolding: the kernel is very slow on proof terms in which
the literal `65536` of `(n + 65536 - sc) % 65536` occurs. -/
def parseOptTplM (M : Nat) (r : Rd) : Except Err Template × Rd :=
  match r.rU16 with
  | none => (.error .short, r)
  | some (tid, r1) =>
    match r1.rU16 with
    | none => (.error .short, r1)
    | some (n, r2) =>
      match r2.rU16 with
      | none => (.error .short, r2)
      | some (sc, r3) =>
        match readSpecs sc r3 [] with
        | (.error e, r4) => (.error e, r4)
        | (.ok scs, r4) =>
          match readSpecs ((n + M - sc) % M) r4 [] with
          | (.error e, r5) => (.error e, r5)
          | (.ok fs, r5) => (.ok ⟨tid, n, sc, scs, fs⟩, r5)

theorem parseOptTplM_eq (r : Rd) : parseOptTpl r = parseOptTplM 65536 r := rfl

theorem parseOptTplM_local (M : Nat) : Local (parseOptTplM M) :=
  .readNat rU16_takes fun _ => .readNat rU16_takes fun _ => .readNat rU16_takes fun _ =>
    .bindSpecs (readSpecs_local _ _) fun _ => .bindSpecs (readSpecs_local _ _) fun _ => .pure _

theorem parseOptTpl_local : Local parseOptTpl := parseOptTplM_local 65536

theorem dataLen_local (specLen : Nat) : Local fun r => dataLen r specLen :=
  .ite _ (.readNat rU8_takes fun _ => .ite _ (.readNat rU16_takes fun _ => .pure _) (.pure _)) (.pure _)

theorem decFields_local : ∀ (fs : List Spec) (acc : Record), Local fun r => decFields fs r acc
  | [], _ => .pure _
  | f :: fs, _ => by
    simp only [decFields_cons]
    cases lookupElem f.ent f.id with
    | none => exact .pure _
    | some p =>
      exact .bindNat (dataLen_local _) fun n => .readBytes (readN_takes n) fun _ => decFields_local fs _

theorem decodeData_local (tr : Template) : Local (decodeData tr) :=
  .bind (decFields_local (tr.scope ++ tr.fields) [])
    (g := fun fs r' => if fs.isEmpty then (.error .emptyRec, r') else (.ok fs, r'))
    (fun _ => .ite _ (.pure _) (.pure _))
    (fun _ _ _ h => by simp only [decodeData, h]) (fun _ _ _ h => by simp only [decodeData, h])

def St.ext (a : St) (s : Bytes) (k : Nat) : St := { a with r := a.r.ext s k }

def Ctx.shift (ctx : Ctx) (k : Nat) : Ctx := { ctx with start := ctx.start + k }

/-! The projections of `St.ext` / `Ctx.shift` are rewritten with these (`rw`), never left to unfolding: a goal
that mentions `skipRest` or `contCond` has to stay syntactically what the lemmas produce, because the kernel, asked
to compare such terms up to unfolding, evaluates their `… % 65536` in unary. -/

theorem St.ext_r (a : St) (s : Bytes) (k : Nat) : (a.ext s k).r = a.r.ext s k := rfl
theorem St.ext_cache (a : St) (s : Bytes) (k : Nat) : (a.ext s k).cache = a.cache := rfl
theorem St.ext_recs (a : St) (s : Bytes) (k : Nat) : (a.ext s k).recs = a.recs := rfl
theorem Ctx.shift_addr (ctx : Ctx) (k : Nat) : (ctx.shift k).addr = ctx.addr := rfl
theorem Ctx.shift_setId (ctx : Ctx) (k : Nat) : (ctx.shift k).setId = ctx.setId := rfl
theorem Ctx.shift_len (ctx : Ctx) (k : Nat) : (ctx.shift k).len = ctx.len := rfl
theorem Ctx.shift_tr (ctx : Ctx) (k : Nat) : (ctx.shift k).tr = ctx.tr := rfl

def left16 (ctx : Ctx) (r : Rd) : Nat := (ctx.len + 65536 - consumed16 ctx r) % 65536

/-- *starved*: the set header says at least `minLeft` octets remain (one more record), the (truncated)
message has fewer -/
def Starved (ctx : Ctx) (r : Rd) : Prop := r.rem.length < minLeft ctx ∧ left16 ctx r ≥ minLeft ctx

theorem consumed16_ext (ctx : Ctx) (r : Rd) (s : Bytes) (k : Nat) :
    consumed16 (ctx.shift k) (r.ext s k) = consumed16 ctx r := by
  simp only [consumed16, Ctx.shift, Rd.ext_cnt, Nat.add_sub_add_right]

theorem contCond_iff (ctx : Ctx) (r : Rd) : contCond ctx r = true ↔
    ctx.len > consumed16 ctx r ∧ r.rem.length ≥ minLeft ctx ∧ left16 ctx r ≥ minLeft ctx := by
  simp only [contCond, left16, Bool.and_eq_true, decide_eq_true_eq, and_assoc]

theorem contCond_ext_iff (ctx : Ctx) (r : Rd) (s : Bytes) (k : Nat) :
    contCond (ctx.shift k) (r.ext s k) = true ↔
    ctx.len > consumed16 ctx r ∧ r.rem.length + s.length ≥ minLeft ctx ∧ left16 ctx r ≥ minLeft ctx := by
  rw [contCond_iff, left16, consumed16_ext, Rd.ext_length]; rfl

theorem setLoop_ext (ctx : Ctx) (s : Bytes) (k j : Nat) : ∀ (fuel : Nat) (st st' : St) (e : Option Err) (d : Bool),
    setLoop ctx fuel st = (st', e, d) →
      setLoop (ctx.shift k) (fuel + j) (st.ext s k) = (st'.ext s k, e, d) ∨
      (s ≠ [] ∧ e = some .short) ∨ (0 < j ∧ e = some .fuel) ∨
      (s ≠ [] ∧ e = none ∧ d = false ∧ Starved ctx st'.r) := by
  intro fuel
  induction fuel with
  | zero =>
    intro st st' e d h
    cases h
    cases j with
    | zero => exact .inl rfl
    | succ j => exact .inr (.inr (.inl ⟨Nat.succ_pos j, rfl⟩))
  | succ n ih =>
    intro st st' e d h
    rw [setLoop] at h
    rw [Nat.add_right_comm, setLoop, St.ext_r, St.ext_cache, St.ext_recs, Ctx.shift_addr, Ctx.shift_setId,
      Ctx.shift_tr]
    have hcc := contCond_ext_iff ctx st.r s k
    by_cases hcT : contCond ctx st.r = true
    · have hcT' := (contCond_iff ctx st.r).mp hcT
      rw [if_pos hcT] at h
      rw [if_pos (hcc.mpr ⟨hcT'.1, by omega, hcT'.2.2⟩)]
      by_cases hid : ctx.setId = 2 ∨ ctx.setId = 3
      · -- template sets: at least 5 octets are left, so the padding test peeks at the same two
        have hml : minLeft ctx = 5 := by unfold minLeft; rw [if_neg (by omega)]
        rw [if_pos hid] at h
        rw [if_pos hid, Rd.peek16_ext st.r s k (by omega)]
        by_cases hpad : st.r.peek16 = some 0
        · rw [if_pos hpad] at h ⊢; cases h; exact .inl rfl
        · rw [if_neg hpad] at h ⊢
          have hF := Local.ext_or (.ite (ctx.setId = 2) parseTpl_local parseOptTpl_local) st.r s k
          generalize (if ctx.setId = 2 then parseTpl st.r else parseOptTpl st.r) = p at h hF
          obtain ⟨res, r'⟩ := p
          rcases hF with hF | ⟨hs, rfl⟩
          · rw [hF]
            cases res with
            | error x => cases h; exact .inl rfl
            | ok t => exact ih _ _ _ _ h
          · cases h; exact .inr (.inl ⟨hs, rfl⟩)
      · rw [if_neg hid] at h ⊢
        by_cases hres : 4 ≤ ctx.setId ∧ ctx.setId ≤ 255
        · rw [if_pos hres] at h ⊢; cases h; exact .inl rfl
        · rw [if_neg hres] at h ⊢
          by_cases hz : ctx.setId = 0
          · rw [if_pos hz] at h ⊢; cases h; exact .inl rfl
          · rw [if_neg hz] at h ⊢
            have hF := (decodeData_local ctx.tr).ext_or st.r s k
            generalize decodeData ctx.tr st.r = p at h hF
            obtain ⟨res, r'⟩ := p
            rcases hF with hF | ⟨hs, rfl⟩
            · rw [hF]
              cases res with
              | error x =>
                simp only at h ⊢
                by_cases hn : nonfatalErr x = true
                · rw [if_pos hn] at h ⊢; cases h; exact .inl rfl
                · rw [if_neg hn] at h ⊢; cases h; exact .inl rfl
              | ok fs =>
                simp only [Rd.ext_cnt, Nat.add_right_cancel_iff] at h ⊢
                by_cases he : r'.cnt = st.r.cnt
                · rw [if_pos he] at h ⊢; cases h; exact .inl rfl
                · rw [if_neg he] at h ⊢; exact ih _ _ _ _ h
            · cases h; exact .inr (.inl ⟨hs, rfl⟩)
    · -- the loop stops on the shorter input; if it goes on on the longer one, `s` supplied the missing octets
      rw [if_neg hcT] at h
      cases h
      by_cases hcF : contCond (ctx.shift k) (st.r.ext s k) = true
      · have hF := hcc.mp hcF
        have hlt : st.r.rem.length < minLeft ctx := Nat.lt_of_not_le fun hge =>
          hcT ((contCond_iff ctx st.r).mpr ⟨hF.1, hge, hF.2.2⟩)
        refine .inr (.inr (.inr ⟨?_, rfl, rfl, hlt, hF.2.2⟩))
        rintro rfl
        simp only [List.length_nil, Nat.add_zero] at hF
        omega
      · rw [if_neg hcF]; exact .inl rfl

theorem skipRest_ext (ctx : Ctx) (s : Bytes) (k : Nat) (a : St) (e1 : Option Err) :
    skipRest (ctx.shift k) (a.ext s k) e1 = ((skipRest ctx a e1).1.ext s k, (skipRest ctx a e1).2) ∨
    (s ≠ [] ∧ (skipRest ctx a e1).2 = some .short) := by
  rw [skipRest, skipRest, St.ext_r, St.ext_cache, St.ext_recs, Ctx.shift_len, consumed16_ext]
  generalize (ctx.len + 65536 - consumed16 ctx a.r) % 65536 = n
  split
  · by_cases hn : n ≤ a.r.rem.length
    · rw [(readN_takes _).eq_some hn, (readN_takes _).ext_some hn]; simp only; exact .inl rfl
    · rw [(readN_takes _).eq_none (Nat.lt_of_not_le hn)]
      by_cases hs : s = []
      · subst hs; rw [(readN_takes _).ext_none (Nat.lt_of_not_le hn)]; exact .inl rfl
      · exact .inr ⟨hs, rfl⟩
  · exact .inl rfl

theorem skipRest_err (ctx : Ctx) (a : St) (e1 : Option Err) :
    (skipRest ctx a e1).2 = e1 ∨ (skipRest ctx a e1).2 = some .short := by
  rw [skipRest]
  split
  · split
    · exact .inr rfl
    · exact .inl rfl
  · exact .inl rfl

theorem skipRest_starved (ctx : Ctx) (a : St) (hs : Starved ctx a.r) : (skipRest ctx a none).2 = some .short := by
  obtain ⟨hlen, hgt⟩ := hs
  unfold left16 at hgt
  rw [skipRest]
  generalize (ctx.len + 65536 - consumed16 ctx a.r) % 65536 = n at hgt ⊢
  rw [if_pos (Nat.lt_of_lt_of_le (minLeft_pos ctx) hgt), (readN_takes n).eq_none (Nat.lt_of_lt_of_le hlen hgt)]

theorem setBody_ext (addr : Bytes) (sid len start : Nat) (s : Bytes) (k j fuel : Nat) (st : St) :
    setBody addr sid len (start + k) (fuel + j) (st.ext s k) =
      ((setBody addr sid len start fuel st).1.ext s k, (setBody addr sid len start fuel st).2) ∨
    ((s ≠ [] ∨ 0 < j) ∧ fatal nonfatalErr (setBody addr sid len start fuel st).2 = true) := by
  rw [setBody, setBody, St.ext_cache]
  generalize lookupTpl st.cache addr sid = look
  obtain ⟨lt, le⟩ := look
  simp only
  rw [show Ctx.mk addr sid len (start + k) (lt.getD emptyTpl) = Ctx.shift ⟨addr, sid, len, start, lt.getD emptyTpl⟩ k
    from rfl]
  generalize Ctx.mk addr sid len start (lt.getD emptyTpl) = ctx
  have hskip : ∀ (a : St) (e1 : Option Err),
      skipRest (ctx.shift k) (a.ext s k) e1 = ((skipRest ctx a e1).1.ext s k, (skipRest ctx a e1).2) ∨
      ((s ≠ [] ∨ 0 < j) ∧ fatal nonfatalErr (skipRest ctx a e1).2 = true) := fun a e1 =>
    (skipRest_ext ctx s k a e1).imp_right fun ⟨hs, he⟩ => ⟨.inl hs, by rw [he]; rfl⟩
  have hfatal : ∀ (a : St) (e1 : Option Err), fatal nonfatalErr e1 = true →
      fatal nonfatalErr (skipRest ctx a e1).2 = true := fun a e1 h1 => by
    rcases skipRest_err ctx a e1 with he | he <;> rw [he]
    · exact h1
    · rfl
  cases le with
  | some x => simp only; exact hskip st (some x)
  | none =>
    simp only
    generalize hloop : setLoop ctx fuel st = lr
    obtain ⟨st1, e1, d1⟩ := lr
    -- (the `if` is reduced before anything is compared with `skipRest`: were the kernel left to do it, it would
    -- unfold `skipRest` first and evaluate its 16-bit arithmetic in unary)
    cases d1 <;> simp only [Bool.false_eq_true, ↓reduceIte] <;>
      rcases setLoop_ext ctx s k j fuel st st1 e1 _ hloop with hF | ⟨hs, rfl⟩ | ⟨hj, rfl⟩ | ⟨hs, rfl, hd, hst⟩
    · rw [hF]; simp only [Bool.false_eq_true, ↓reduceIte]; exact hskip st1 e1
    · exact .inr ⟨.inl hs, hfatal st1 _ rfl⟩
    · exact .inr ⟨.inr hj, hfatal st1 _ rfl⟩
    · rw [skipRest_starved ctx st1 hst]; exact .inr ⟨.inl hs, rfl⟩
    · rw [hF]; exact .inl rfl
    · exact .inr ⟨.inl hs, rfl⟩
    · exact .inr ⟨.inr hj, rfl⟩
    · cases hd

theorem decodeSet_ext (addr : Bytes) (st : St) (s : Bytes) (k fuel j : Nat) :
    decodeSet addr (fuel + j) (st.ext s k) = ((decodeSet addr fuel st).1.ext s k, (decodeSet addr fuel st).2) ∨
    ((s ≠ [] ∨ 0 < j) ∧ fatal nonfatalErr (decodeSet addr fuel st).2 = true) := by
  rw [decodeSet, decodeSet, St.ext_r, St.ext_cache, St.ext_recs]
  rcases rU16_takes.ext_or st.r s k with ⟨sid, r1, hT, hF⟩ | ⟨hT, hF⟩
  · rw [hT, hF]
    simp only
    rcases rU16_takes.ext_or r1 s k with ⟨len, r2, hT, hF⟩ | ⟨hT, hF⟩
    · rw [hT, hF]
      simp only
      by_cases hl : len < 4
      · rw [if_pos hl, if_pos hl]; exact .inl rfl
      · rw [if_neg hl, if_neg hl]; exact setBody_ext addr sid len st.r.cnt s k j fuel { st with r := r2 }
    · rw [hT]
      by_cases hs : s = []
      · rw [hF hs]; exact .inl rfl
      · exact .inr ⟨.inl hs, rfl⟩
  · rw [hT]
    by_cases hs : s = []
    · rw [hF hs]; exact .inl rfl
    · exact .inr ⟨.inl hs, rfl⟩

def SRel (s : Bytes) (a b : St) : Prop := Ext s a.r b.r ∧ a.cache = b.cache ∧ a.recs = b.recs

theorem SRel.eq {s : Bytes} {a b : St} (h : SRel s a b) : b = a.ext s 0 := by
  obtain ⟨br, bcache, brecs⟩ := b
  obtain ⟨hr, hc, hre⟩ := h
  simp only at hr hc hre
  rw [hr.eq, ← hc, ← hre]; rfl

theorem SRel.ext (a : St) (s : Bytes) : SRel s a (a.ext s 0) := ⟨a.r.ext_Ext s, rfl, rfl⟩

theorem setLoop_sim (s : Bytes) (ctx : Ctx) : ∀ (fuelT fuelF : Nat) (stT stF : St), fuelT ≤ fuelF → SRel s stT stF →
    ∀ stT' eT dT, setLoop ctx fuelT stT = (stT', eT, dT) →
      eT = some .short ∨ eT = some .fuel ∨
      (∃ stF', setLoop ctx fuelF stF = (stF', eT, dT) ∧ SRel s stT' stF') ∨
      (eT = none ∧ dT = false ∧ Starved ctx stT'.r) := by
  intro fuelT fuelF stT stF hle hrel stT' eT dT h
  obtain ⟨j, rfl⟩ := Nat.exists_eq_add_of_le hle
  rw [hrel.eq]
  rcases setLoop_ext ctx s 0 j fuelT stT stT' eT dT h with hF | ⟨-, he⟩ | ⟨-, he⟩ | ⟨-, he, hd, hst⟩
  · exact .inr (.inr (.inl ⟨_, hF, SRel.ext stT' s⟩))
  · exact .inl he
  · exact .inr (.inl he)
  · exact .inr (.inr (.inr ⟨he, hd, hst⟩))

theorem setLoop_recs (ctx : Ctx) {l : List Record} : ∀ (fuel : Nat) (st : St),
    l <+: st.recs → l <+: (setLoop ctx fuel st).1.recs := by
  intro fuel
  induction fuel with
  | zero => exact fun _ h => h
  | succ n ih =>
    intro st h
    rw [setLoop]
    by_cases hc : contCond ctx st.r = true
    · rw [if_pos hc]
      by_cases hid : ctx.setId = 2 ∨ ctx.setId = 3
      · rw [if_pos hid]
        by_cases hp : st.r.peek16 = some 0
        · rw [if_pos hp]; exact h
        · rw [if_neg hp]
          generalize (if ctx.setId = 2 then parseTpl st.r else parseOptTpl st.r) = p
          obtain ⟨res, r'⟩ := p
          cases res with
          | error e => exact h
          | ok t => exact ih _ h
      · rw [if_neg hid]
        by_cases hres : 4 ≤ ctx.setId ∧ ctx.setId ≤ 255
        · rw [if_pos hres]; exact h
        · rw [if_neg hres]
          by_cases hz : ctx.setId = 0
          · rw [if_pos hz]; exact h
          · rw [if_neg hz]
            generalize decodeData ctx.tr st.r = p
            obtain ⟨res, r'⟩ := p
            cases res with
            | error e => simp only; split <;> exact h
            | ok fs =>
              simp only
              by_cases he : r'.cnt = st.r.cnt
              · rw [if_pos he]; exact h
              · rw [if_neg he]; exact ih _ (h.trans (List.prefix_append _ _))
    · rw [if_neg hc]; exact h

theorem skipRest_recs (ctx : Ctx) (a : St) (e1 : Option Err) : (skipRest ctx a e1).1.recs = a.recs := by
  rw [skipRest]
  split
  · split <;> rfl
  · rfl

theorem decodeSet_recs (addr : Bytes) (fuel : Nat) (st : St) : st.recs <+: (decodeSet addr fuel st).1.recs := by
  rw [decodeSet]
  split
  · exact List.prefix_refl _
  · split
    · exact List.prefix_refl _
    · split
      · exact List.prefix_refl _
      · rw [setBody]
        simp only
        split
        · rw [skipRest_recs]; exact List.prefix_refl _
        · split
          · exact setLoop_recs _ _ _ (List.prefix_refl _)
          · rw [skipRest_recs]; exact setLoop_recs _ _ _ (List.prefix_refl _)

theorem outer_loop (addr : Bytes) : OuterLoop (decodeSet addr) (·.r.rem.length) nonfatalErr (outer addr) where
  zero _ _ := rfl
  stop _ _ _ h := by rw [outer, if_neg (Nat.not_lt.mpr h)]
  iter _ _ _ _ e hl hd := by
    rw [outer, if_pos hl, hd]
    cases e with
    | none => simp [fatal]
    | some x => cases hx : nonfatalErr x <;> simp [fatal, hx]

theorem St.ext_length (a : St) (s : Bytes) (k : Nat) : (a.ext s k).r.rem.length = a.r.rem.length + s.length :=
  a.r.ext_length s k

theorem readHeader_persists : Persists readHeader :=
  .bindNat rU16_takes.persists fun _ => .bindNat rU16_takes.persists fun _ => .bindNat rU32_takes.persists fun _ =>
    .bindNat rU32_takes.persists fun _ => .bindNat rU32_takes.persists fun _ => .pure _

def outRecs (o : St × Option Err × List Err) : List Record :=
  match o.2.1 with
  | none => o.1.recs
  | some _ => []

def finalSt (c : Cache) (addr bs : Bytes) : Option St :=
  match readHeader ⟨bs, 0⟩ with
  | none => none
  | some (h, r5) => if h.headD 0 ≠ 10 then none else some (outer addr (bs.length + 1) ⟨r5, c, []⟩ []).1

theorem outer_trunc (addr : Bytes) (fT fF : Nat) (a : St) (s : Bytes) (h : fT ≤ fF) :
    outRecs (outer addr fT a []) <+: (outer addr fF (a.ext s 0) []).1.recs := by
  generalize ho : outer addr fT a [] = o
  obtain ⟨a', e, errs'⟩ := o
  cases e with
  | some x => exact List.nil_prefix
  | none =>
    obtain ⟨-, j, hj, hall⟩ := (outer_loop addr).lockstep St.ext St.ext_length (decodeSet_ext addr) _ _ _ _ _ ho
    obtain ⟨m, rfl⟩ : ∃ m, fF = j + m := ⟨fF - j, by omega⟩
    rw [hall]
    exact (outer_loop addr).invariant (·.recs <+: ·.recs) (fun _ => List.prefix_refl _) List.IsPrefix.trans
      (decodeSet_recs addr) m (a'.ext s 0) errs'

theorem truncation_prefix_state (c : Cache) (addr bs : Bytes) (n : Nat) :
    recordsOf (decode c addr (bs.take n)).1 = [] ∨
    ∃ st, finalSt c addr bs = some st ∧ recordsOf (decode c addr (bs.take n)).1 <+: st.recs := by
  rw [decode, finalSt]
  cases hT : readHeader ⟨bs.take n, 0⟩ with
  | none => exact .inl rfl
  | some p =>
    have hF := readHeader_persists _ _ _ hT (bs.drop n) 0
    rw [show (⟨bs.take n, 0⟩ : Rd).ext (bs.drop n) 0 = ⟨bs, 0⟩ by rw [Rd.ext, List.take_append_drop]] at hF
    rw [hF]
    simp only
    split
    · exact .inl rfl
    · refine .inr ⟨_, rfl, ?_⟩
      have := outer_trunc addr ((bs.take n).length + 1) (bs.length + 1) ⟨p.2, c, []⟩ (bs.drop n)
        (by rw [List.length_take]; omega)
      generalize outer addr ((bs.take n).length + 1) ⟨p.2, c, []⟩ [] = o at this ⊢
      obtain ⟨a', e, errs'⟩ := o
      cases e with
      | none => exact this
      | some x => exact List.nil_prefix

theorem decode_ok_finalSt {c : Cache} {addr bs : Bytes} {h : Hdr} {recs : List Record} {errs : List Err}
    (hok : (decode c addr bs).1 = .ok (h, recs, errs)) : ∃ st, finalSt c addr bs = some st ∧ st.recs = recs := by
  rw [decode] at hok
  rw [finalSt]
  generalize readHeader ⟨bs, 0⟩ = rh at hok ⊢
  cases rh with
  | none => cases hok
  | some p =>
    simp only at hok ⊢
    by_cases hv : p.1.headD 0 ≠ 10
    · rw [if_pos hv] at hok; cases hok
    · rw [if_neg hv] at hok ⊢
      generalize outer addr (bs.length + 1) _ [] = o at hok ⊢
      obtain ⟨st, e, errs'⟩ := o
      cases e with
      | some x => cases hok
      | none => cases hok; exact ⟨st, rfl, rfl⟩

end Vflow.Ipfix
