import Vflow.Proofs.JsonTree
import Vflow.Model.CacheFile
/-!
# The cache file is the rendering of a well-formed JSON object; so it is accepted and no proper prefix is

(The tree of the template-cache file and what follows from it; the general facts about prefixes are in `JsonScan`.)

`dumpTree ipfix ts c` is the *meaning* of the file `Dump` writes for cache `c` (entry `k` stamped `ts k`):
`{"Cache":[{"Templates":{"<key>":{"Template":{…},"Timestamp":<ts key>},…}},… 32 shards …],"ShardNo":32}`.
`dumpJsonTs_eq_render`: the model's octets are exactly `render (dumpTree …)`; `dumpTree_wf`, `dumpTree_depth`:
the tree is well-formed (keys are string bodies, numbers are RFC 8259 numbers) and nested 8 deep at most.
With `JsonScan.render_valid` / `render_prefix_rejected`: `dump_valid`, `dump_prefix_rejected`.
-/
namespace Vflow.JsonPrefix
open Vflow Vflow.Spec Vflow.CacheFile Vflow.JsonScan Vflow.JsonLex

/-! ## Tree builders and their renderings -/

def listOf : List Json → JList
  | [] => .nil
  | x :: xs => .cons x (listOf xs)

def objOf : List (Bytes × Json) → JMembers
  | [] => .nil
  | (k, v) :: ms => .cons k v (objOf ms)

/-- `"k":v` -/
def memberText (kv : Bytes × Json) : Bytes := kw kv.1 ++ render kv.2

theorem memberText_eq (k : Bytes) (v : Json) : q :: k ++ [q] ++ [58] ++ render v = memberText (k, v) := by
  simp [memberText, kw, q]

theorem renderList_listOf : ∀ (l : List Json), renderList (listOf l) = joinSep 44 (l.map render)
  | [] => rfl
  | [x] => rfl
  | x :: y :: ys => by
    have ih := renderList_listOf (y :: ys)
    simp only [listOf, renderList, List.map, joinSep] at ih ⊢
    rw [ih]

theorem renderMembers_objOf : ∀ (l : List (Bytes × Json)), renderMembers (objOf l) = joinSep 44 (l.map memberText)
  | [] => rfl
  | [(k, v)] => memberText_eq k v
  | (k, v) :: (k', v') :: ms => by
    have ih := renderMembers_objOf ((k', v') :: ms)
    simp only [objOf, renderMembers, List.map, joinSep, memberText_eq] at ih ⊢
    rw [ih]

theorem listOf_eq : ∀ (l : List Json), listOf l = JsonTree.listOf l
  | [] => rfl
  | x :: xs => congrArg (JList.cons x) (listOf_eq xs)

theorem wfm_objOf : ∀ (l : List (Bytes × Json)), (∀ kv ∈ l, isStrBody kv.1 = true ∧ WF kv.2) → WFM (objOf l)
  | [], _ => trivial
  | (k, v) :: ms, h =>
    ⟨(h (k, v) (List.mem_cons_self ..)).1, (h (k, v) (List.mem_cons_self ..)).2,
      wfm_objOf ms fun y hy => h y (List.mem_cons_of_mem _ hy)⟩

theorem depthM_objOf (n : Nat) : ∀ (l : List (Bytes × Json)), (∀ kv ∈ l, depth kv.2 ≤ n) → depthM (objOf l) ≤ n
  | [], _ => Nat.zero_le _
  | (k, v) :: ms, h =>
    Nat.max_le.mpr ⟨h (k, v) (List.mem_cons_self ..), depthM_objOf n ms fun y hy => h y (List.mem_cons_of_mem _ hy)⟩

/-! ## The tree of the cache file -/

def jnum (n : Nat) : Json := .num (natDigits n)

/-- `{"ElementID":i,"Length":l}` plus `,"EnterpriseNo":e` for IPFIX -/
def specTree (ipfix : Bool) (s : Spec) : Json :=
  .obj (objOf ([(str "ElementID", jnum s.id), (str "Length", jnum s.len)] ++
    (if ipfix then [(str "EnterpriseNo", jnum s.ent)] else [])))

/-- a nil slice is `null`, anything else the array of its specifiers -/
def specsTree (ipfix : Bool) : List Spec → Json
  | [] => .null
  | s :: l => .arr (listOf ((s :: l).map (specTree ipfix)))

def templateTree (ipfix : Bool) (t : Template) : Json :=
  .obj (objOf [
    (str "TemplateID", jnum t.tid),
    (str "FieldCount", jnum t.cnt),
    (str "FieldSpecifiers", specsTree ipfix t.fields),
    (str "ScopeFieldCount", jnum t.scnt),
    (str "ScopeFieldSpecifiers", specsTree ipfix t.scope)])

/-- `"<key>":{"Template":{…},"Timestamp":<ts key>}` -/
def entryMember (ipfix : Bool) (ts : CKey → Int) (e : CKey × Template) : Bytes × Json :=
  (escString e.1.2, .obj (objOf [
    (str "Template", templateTree ipfix e.2),
    (str "Timestamp", .num (intDigits (ts e.1)))]))

/-- shard `i`: `{"Templates":{…the entries of shard i, keys in string order, escaped as `encoding/json` does…}}` -/
def shardTree (ipfix : Bool) (ts : CKey → Int) (c : Cache) (i : Nat) : Json :=
  .obj (objOf [(str "Templates",
    .obj (objOf ((sortEntries (c.filter fun e => e.1.1 = i)).map (entryMember ipfix ts))))])

/-- **the cache file**: `{"Cache":[shard 0,…,shard 31],"ShardNo":32}` -/
def dumpTree (ipfix : Bool) (ts : CKey → Int) (c : Cache) : Json :=
  .obj (objOf [
    (str "Cache", .arr (listOf ((List.range 32).map (shardTree ipfix ts c)))),
    (str "ShardNo", .num (str "32"))])

/-! ## The model's octets are the rendering of the tree -/

theorem render_obj_objOf (l : List (Bytes × Json)) :
    render (.obj (objOf l)) = [123] ++ joinSep 44 (l.map memberText) ++ [125] := by
  simp only [render, renderMembers_objOf]

theorem render_arr_listOf (l : List Json) :
    render (.arr (listOf l)) = [91] ++ joinSep 44 (l.map render) ++ [93] := by
  simp only [render, renderList_listOf]

theorem str_null : str "null" = [110, 117, 108, 108] := by decide +kernel

theorem render_specTree (ipfix : Bool) (s : Spec) : render (specTree ipfix s) = specJson ipfix s := by
  cases ipfix <;> simp [specTree, render_obj_objOf, joinSep, memberText, specJson, jnum, render]

theorem render_specsTree (ipfix : Bool) : ∀ (l : List Spec), render (specsTree ipfix l) = specsJson ipfix l
  | [] => str_null.symm
  | s :: l => by
    have hm : (render ∘ specTree ipfix) = specJson ipfix := funext (render_specTree ipfix)
    simp only [specsTree, specsJson, render_arr_listOf, List.map_map, hm]

theorem render_templateTree (ipfix : Bool) (t : Template) : render (templateTree ipfix t) = templateJson ipfix t := by
  simp only [templateTree, render_obj_objOf, List.map, joinSep, memberText, templateJson, jnum, render,
    render_specsTree, List.append_assoc]

theorem memberText_entryMember (ipfix : Bool) (ts : CKey → Int) (e : CKey × Template) :
    memberText (entryMember ipfix ts e) = entryJsonTs ipfix ts e := by
  simp only [entryMember, render_obj_objOf, List.map, joinSep, memberText, entryJsonTs, render, render_templateTree,
    kw, List.append_assoc, List.cons_append]

theorem render_shardTree (ipfix : Bool) (ts : CKey → Int) (c : Cache) (i : Nat) :
    render (shardTree ipfix ts c i) = shardJsonTs ipfix ts c i := by
  have hm : (memberText ∘ entryMember ipfix ts) = entryJsonTs ipfix ts := funext (memberText_entryMember ipfix ts)
  simp only [shardTree, render_obj_objOf, List.map, joinSep, memberText, shardJsonTs, List.map_map, hm, List.append_assoc]
  rfl

theorem dumpJsonTs_eq_render (ipfix : Bool) (ts : CKey → Int) (c : Cache) :
    dumpJsonTs ipfix ts c = render (dumpTree ipfix ts c) := by
  have hm : (render ∘ shardTree ipfix ts c) = shardJsonTs ipfix ts c := funext (render_shardTree ipfix ts c)
  simp only [dumpTree, render_obj_objOf, render_arr_listOf, List.map, joinSep, memberText, List.map_map, hm]
  simp only [dumpJsonTs, render, List.append_assoc]
  rfl

theorem dumpJsonTs_zero (ipfix : Bool) (c : Cache) : dumpJson ipfix c = dumpJsonTs ipfix (fun _ => 0) c := by
  have h0 : intDigits 0 = [48] := by decide +kernel
  have he : entryJsonTs ipfix (fun _ => 0) = entryJson ipfix := by
    funext e; simp only [entryJsonTs, entryJson, h0]
  have hs : shardJsonTs ipfix (fun _ => 0) c = shardJson ipfix c := by
    funext i; simp only [shardJsonTs, shardJson, he]
  simp only [dumpJson, dumpJsonTs, hs]

/-! ## The tree is well-formed

Its keys are string literals of the model: that each is a string body is evaluated by the kernel (on the octet list,
`str_eq`). -/

theorem wf_specTree (ipfix : Bool) (s : Spec) : WF (specTree ipfix s) := by
  cases ipfix <;> simp only [specTree, objOf, jnum, WF, WFM, natDigits_isNumber, and_true, str_eq, List.append_nil, List.cons_append,
    List.nil_append, if_true, Bool.false_eq_true, if_false] <;> decide +kernel

theorem wf_specsTree (ipfix : Bool) : ∀ (l : List Spec), WF (specsTree ipfix l)
  | [] => trivial
  | _ :: _ => by
    rw [specsTree, WF, listOf_eq]
    exact JsonTree.wf_listOf _ (List.forall_mem_map.mpr fun y _ => wf_specTree ipfix y)

theorem wf_templateTree (ipfix : Bool) (t : Template) : WF (templateTree ipfix t) := by
  simp only [templateTree, objOf, jnum, WF, WFM, natDigits_isNumber, wf_specsTree, and_true, str_eq]
  decide +kernel

theorem wf_entryMember (ipfix : Bool) (ts : CKey → Int) (e : CKey × Template) :
    isStrBody (entryMember ipfix ts e).1 = true ∧ WF (entryMember ipfix ts e).2 := by
  refine ⟨escString_isStrBody e.1.2, ?_⟩
  simp only [entryMember, objOf, WF, WFM, wf_templateTree, intDigits_isNumber, and_true, str_eq]
  decide +kernel

theorem wf_shardTree (ipfix : Bool) (ts : CKey → Int) (c : Cache) (i : Nat) : WF (shardTree ipfix ts c i) :=
  ⟨by rw [str_eq]; decide +kernel, wfm_objOf _ (List.forall_mem_map.mpr fun e _ => wf_entryMember ipfix ts e), trivial⟩

theorem dumpTree_wf (ipfix : Bool) (ts : CKey → Int) (c : Cache) : WF (dumpTree ipfix ts c) := by
  have h := JsonTree.wf_listOf _ (List.forall_mem_map.mpr fun i (_ : i ∈ List.range 32) => wf_shardTree ipfix ts c i)
  simp only [dumpTree, listOf_eq, objOf, WF, WFM, h, and_true, true_and, str_eq]
  decide +kernel

/-! ## The tree is 8 deep at most -/

theorem depth_specTree (ipfix : Bool) (s : Spec) : depth (specTree ipfix s) ≤ 1 := by
  cases ipfix <;> simp [specTree, objOf, depth, depthM, jnum]

theorem depth_specsTree (ipfix : Bool) : ∀ (l : List Spec), depth (specsTree ipfix l) ≤ 2
  | [] => Nat.zero_le _
  | _ :: _ => by
    rw [specsTree, depth, listOf_eq]
    exact Nat.succ_le_succ (JsonTree.depthL_listOf _ 1 (List.forall_mem_map.mpr fun y _ => depth_specTree ipfix y))

theorem depth_templateTree (ipfix : Bool) (t : Template) : depth (templateTree ipfix t) ≤ 3 := by
  have h1 := depth_specsTree ipfix t.fields
  have h2 := depth_specsTree ipfix t.scope
  simp only [templateTree, objOf, depth, depthM, jnum]
  omega

theorem depth_entryMember (ipfix : Bool) (ts : CKey → Int) (e : CKey × Template) :
    depth (entryMember ipfix ts e).2 ≤ 4 := by
  have h1 := depth_templateTree ipfix e.2
  simp only [entryMember, objOf, depth, depthM]
  omega

theorem depth_shardTree (ipfix : Bool) (ts : CKey → Int) (c : Cache) (i : Nat) : depth (shardTree ipfix ts c i) ≤ 6 := by
  have := depthM_objOf 4 _ (List.forall_mem_map.mpr fun e (_ : e ∈ sortEntries (c.filter fun e => e.1.1 = i)) =>
    depth_entryMember ipfix ts e)
  simp only [shardTree, objOf, depth, depthM]
  omega

theorem dumpTree_depth (ipfix : Bool) (ts : CKey → Int) (c : Cache) : depth (dumpTree ipfix ts c) ≤ 8 := by
  have := JsonTree.depthL_listOf _ 6 (List.forall_mem_map.mpr fun i (_ : i ∈ List.range 32) => depth_shardTree ipfix ts c i)
  simp only [dumpTree, listOf_eq, objOf, depth, depthM]
  omega

/-! ## The cache file is accepted; no proper prefix of it is -/

/-- **the file `Dump` writes is accepted by the scanner**, whatever the cache and the timestamps -/
theorem dump_valid (ipfix : Bool) (ts : CKey → Int) (c : Cache) : jsonValid (dumpJsonTs ipfix ts c) = true := by
  rw [dumpJsonTs_eq_render]
  exact render_valid _ (dumpTree_wf ipfix ts c)
    (Nat.le_trans (dumpTree_depth ipfix ts c) (by decide))

/-- **every proper prefix of the file `Dump` writes is rejected by the scanner** -/
theorem dump_prefix_rejected (ipfix : Bool) (ts : CKey → Int) (c : Cache) (n : Nat)
    (h : n < (dumpJsonTs ipfix ts c).length) : jsonValid ((dumpJsonTs ipfix ts c).take n) = false := by
  rw [dumpJsonTs_eq_render] at h ⊢
  exact render_prefix_rejected _ (dumpTree_wf ipfix ts c)
    (Nat.le_trans (dumpTree_depth ipfix ts c) (by decide)) rfl n h

end Vflow.JsonPrefix
