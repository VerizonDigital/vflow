import Vflow.Model.Packet
/-!
# The dissector in closed form, hence no panic

Every decoder of `Model/Packet.lean` is characterised once (`decodeIPv4_eq` … `decodeEthernet_eq`): its length
guard, and under the guard the fields at their positions (`oct d i`), every checked index and slice being in
range.  The encode / dissect specification and the tie to the regenerated expressions start from these
equations; so does the last part of this file, `Safe` (a value or a Go `error`, neither panic nor fuel) and
`dissect_safe`.
-/
namespace Vflow.Packet
open Vflow Vflow.Sflow

@[simp] theorem ok_bind {α β : Type} (a : α) (f : α → Res β) : (Res.ok a >>= f) = f a := rfl
@[simp] theorem err_bind {α β : Type} (e : Err) (f : α → Res β) : (Res.err e >>= f) = .err e := rfl
@[simp] theorem panic_bind {α β : Type} (f : α → Res β) : (Res.panic >>= f) = .panic := rfl
@[simp] theorem fuel_bind {α β : Type} (f : α → Res β) : (Res.fuel >>= f) = .fuel := rfl
@[simp] theorem pure_eq {α : Type} (a : α) : (pure a : Res α) = .ok a := rfl

theorem oct_lt (b : Bytes) (i : Nat) : oct b i < 256 := (b.getD i 0).toNat_lt

theorem at?_lt {b : Bytes} {i : Nat} (h : i < b.length) : at? b i = .ok (oct b i) := if_pos h

theorem slice?_le {b : Bytes} {i j : Nat} (h1 : i ≤ j) (h2 : j ≤ b.length) :
    slice? b i j = .ok ((b.drop i).take (j - i)) := if_pos ⟨h1, h2⟩

theorem from?_le {b : Bytes} {i : Nat} (h : i ≤ b.length) : from? b i = .ok (b.drop i) := if_pos h

theorem bind_ne_panic {α β : Type} {x : Res α} {f : α → Res β} (hx : x ≠ .panic)
    (hf : ∀ a, f a ≠ .panic) : (x >>= f) ≠ .panic := by
  cases x with
  | ok a => exact hf a
  | panic => exact absurd rfl hx
  | err e => nofun
  | fuel => nofun

theorem bind_ne_fuel {α β : Type} {x : Res α} {f : α → Res β} (hx : x ≠ .fuel)
    (hf : ∀ a, f a ≠ .fuel) : (x >>= f) ≠ .fuel := by
  cases x with
  | ok a => exact hf a
  | fuel => exact absurd rfl hx
  | err e => nofun
  | panic => nofun

/-- the IPv4 header fields at their RFC 791 positions -/
def ipv4At (d : Bytes) : IPv4Hdr :=
  { version := oct d 0 / 16, tos := oct d 1, totalLen := oct d 2 * 256 + oct d 3, id := oct d 4 * 256 + oct d 5,
    flags := oct d 6 / 32, fragOff := (oct d 6 % 32) * 256 + oct d 7, ttl := oct d 8, protocol := oct d 9,
    checksum := oct d 10 * 256 + oct d 11, src := (d.drop 12).take 4, dst := (d.drop 16).take 4 }

theorem ihlOctets_ge (b : Nat) : 20 ≤ ihlOctets b := by
  unfold ihlOctets; split <;> omega

theorem ihlOctets_le (b : Nat) : ihlOctets b ≤ 60 := by
  unfold ihlOctets; split <;> omega

/-- the two Go guards (`len(p.data) < IPv4HLen`, `len(p.data) < hlen`) are one, the header length being at
least 20 -/
theorem decodeIPv4_eq (d : Bytes) :
    decodeIPv4 d = if d.length < ihlOctets (oct d 0) then .err .ip4Short
      else .ok (ipv4At d, d.drop (ihlOctets (oct d 0))) := by
  have hge := ihlOctets_ge (oct d 0)
  unfold decodeIPv4
  by_cases h20 : d.length < 20
  · rw [if_pos h20, if_pos (by omega)]
  · rw [if_neg h20, at?_lt (by omega), ok_bind]
    by_cases h : d.length < ihlOctets (oct d 0)
    · rw [if_pos h, if_pos h]
    · rw [if_neg h, if_neg h]
      simp (disch := omega) only [at?_lt, slice?_le, from?_le, ok_bind, pure_eq, ipv4At]

/-- the IPv6 header fields at their RFC 8200 positions -/
def ipv6At (d : Bytes) : IPv6Hdr :=
  { version := oct d 0 / 16, trafficClass := (oct d 0 % 16) * 16 + oct d 1 / 16,
    flowLabel := (oct d 1 % 16) * 65536 + oct d 2 * 256 + oct d 3, payloadLen := oct d 4 * 256 + oct d 5,
    nextHeader := oct d 6, hopLimit := oct d 7, src := (d.drop 8).take 16, dst := (d.drop 24).take 16 }

theorem decodeIPv6_eq (d : Bytes) :
    decodeIPv6 d = if d.length < 40 then .err .ip6Short else .ok (ipv6At d, d.drop 40) := by
  unfold decodeIPv6
  split
  · rfl
  · simp (disch := omega) only [at?_lt, slice?_le, from?_le, ok_bind, pure_eq, ipv6At]

theorem decodeTCP_eq (b : Bytes) :
    decodeTCP b = if b.length < 20 then .err .tcpShort else
      .ok (.tcp (oct b 0 * 256 + oct b 1) (oct b 2 * 256 + oct b 3) (oct b 12 / 16) (oct b 12 / 2 % 8)
        ((oct b 12 * 256 + oct b 13) % 512)) := by
  unfold decodeTCP
  split
  · rfl
  · simp (disch := omega) only [at?_lt, ok_bind, pure_eq]

theorem decodeUDP_eq (b : Bytes) :
    decodeUDP b = if b.length < 8 then .err .udpShort else
      .ok (.udp (oct b 0 * 256 + oct b 1) (oct b 2 * 256 + oct b 3)) := by
  unfold decodeUDP
  split
  · rfl
  · simp (disch := omega) only [at?_lt, ok_bind, pure_eq]

theorem decodeICMP_eq (b : Bytes) :
    decodeICMP b = if b.length < 5 then .err .icmpShort else .ok (.icmp (oct b 0) (oct b 1) (b.drop 4)) := by
  unfold decodeICMP
  split
  · rfl
  · simp (disch := omega) only [at?_lt, from?_le, ok_bind, pure_eq]

/-- `p.data = p.data[len:]` after a transport decoder cannot fail: the decoder has checked for more -/
theorem decodeNext_eq (proto : Nat) (d : Bytes) :
    decodeNext proto d =
      if proto = 1 ∨ proto = 58 then decodeICMP d else if proto = 6 then decodeTCP d
      else if proto = 17 then decodeUDP d else .err .l4Unknown := by
  unfold decodeNext
  split
  · rw [decodeICMP_eq]; split
    · rfl
    · rw [ok_bind, from?_le (by omega)]; rfl
  · split
    · rw [decodeTCP_eq]; split
      · rfl
      · rw [ok_bind, from?_le (by omega)]; rfl
    · split
      · rw [decodeUDP_eq]; split
        · rfl
        · rw [ok_bind, from?_le (by omega)]; rfl
      · rfl

/-- the datalink fields at their IEEE 802.3 positions -/
def l2At (b : Bytes) : L2 :=
  if oct b 12 * 256 + oct b 13 ≠ 0x8100 then
    { srcMAC := (b.drop 6).take 6, dstMAC := b.take 6, vlan := 0, etherType := oct b 12 * 256 + oct b 13 }
  else { srcMAC := [], dstMAC := [], vlan := 0, etherType := oct b 12 * 256 + oct b 13 }

theorem l2At_etherType (b : Bytes) : (l2At b).etherType = oct b 12 * 256 + oct b 13 := by
  unfold l2At; split <;> rfl

theorem decodeIEEE802_eq (b : Bytes) :
    decodeIEEE802 b = if b.length < 14 then .err .ieeeShort else .ok (l2At b) := by
  unfold decodeIEEE802 l2At
  split
  · rfl
  · simp (disch := omega) only [at?_lt, ok_bind]
    split <;> simp (disch := omega) only [slice?_le, ok_bind, pure_eq, List.drop_zero, Nat.sub_zero]

/-- the frame with the 802.1Q tag removed: octets 0..11, the inner ethertype (16, 17), then 18… -/
def untag (d : Bytes) : Bytes := (d.drop 0).take (12 - 0) ++ (d.drop 16).take (18 - 16) ++ d.drop 18

theorem untag_length (d : Bytes) (h : 18 ≤ d.length) : (untag d).length + 4 = d.length := by
  simp only [untag, List.length_append, List.length_take, List.length_drop]; omega

theorem decodeVlan_eq (d : Bytes) :
    decodeVlan d = if d.length < 18 then .err .ethShort else
      .ok ({ l2At (untag d) with vlan := (oct d 14 * 256 + oct d 15) % 4096 }, (untag d).drop 14) := by
  unfold decodeVlan
  split
  · rfl
  · have h2 := untag_length d (by omega)
    simp (disch := omega) only [at?_lt, slice?_le, from?_le, ok_bind, pure_eq]
    rw [show (d.drop 0).take (12 - 0) ++ (d.drop 16).take (18 - 16) ++ d.drop 18 = untag d from rfl,
      decodeIEEE802_eq, if_neg (by omega), ok_bind, from?_le (by omega)]
    rfl

theorem decodeEthernet_eq (d : Bytes) :
    decodeEthernet d = if d.length < 14 then .err .ethShort else
      if oct d 12 * 256 + oct d 13 = 0x8100 then decodeVlan d else .ok (l2At d, d.drop 14) := by
  unfold decodeEthernet
  split
  · rfl
  · rw [decodeIEEE802_eq, if_neg ‹_›, ok_bind, l2At_etherType, from?_le (by omega)]
    rfl

/-- the outcome is a value or a Go `error` -/
def Safe {α : Type} (x : Res α) : Prop := x ≠ .panic ∧ x ≠ .fuel

theorem safe_ok {α : Type} (a : α) : Safe (Res.ok a) := ⟨nofun, nofun⟩
theorem safe_err {α : Type} (e : Err) : Safe (Res.err e : Res α) := ⟨nofun, nofun⟩

theorem safe_guard {α : Type} (c : Prop) [Decidable c] (e : Err) (a : α) :
    Safe (if c then .err e else .ok a : Res α) := by
  split
  · exact safe_err e
  · exact safe_ok a

theorem bind_safe {α β : Type} {x : Res α} {f : α → Res β} (hx : Safe x) (hf : ∀ a, Safe (f a)) :
    Safe (x >>= f) := by
  cases x with
  | ok a => exact hf a
  | err e => exact safe_err e
  | panic => exact absurd rfl hx.1
  | fuel => exact absurd rfl hx.2

theorem decodeIPv4_safe (d : Bytes) : Safe (decodeIPv4 d) := by
  rw [decodeIPv4_eq]; exact safe_guard ..

theorem decodeIPv6_safe (d : Bytes) : Safe (decodeIPv6 d) := by
  rw [decodeIPv6_eq]; exact safe_guard ..

theorem decodeNext_safe (proto : Nat) (d : Bytes) : Safe (decodeNext proto d) := by
  rw [decodeNext_eq, decodeICMP_eq, decodeTCP_eq, decodeUDP_eq]
  split
  · exact safe_guard ..
  · split
    · exact safe_guard ..
    · split
      · exact safe_guard ..
      · exact safe_err _

theorem dissectV4_safe (l2 : L2) (d : Bytes) : Safe (dissectV4 l2 d) :=
  bind_safe (decodeIPv4_safe d) fun _ => bind_safe (decodeNext_safe _ _) fun _ => safe_ok _

theorem dissectV6_safe (l2 : L2) (d : Bytes) : Safe (dissectV6 l2 d) :=
  bind_safe (decodeIPv6_safe d) fun _ => bind_safe (decodeNext_safe _ _) fun _ => safe_ok _

theorem decodeEthernet_safe (d : Bytes) : Safe (decodeEthernet d) := by
  rw [decodeEthernet_eq, decodeVlan_eq]
  split
  · exact safe_err _
  · split
    · exact safe_guard ..
    · exact safe_ok _

theorem dissectEth_safe (hdr : Bytes) : Safe (dissectEth hdr) := by
  refine bind_safe (decodeEthernet_safe hdr) fun r => ?_
  split
  · exact dissectV4_safe _ _
  · split
    · exact dissectV6_safe _ _
    · exact safe_err _

theorem dissect_safe (hdr : Bytes) (proto : Nat) : Safe (dissect hdr proto) := by
  unfold dissect
  split
  · exact dissectEth_safe hdr
  · split
    · exact dissectV4_safe _ _
    · split
      · exact dissectV6_safe _ _
      · exact safe_err _

end Vflow.Packet
