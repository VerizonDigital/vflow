import Vflow.Model.Flow
/-!
# The set loop of `Decode`, for both template-based decoders

`for d.reader.Len() > 4 { decodeSet … }` is the same loop in `ipfix/decoder.go` and `netflow/v9/decoder.go`; the
models (`Ipfix.outer`, `V9.outer`) differ in the function that decodes one set and in the class of errors after which
the loop goes on.  `OuterLoop` states the three equations that define such a loop.  States are compared through a map
`ext a s k` (octets `s` appended, count moved by `k`) under which one step, given `j` more fuel, does the same or ends
the run on the shorter input with a fatal error (`hstep`).
-/
namespace Vflow

/-- an error that ends `Decode` with `(nil, err)`: one that `nf` does not class as non-fatal -/
def fatal (nf : Err → Bool) : Option Err → Bool
  | none => false
  | some x => !nf x

/-- `out` is the loop `for d.reader.Len() > 4` over `step` = `decodeSet`: `len` is the number of octets left,
`nf` the class of errors that are collected instead of returned; the fuel given to `step` is what the models
give it. -/
structure OuterLoop {σ : Type} (step : Nat → σ → σ × Option Err) (len : σ → Nat) (nf : Err → Bool)
    (out : Nat → σ → List Err → σ × Option Err × List Err) : Prop where
  zero : ∀ st errs, out 0 st errs = (st, some .fuel, errs)
  stop : ∀ fuel st errs, len st ≤ 4 → out (fuel + 1) st errs = (st, none, errs)
  iter : ∀ fuel st errs st' e, 4 < len st → step (len st + 1) st = (st', e) →
    out (fuel + 1) st errs = if fatal nf e then (st', e, errs) else out fuel st' (errs ++ e.toList)

namespace OuterLoop
variable {σ : Type} {step : Nat → σ → σ × Option Err} {len : σ → Nat} {nf : Err → Bool}
  {out : Nat → σ → List Err → σ × Option Err × List Err} (h : OuterLoop step len nf out)
include h

theorem errs : ∀ (n : Nat) (st : σ) (errs : List Err),
    out n st errs = ((out n st []).1, (out n st []).2.1, errs ++ (out n st []).2.2) := by
  intro n
  induction n with
  | zero => intro st errs; simp [h.zero]
  | succ n ih =>
    intro st errs
    by_cases hl : len st ≤ 4
    · simp [h.stop _ _ _ hl]
    · rcases hd : step (len st + 1) st with ⟨st', e⟩
      rw [h.iter _ _ errs _ _ (Nat.lt_of_not_le hl) hd, h.iter _ _ [] _ _ (Nat.lt_of_not_le hl) hd]
      by_cases hf : fatal nf e = true
      · simp [hf]
      · rw [if_neg hf, if_neg hf, ih st' (errs ++ e.toList), ih st' ([] ++ e.toList)]
        simp

theorem fuel_mono : ∀ (n : Nat) (st : σ) (errs : List Err),
    (out n st errs).2.1 ≠ some .fuel → ∀ m, n ≤ m → out m st errs = out n st errs := by
  intro n
  induction n with
  | zero => intro st errs hne; simp [h.zero] at hne
  | succ n ih =>
    intro st errs hne m hm
    obtain ⟨m, rfl⟩ : ∃ m', m = m' + 1 := ⟨m - 1, by omega⟩
    by_cases hl : len st ≤ 4
    · rw [h.stop _ _ _ hl, h.stop _ _ _ hl]
    · rcases hd : step (len st + 1) st with ⟨st', e⟩
      rw [h.iter _ _ _ _ _ (Nat.lt_of_not_le hl) hd] at hne ⊢
      rw [h.iter _ _ _ _ _ (Nat.lt_of_not_le hl) hd]
      by_cases hf : fatal nf e = true
      · rw [if_pos hf, if_pos hf]
      · rw [if_neg hf] at hne ⊢
        rw [if_neg hf]
        exact ih st' _ hne m (Nat.le_of_succ_le_succ hm)

theorem invariant (P : σ → σ → Prop) (refl : ∀ a, P a a) (trans : ∀ {a b c}, P a b → P b c → P a c)
    (hstep : ∀ f a, P a (step f a).1) : ∀ (n : Nat) (st : σ) (errs : List Err), P st (out n st errs).1 := by
  intro n
  induction n with
  | zero => intro st errs; rw [h.zero]; exact refl st
  | succ n ih =>
    intro st errs
    by_cases hl : len st ≤ 4
    · rw [h.stop _ _ _ hl]; exact refl st
    · rcases hd : step (len st + 1) st with ⟨st', e⟩
      have hs := hstep (len st + 1) st
      rw [hd] at hs
      rw [h.iter _ _ _ _ _ (Nat.lt_of_not_le hl) hd]
      by_cases hf : fatal nf e = true
      · rw [if_pos hf]; exact hs
      · rw [if_neg hf]; exact trans hs (ih _ _)

variable (ext : σ → Bytes → Nat → σ) (hlen : ∀ a s k, len (ext a s k) = len a + s.length)
  (hstep : ∀ a s k f j, step (f + j) (ext a s k) = (ext (step f a).1 s k, (step f a).2) ∨
    ((s ≠ [] ∨ 0 < j) ∧ fatal nf (step f a).2 = true))
include hlen hstep

theorem lockstep : ∀ (fT : Nat) (a : σ) (errs : List Err) (a' : σ) (errs' : List Err),
    out fT a errs = (a', none, errs') →
    len a' ≤ 4 ∧ ∃ j, j ≤ fT ∧ ∀ (s : Bytes) (m : Nat),
      out (j + m) (ext a s 0) errs = out m (ext a' s 0) errs' := by
  intro fT
  induction fT with
  | zero => intro a errs a' errs' hrun; simp [h.zero] at hrun
  | succ n ih =>
    intro a errs a' errs' hrun
    by_cases hl : len a ≤ 4
    · rw [h.stop _ _ _ hl] at hrun
      cases hrun
      exact ⟨hl, 0, Nat.zero_le _, fun s m => by rw [Nat.zero_add]⟩
    · rcases hd : step (len a + 1) a with ⟨a1, e⟩
      rw [h.iter _ _ _ _ _ (Nat.lt_of_not_le hl) hd] at hrun
      by_cases hf : fatal nf e = true
      · rw [if_pos hf] at hrun; cases hrun; cases hf
      · rw [if_neg hf] at hrun
        obtain ⟨hlen', j, hj, hall⟩ := ih a1 _ a' errs' hrun
        refine ⟨hlen', j + 1, Nat.succ_le_succ hj, fun s m => ?_⟩
        have hF := hstep a s 0 (len a + 1) s.length
        rw [hd, Nat.add_right_comm, ← hlen a s 0] at hF
        rw [Nat.add_right_comm, h.iter _ _ _ _ _ (by rw [hlen]; omega) (hF.resolve_right fun hx => hf hx.2),
          if_neg hf]
        exact hall s m

theorem shift (k : Nat) : ∀ (n : Nat) (a : σ) (errs : List Err),
    out n (ext a [] k) errs = (ext (out n a errs).1 [] k, (out n a errs).2) := by
  intro n
  induction n with
  | zero => intro a errs; rw [h.zero, h.zero]
  | succ n ih =>
    intro a errs
    have hl : len (ext a [] k) = len a := hlen a [] k
    by_cases hs : len a ≤ 4
    · rw [h.stop _ _ _ hs, h.stop _ _ _ (hl ▸ hs)]
    · rcases hd : step (len a + 1) a with ⟨a1, e⟩
      have hF := (hstep a [] k (len a + 1) 0).resolve_right fun hx => hx.1.elim (fun h => h rfl) (Nat.lt_irrefl _)
      rw [hd] at hF
      rw [h.iter _ _ _ _ _ (Nat.lt_of_not_le hs) hd, h.iter _ _ _ _ _ (hl ▸ Nat.lt_of_not_le hs) (hl ▸ hF)]
      by_cases hf : fatal nf e = true
      · rw [if_pos hf, if_pos hf]
      · rw [if_neg hf, if_neg hf]; exact ih _ _

/-- a skipped set `u` (`hskip`) between a prefix that is clean on its own (`hpre`) and `post`: same outcome, and the
same final state as far as `obs` (which sees neither input nor count) can tell -/
theorem insert {ω : Type} (obs : σ → ω) (hobs : ∀ a s k, obs (ext a s k) = obs a)
    {a a' : σ} {errs' : List Err} {fP : Nat} (hpre : out fP a [] = (a', none, errs')) (hlen' : len a' = 0)
    {u post : Bytes} {e : Option Err} (hu : 4 ≤ u.length) (he : fatal nf e = false)
    (hskip : ∀ f, 0 < f → step f (ext a' (u ++ post) 0) = (ext (ext a' post 0) [] u.length, e))
    {FA FB : Nat} (hFB : fP ≤ FB) (hFA : FB + u.length ≤ FA)
    (hnf : (out FB (ext a post 0) []).2.1 ≠ some .fuel) :
    obs (out FA (ext a (u ++ post) 0) []).1 = obs (out FB (ext a post 0) []).1 ∧
    (out FA (ext a (u ++ post) 0) []).2.1 = (out FB (ext a post 0) []).2.1 := by
  obtain ⟨-, j, hj, hall⟩ := h.lockstep ext hlen hstep _ _ _ _ _ hpre
  obtain ⟨mB, rfl⟩ : ∃ m, FB = j + m := ⟨FB - j, by omega⟩
  obtain ⟨mA, rfl⟩ : ∃ m, FA = j + (m + 1) := ⟨FA - j - 1, by omega⟩
  rw [hall] at hnf ⊢
  rw [hall]
  have hlA : len (ext a' (u ++ post) 0) = u.length + post.length := by rw [hlen, hlen', List.length_append]; omega
  have hlB : len (ext a' post 0) = post.length := by rw [hlen, hlen']; omega
  by_cases hgt : 4 < u.length + post.length
  · rw [h.errs] at hnf
    rw [h.iter _ _ _ _ _ (hlA ▸ hgt) (hskip _ (Nat.succ_pos _)), he, if_neg Bool.false_ne_true,
      h.shift ext hlen hstep, h.errs mA, h.errs mB, h.fuel_mono mB _ [] hnf mA (by omega)]
    exact ⟨hobs _ _ _, rfl⟩
  · rw [h.stop _ _ _ (by omega)]
    cases mB with
    | zero => simp [h.zero] at hnf
    | succ mB => rw [h.stop _ _ _ (by omega), hobs, hobs]; exact ⟨rfl, rfl⟩

end OuterLoop
end Vflow
