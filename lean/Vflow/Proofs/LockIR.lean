import Vflow.Model.LockIR
/-!
# From the checks on a generated lock region to its thread programs (C10)

Lifting the decidable checks on a generated region (`wbRegion`, `twoPhaseRegion`, `isDumpRegion`) to every
shard, key and value; the `Dump` discipline `dumpProg n` is well bracketed, and the two `range` loops the cache
functions use expand to the `Dump` shape and to a well-bracketed program, for every number of shards.
-/
namespace Vflow
namespace Locks

/-- a check `f` that does not look at keys and values, made for key 0 and value 0 on every shard of a
    region, holds of the region's program on every shard `s < n` for every key and value -/
theorem region_check_sound (f : List Act → Bool)
    (hf : ∀ (k : Nat) (v : Val) (l : List Sh), f (l.map (fill k v)) = f (l.map (fill 0 0)))
    {n : Nat} {r : Region}
    (hr : ((List.range n).all fun s => match progOf n s 0 0 r with | some p => f p | none => false) = true)
    {s k : Nat} {v : Val} (hs : s < n) : ∃ p, progOf n s k v r = some p ∧ f p = true := by
  have h := List.all_eq_true.mp hr s (List.mem_range.mpr hs)
  unfold progOf at h ⊢
  cases he : expandS n s r with
  | none => rw [he] at h; cases h
  | some l =>
    rw [he] at h
    exact ⟨l.map (fill k v), rfl, (hf k v l).trans h⟩

/-- the lock discipline does not look at keys and values -/
theorem wb_fill (k : Nat) (v : Val) : ∀ (l : List Sh) (h : Held),
    wb h (l.map (fill k v)) = wb h (l.map (fill 0 0)) := by
  intro l
  induction l with
  | nil => intro h; rfl
  | cons x xs ih =>
    intro h
    cases x <;> simp [fill, wb, ih]

theorem wbRegion_sound {n : Nat} {r : Region} (hr : wbRegion n r = true) {s k : Nat} {v : Val}
    (hs : s < n) : ∃ p, progOf n s k v r = some p ∧ wb ⟨[], []⟩ p = true :=
  region_check_sound (wb ⟨[], []⟩) (fun k v l => wb_fill k v l _) hr hs

theorem isAcq_fill (k : Nat) (v : Val) : isAcq ∘ fill k v = isAcq ∘ fill 0 0 := by
  funext x; cases x <;> rfl

theorem quiet_fill (k : Nat) (v : Val) : quiet ∘ fill k v = quiet ∘ fill 0 0 := by
  funext x; cases x <;> rfl

theorem twoPhase_fill (k : Nat) (v : Val) (l : List Sh) :
    twoPhase (l.map (fill k v)) = twoPhase (l.map (fill 0 0)) := by
  simp only [twoPhase, List.dropWhile_map, List.all_map, isAcq_fill k v, quiet_fill k v]

/-- a region accepted by `twoPhaseRegion n` yields, on every shard and for every key and value, a
    program that takes all its locks first and then only reads, iterates and releases -/
theorem twoPhaseRegion_sound {n : Nat} {r : Region} (hr : twoPhaseRegion n r = true) {s k : Nat} {v : Val}
    {p : List Act} (hs : s < n) (hp : progOf n s k v r = some p) :
    ∃ acq rest, p = acq ++ rest ∧ (∀ a ∈ acq, isAcq a = true) ∧ (∀ a ∈ rest, quiet a = true) := by
  obtain ⟨p', hp', h⟩ := region_check_sound twoPhase twoPhase_fill hr (k := k) (v := v) hs
  cases hp.symm.trans hp'
  exact ⟨p.takeWhile isAcq, p.dropWhile isAcq, List.takeWhile_append_dropWhile.symm,
    List.all_eq_true.mp List.all_takeWhile, List.all_eq_true.mp h⟩

theorem dumpShape_fill (n k : Nat) (v : Val) : (dumpShape n).map (fill k v) = dumpProg n := by
  simp [dumpShape, dumpProg, List.map_append, List.map_map, Function.comp_def, fill]

theorem isDumpRegion_sound {n : Nat} {r : Region} (hr : isDumpRegion n r = true) {s k : Nat} {v : Val}
    (hs : s < n) : progOf n s k v r = some (dumpProg n) := by
  have h := beq_iff_eq.mp (List.all_eq_true.mp hr s (List.mem_range.mpr hs))
  rw [progOf, h, Option.map_some, dumpShape_fill]

theorem wb_rlock_range (p : List Act) : ∀ (k a : Nat) (r : List Nat), (∀ x ∈ r, x < a) →
    wb ⟨[], r⟩ ((List.range' a k).map .rlock ++ p) = wb ⟨[], (List.range' a k).reverse ++ r⟩ p := by
  intro k
  induction k with
  | zero => intro a r _; rfl
  | succ k ih =>
    intro a r hr
    have hall : (([] : List Nat) ++ r).all (· < a) = true := List.all_eq_true.mpr fun x hx => decide_eq_true (hr x hx)
    rw [List.range'_succ, List.map_cons, List.cons_append, wb, hall, Bool.true_and,
      ih (a + 1) (a :: r) (List.forall_mem_cons.mpr ⟨Nat.lt_succ_self a, fun x h => Nat.lt_succ_of_lt (hr x h)⟩),
      List.reverse_cons, List.append_assoc]
    rfl

theorem wb_iter_held (h : Held) (p : List Act) : ∀ l : List Nat, (∀ s ∈ l, s ∈ h.r) →
    wb h (l.map .iter ++ p) = wb h p := by
  intro l
  induction l with
  | nil => intro _; rfl
  | cons s l ih =>
    intro hl
    have : h.r.contains s = true := List.contains_iff_mem.mpr (hl s List.mem_cons_self)
    rw [List.map_cons, List.cons_append, wb, this, Bool.or_true, Bool.true_and,
      ih fun x hx => hl x (List.mem_cons_of_mem _ hx)]

/-- releasing exactly the read locks held, in any order -/
theorem wb_runlock_all : ∀ (l r : List Nat), r.Perm l → wb ⟨[], r⟩ (l.map .runlock) = true
  | [], r, h => by rw [h.eq_nil]; rfl
  | s :: l, r, h => by
    have hs : r.contains s = true := List.contains_iff_mem.mpr (h.mem_iff.mpr List.mem_cons_self)
    rw [List.map_cons, wb, hs, Bool.true_and]
    exact wb_runlock_all l _ (List.erase_cons_head s l ▸ h.erase s)

theorem wb_dumpProg (n : Nat) : wb ⟨[], []⟩ (dumpProg n) = true := by
  rw [dumpProg, List.range_eq_range', wb_rlock_range _ n 0 [] nofun,
    wb_iter_held _ _ _ fun s hs => List.mem_append_left _ (List.mem_reverse.mpr hs), List.append_nil]
  exact wb_runlock_all _ _ (List.reverse_perm _)

theorem wbRegion_of_isDumpRegion {n : Nat} {r : Region} (h : isDumpRegion n r = true) : wbRegion n r = true :=
  List.all_eq_true.mpr fun s hs => by rw [isDumpRegion_sound h (List.mem_range.mp hs)]; exact wb_dumpProg n

/-- `for _, shard := range m { op }` for an operation that acts at once and defers nothing -/
theorem eachSh_single (n : Nat) (o : LOp) (f : Nat → Sh) (ho : ∀ j, opSh n j o = some ([f j], [])) :
    ∀ (js : List Nat) (acc : List Sh × List Sh), eachSh n [o] js acc = some (acc.1 ++ js.map f, acc.2)
  | [], acc => by simp [eachSh]
  | j :: js, acc => by simp [eachSh, opsSh, ho, eachSh_single n o f ho js, List.append_assoc]

/-- read-lock every shard, marshal the whole cache, release every shard: the `Dump` shape, for every number of shards -/
theorem isDumpRegion_dump (n : Nat) : isDumpRegion n [.each [.rlock], .once [.marshalAll], .each [.runlock]] = true := by
  refine List.all_eq_true.mpr fun s _ => ?_
  simp [expandS, segsSh, eachSh_single n .rlock .rlock (fun _ => rfl), eachSh_single n .runlock .runlock (fun _ => rfl),
    opsSh, opSh, dumpShape]

/-- `for _, shard := range m { RLock; iterate; RUnlock }` expands, whatever the function's own shard, to the triples
    in shard order -/
theorem eachSh_rlock_iter_runlock (n : Nat) : ∀ (js : List Nat) (acc : List Sh × List Sh),
    eachSh n [.rlock, .iter, .runlock] js acc =
      some (acc.1 ++ js.flatMap (fun j => [.rlock j, .iter j, .runlock j]), acc.2)
  | [], acc => by simp [eachSh]
  | j :: js, acc => by
    simp [eachSh, opsSh, opSh, eachSh_rlock_iter_runlock n js, List.append_assoc]

theorem wb_triples : ∀ js : List Nat,
    wb ⟨[], []⟩ ((js.flatMap fun j => [Sh.rlock j, .iter j, .runlock j]).map (fill 0 0)) = true
  | [] => rfl
  | j :: js => by simp [fill, wb, wb_triples js]

theorem wbRegion_each_locked (n : Nat) : wbRegion n [.each [.rlock, .iter, .runlock]] = true := by
  refine List.all_eq_true.mpr fun s _ => ?_
  simp only [progOf, expandS, segsSh, eachSh_rlock_iter_runlock, Option.map_some, List.nil_append, List.append_nil]
  exact wb_triples _

end Locks
end Vflow
