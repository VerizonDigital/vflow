import Vflow.Proofs.SflowBase
import Vflow.Proofs.PacketSafe
/-!
# Steps and the loop `loopN`

A step is *good* (`Good`) when it returns a value or an error and a successful one consumes at least `k` octets.
A loop of good steps that consume 8 octets each, started with more fuel than octets, is good: it neither
panics nor runs out of fuel.
-/
namespace Vflow.Sflow
open Vflow Vflow.Packet

/-- a successful step consumes at least 8 octets (the two `uint32` words every iteration reads first) -/
def Progress {α : Type} (step : Bytes → Res (α × Bytes)) : Prop :=
  ∀ bs a r, step bs = .ok (a, r) → r.length + 8 ≤ bs.length

theorem mapFst_ok {α β : Type} {g : α → β} {x : Res (α × Bytes)} {b : β} {r : Bytes}
    (h : x.mapFst g = .ok (b, r)) : ∃ a, x = .ok (a, r) ∧ g a = b := by
  cases x with
  | ok p => cases h; exact ⟨_, rfl, rfl⟩
  | _ => cases h

theorem mapFst_mapFst {α β γ : Type} (g : α → β) (h : β → γ) (x : Res (α × Bytes)) :
    (x.mapFst g).mapFst h = x.mapFst (h ∘ g) := by
  cases x <;> rfl

/-- `x` is a value or an error, and on success the remainder is at most `bs` minus `k` octets
(`Progress step` is the second half of `∀ bs, Good (step bs) bs 8`) -/
def Good {α : Type} (x : Res (α × Bytes)) (bs : Bytes) (k : Nat) : Prop :=
  Safe x ∧ ∀ a r, x = .ok (a, r) → r.length + k ≤ bs.length

theorem good_ok {α : Type} {a : α} {r bs : Bytes} {k : Nat} (h : r.length + k ≤ bs.length) :
    Good (.ok (a, r)) bs k :=
  ⟨safe_ok _, by rintro _ _ ⟨⟩; exact h⟩

theorem good_err {α : Type} (e : Err) (bs : Bytes) (k : Nat) : Good (Res.err e : Res (α × Bytes)) bs k :=
  ⟨safe_err e, by rintro _ _ ⟨⟩⟩

theorem good_after {α : Type} {x : Res (α × Bytes)} {r bs : Bytes} {k d : Nat} (h : Good x r k)
    (hl : r.length + d ≤ bs.length) : Good x bs d :=
  ⟨h.1, fun a r' hx => by have := h.2 a r' hx; omega⟩

theorem good_mapFst {α β : Type} (f : α → β) {x : Res (α × Bytes)} {bs : Bytes} {k : Nat} (h : Good x bs k) :
    Good (x.mapFst f) bs k := by
  cases x with
  | ok p => exact good_ok (h.2 _ _ rfl)
  | err e => exact good_err ..
  | panic => exact absurd rfl h.1.1
  | fuel => exact absurd rfl h.1.2

theorem loopN_zero {α : Type} (step : Bytes → Res (α × Bytes)) (fuel : Nat) (bs : Bytes) :
    loopN step fuel 0 bs = .ok ([], bs) := by
  cases fuel <;> rfl

theorem loopN_length {α : Type} {step : Bytes → Res (α × Bytes)} (fuel n : Nat) (bs : Bytes) (as : List α)
    (r : Bytes) (h : loopN step fuel n bs = .ok (as, r)) : as.length = n := by
  fun_induction loopN step fuel n bs generalizing as r with
  | case1 => cases h; rfl
  | case3 _ _ _ _ _ _ _ _ hl ih => cases h; exact congrArg (· + 1) (ih _ _ hl)
  | _ => cases h

/-- a loop of good steps, started with more fuel than octets, is good: every step leaves less than the fuel that
is left -/
theorem loopN_good {α : Type} {step : Bytes → Res (α × Bytes)} (hg : ∀ bs, Good (step bs) bs 8)
    (n fuel : Nat) (bs : Bytes) (hf : bs.length < fuel) : Good (loopN step fuel n bs) bs (8 * n) := by
  fun_induction loopN step fuel n bs with
  | case1 => exact good_ok (Nat.le_refl _)
  | case2 => omega
  | case3 fuel n bs a r hs as r' hl ih =>
    have := (hg bs).2 a r hs
    exact good_ok (by have := (ih (by omega)).2 _ _ hl; omega)
  | case4 => exact good_err ..
  | case5 fuel n bs a r hs hl ih => exact absurd hl (ih (by have := (hg bs).2 a r hs; omega)).1.1
  | case6 fuel n bs a r hs hl ih => exact absurd hl (ih (by have := (hg bs).2 a r hs; omega)).1.2
  | case7 => exact good_err ..
  | case8 _ _ bs hs => exact absurd hs (hg bs).1.1
  | case9 _ _ bs hs => exact absurd hs (hg bs).1.2

end Vflow.Sflow
