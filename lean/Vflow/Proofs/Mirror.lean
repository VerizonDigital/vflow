import Vflow.Model.Mirror
import Vflow.Proofs.BigEndian
/-!
# The mirror worker on its reused buffers (C16)

Core Lean only: the Go primitives on a buffer written `a ++ r`, the header helpers on the
explicit octets of a worker's two header buffers, one loop iteration (`step_spec`) on the invariant `Ready` of
the reused buffers, the loop (`run_spec`) and a whole worker life (`mirrorSeq_wire`).
-/
namespace Vflow.Mirror
open Vflow

@[simp] theorem ok_bind {α β : Type} (a : α) (f : α → Res β) : (Res.ok a >>= f) = f a := rfl
@[simp] theorem ok_bind' {α β : Type} (a : α) (f : α → Res β) : (Res.ok a).bind f = f a := rfl
@[simp] theorem pure_eq {α : Type} (a : α) : (pure a : Res α) = .ok a := rfl

theorem len4 (l : Bytes) (h : l.length = 4) : ∃ a b c d, l = [a, b, c, d] := by
  match l, h with
  | [a, b, c, d], _ => exact ⟨a, b, c, d, rfl⟩

/-- `copy(buf[lo:hi], src)` where `buf = a ++ r`, `a` has `lo` octets and `src` fits between `lo` and `hi` -/
theorem copyInto_append (a r src : Bytes) (lo hi : Nat) (ha : a.length = lo) (h1 : lo + src.length ≤ hi)
    (h2 : hi ≤ lo + r.length) :
    copyInto (a ++ r) lo hi src = .ok (a ++ src ++ r.drop src.length) := by
  subst ha
  have hc : a.length ≤ hi ∧ hi ≤ (a ++ r).length := ⟨by omega, by rw [List.length_append]; exact h2⟩
  have ht : src.take (hi - a.length) = src := List.take_of_length_le (by omega)
  simp only [copyInto, if_pos hc, ht, List.take_left, List.drop_length_add_append]

/-- `buf[0:n]` where `buf = a ++ r` and `a` has `n` octets -/
theorem slice_append (a r : Bytes) (n : Nat) (ha : a.length = n) : slice (a ++ r) 0 n = .ok a := by
  subst ha
  have hc : 0 ≤ a.length ∧ a.length ≤ (a ++ r).length := ⟨by omega, by rw [List.length_append]; omega⟩
  rw [slice, if_pos hc, List.drop_zero, Nat.sub_zero, List.take_left]

theorem ipv4Tpl_val : ipv4Tpl 17 = .ok [0x45,0,0,0,0,0,0,0,64,17,0,0,0,0,0,0,0,0,0,0] := by decide

theorem udpMarshal_val (sport port : Nat) :
    udpMarshal sport port = .ok (encBE 2 (sport % 65536) ++ encBE 2 (port % 65536) ++ [0, 8, 0, 0]) := by
  simp [udpMarshal, makeBytes, putU16, encBE, udpHLen]

theorem setAddrs_bytes {t0 t1 a0 a1 a2 a3 b0 b1 b2 b3 s0 s1 s2 s3 d0 d1 d2 d3 : UInt8} (src dst : Bytes)
    (hs : to4 src = some [s0, s1, s2, s3]) (hd : to4 dst = some [d0, d1, d2, d3]) :
    setAddrs [0x45,0,t0,t1,0,0,0,0,64,17,0,0,a0,a1,a2,a3,b0,b1,b2,b3] src dst =
      .ok [0x45,0,t0,t1,0,0,0,0,64,17,0,0,s0,s1,s2,s3,d0,d1,d2,d3] := by
  rw [setAddrs, hs, hd]
  rfl

theorem setAddrs_val (s0 s1 s2 s3 d0 d1 d2 d3 : UInt8) (src dst : Bytes)
    (hs : to4 src = some [s0, s1, s2, s3]) (hd : to4 dst = some [d0, d1, d2, d3]) :
    setAddrs [0x45,0,0,0,0,0,0,0,64,17,0,0,0,0,0,0,0,0,0,0] src dst =
      .ok [0x45,0,0,0,0,0,0,0,64,17,0,0,s0,s1,s2,s3,d0,d1,d2,d3] :=
  setAddrs_bytes src dst hs hd

theorem to4_isV4 {ip a : Bytes} (h : IsV4 ip a) : to4 ip = some a := by
  obtain ⟨h4, rfl | rfl⟩ := h
  · rw [to4, if_pos h4]
  · obtain ⟨a, b, c, d, rfl⟩ := len4 a h4
    rfl

/-- the buffers of a worker that has handled any number of messages: template octets in place, ports
in place, arbitrary length fields / addresses / packet contents from earlier messages -/
def Ready (sport port m : Nat) (w : Worker) : Prop :=
  (∃ t0 t1 a0 a1 a2 a3 b0 b1 b2 b3,
    w.ipHdr = [0x45, 0, t0, t1, 0, 0, 0, 0, 64, 17, 0, 0, a0, a1, a2, a3, b0, b1, b2, b3]) ∧
  (∃ u0 u1, w.udpHdr = encBE 2 sport ++ encBE 2 port ++ [u0, u1, 0, 0]) ∧
  w.packet.length = 48 + m

theorem init_ready (sport m : Nat) (dst dst4 : Bytes) (port : Nat) (hd : IsV4 dst dst4)
    (hsp : sport < 65536) (hp : port < 65536) :
    ∃ w, Worker.init sport (m : Int) dst port = .ok w ∧ Ready sport port m w := by
  have hmk : makeBytes ((bufExtra : Nat) + (m : Int)) = .ok (List.replicate (48 + m) 0) := by
    have h : ¬ ((bufExtra : Nat) + (m : Int) < 0) := by omega
    rw [makeBytes, if_neg h]
    rfl
  refine ⟨⟨_, encBE 2 sport ++ encBE 2 port ++ [0, 8, 0, 0], List.replicate (48 + m) 0⟩, ?_,
    ⟨0, 0, 0, 0, 0, 0, 0, 0, 0, 0, rfl⟩, ⟨0, 8, rfl⟩, List.length_replicate⟩
  simp only [Worker.init, hmk, ok_bind, udpMarshal_val, to4_isV4 hd, Option.isNone_some, Bool.false_eq_true,
    ↓reduceIte, ipv4Tpl_val, udpProto, Nat.mod_eq_of_lt hsp, Nat.mod_eq_of_lt hp]

/-- `ipv4udp` with arbitrary values `tl`, `ul` in the total-length and UDP-length fields -/
def datagram (tl ul : Nat) (src4 dst4 : Bytes) (sport port : Nat) (payload : Bytes) : Bytes :=
  [0x45, 0] ++ encBE 2 tl ++ [0, 0, 0, 0] ++ [64, 17, 0, 0] ++ src4 ++ dst4 ++
  encBE 2 sport ++ encBE 2 port ++ encBE 2 ul ++ [0, 0] ++ payload

theorem ipv4udp_eq_datagram (src4 dst4 : Bytes) (sport port : Nat) (payload : Bytes) :
    ipv4udp src4 dst4 sport port payload =
      datagram (20 + 8 + payload.length) (8 + payload.length) src4 dst4 sport port payload := rfl

theorem length_datagram (tl ul : Nat) (src4 dst4 : Bytes) (sport port : Nat) (payload : Bytes)
    (hs : src4.length = 4) (hd : dst4.length = 4) :
    (datagram tl ul src4 dst4 sport port payload).length = 28 + payload.length := by
  simp only [datagram, List.length_append, hs, hd, encBE_length, List.length_cons, List.length_nil]

/-- the octets a loop iteration hands to `Send`, with the two length fields as the code computes them
(`IPv4HLen+uint16(n)` in 16 bits, `uint16(UDPHLen+n)`): for `28 + length ≤ 65535` this is `ipv4udp` -/
def wire (src4 dst4 : Bytes) (sport port : Nat) (payload : Bytes) : Bytes :=
  datagram ((ipv4HLen + (payload.length + udpHLen) % 65536) % 65536) ((udpHLen + payload.length) % 65536)
    src4 dst4 sport port payload

theorem wire_eq_ipv4udp (src4 dst4 : Bytes) (sport port : Nat) (payload : Bytes)
    (hlen : 28 + payload.length ≤ 65535) :
    wire src4 dst4 sport port payload = ipv4udp src4 dst4 sport port payload := by
  have hT : (ipv4HLen + (payload.length + udpHLen) % 65536) % 65536 = 20 + 8 + payload.length := by
    simp only [ipv4HLen, udpHLen]; omega
  have hU : (udpHLen + payload.length) % 65536 = 8 + payload.length :=
    Nat.mod_eq_of_lt (by rw [udpHLen]; omega)
  rw [wire, hT, hU]
  rfl

/-- one loop iteration on the buffers of a worker that has handled any number of messages: never a panic,
for a payload of ANY length up to `max` (beyond 65507 octets the length fields wrap, see `wire`) -/
theorem step_spec (sport port m : Nat) (w : Worker) (src dst src4 dst4 payload : Bytes)
    (hw : Ready sport port m w) (hs : IsV4 src src4) (hd : IsV4 dst dst4) (hm : payload.length ≤ m) :
    ∃ w', w.step (m : Int) dst src payload = .ok (w', wire src4 dst4 sport port payload) ∧
      Ready sport port m w' := by
  have hs4 := to4_isV4 hs
  have hd4 := to4_isV4 hd
  obtain ⟨s0, s1, s2, s3, rfl⟩ := len4 src4 hs.1
  obtain ⟨d0, d1, d2, d3, rfl⟩ := len4 dst4 hd.1
  obtain ⟨_, _, packet⟩ := w
  obtain ⟨⟨t0, t1, a0, a1, a2, a3, b0, b1, b2, b3, rfl⟩, ⟨u0, u1, rfl⟩, hpk⟩ := hw
  simp only at hpk
  generalize hH : ([0x45, 0] ++ encBE 2 ((ipv4HLen + (payload.length + udpHLen) % 65536) % 65536) ++
      [0, 0, 0, 0, 64, 17, 0, 0, s0, s1, s2, s3, d0, d1, d2, d3] : Bytes) = H
  generalize hU : (encBE 2 sport ++ encBE 2 port ++ encBE 2 ((udpHLen + payload.length) % 65536) ++ [0, 0] : Bytes) = U
  have hHl : H.length = 20 := by subst hH; rfl
  have hUl : U.length = 8 := by subst hU; rfl
  have hsl : setLen4 [0x45, 0, t0, t1, 0, 0, 0, 0, 64, 17, 0, 0, s0, s1, s2, s3, d0, d1, d2, d3]
      (payload.length + udpHLen) = .ok H := by subst hH; rfl
  have hul : udpSetLen (encBE 2 sport ++ encBE 2 port ++ [u0, u1, 0, 0]) payload.length = .ok U := by
    subst hU; rfl
  have c1 : copyInto packet 0 20 H = .ok (H ++ packet.drop 20) := by
    rw [← hHl]
    exact copyInto_append [] packet H 0 _ rfl (by omega) (by omega)
  have c2 : copyInto (H ++ packet.drop 20) 20 28 U = .ok (H ++ U ++ packet.drop 28) := by
    rw [copyInto_append H _ U 20 28 hHl (by omega) (by rw [List.length_drop]; omega), List.drop_drop, hUl]
  have hl : (H ++ U).length = 28 := by rw [List.length_append, hHl, hUl]
  have c3 : copyInto (H ++ U ++ packet.drop 28) 28 (H ++ U ++ packet.drop 28).length payload =
      .ok (H ++ U ++ payload ++ packet.drop (28 + payload.length)) := by
    rw [copyInto_append (H ++ U) _ payload 28 _ hl (by rw [List.length_append, hl, List.length_drop]; omega)
      (by rw [List.length_append, hl]; omega), List.drop_drop]
  have hb : ¬ ((m : Int) < 0 ∨ bodyCap (m : Int) payload.length < (m : Int)) := by
    unfold bodyCap
    split <;> omega
  have hout : slice (H ++ U ++ payload ++ packet.drop (28 + payload.length)) 0 (28 + payload.length) =
      .ok (H ++ U ++ payload) :=
    slice_append _ _ _ (by rw [List.length_append, hl])
  refine ⟨⟨H, U, H ++ U ++ payload ++ packet.drop (28 + payload.length)⟩, ?_, ?_⟩
  · simp only [Worker.step, ipv4HLen, Nat.reduceAdd, setAddrs_bytes src dst hs4 hd4,
      hsl, hul, c1, c2, c3, ok_bind, if_neg hb, hout]
    subst hH hU
    simp only [wire, datagram, List.append_assoc, List.cons_append, List.nil_append]
  · subst hH hU
    refine ⟨⟨_, _, s0, s1, s2, s3, d0, d1, d2, d3, rfl⟩, ⟨_, _, rfl⟩, ?_⟩
    simp only [List.length_append, List.length_drop, hHl, hUl, hpk]
    omega

theorem v4of_isV4 {ip a : Bytes} (h : IsV4 ip a) : v4of ip = a := by
  obtain ⟨h4, rfl | rfl⟩ := h
  · rw [v4of, h4]; rfl
  · obtain ⟨a, b, c, d, rfl⟩ := len4 a h4
    rfl

theorem run_spec (send : Bytes → Bool) (sport port m : Nat) (dst dst4 : Bytes) (hd : IsV4 dst dst4)
    (msgs : List (Bytes × Bytes)) (w : Worker) (hw : Ready sport port m w)
    (hv : ∀ x ∈ msgs, IsV4 x.1 (v4of x.1) ∧ x.2.length ≤ m) :
    w.run send (m : Int) dst msgs =
      .ok ((msgs.map (fun x => wire (v4of x.1) dst4 sport port x.2)).filter send) := by
  induction msgs generalizing w with
  | nil => rfl
  | cons x rest ih =>
    obtain ⟨src, payload⟩ := x
    have hx := hv (src, payload) (by simp)
    obtain ⟨w', hstep, hw'⟩ := step_spec sport port m w src dst (v4of src) dst4 payload hw hx.1 hd hx.2
    simp only [Worker.run, hstep, ok_bind, List.map_cons]
    rw [ih w' hw' (fun y hy => hv y (by simp [hy]))]
    simp only [ok_bind, List.filter_cons]

theorem mirrorSeq_wire (send : Bytes → Bool) (sport m : Nat) (dst dst4 : Bytes) (port : Nat)
    (msgs : List (Bytes × Bytes)) (hd : IsV4 dst dst4) (hsp : sport < 65536) (hp : port < 65536)
    (hv : ∀ x ∈ msgs, IsV4 x.1 (v4of x.1) ∧ x.2.length ≤ m) :
    mirrorSeq send sport (m : Int) dst port msgs =
      .ok ((msgs.map (fun x => wire (v4of x.1) dst4 sport port x.2)).filter send) := by
  obtain ⟨w, hi, hw⟩ := init_ready sport m dst dst4 port hd hsp hp
  rw [mirrorSeq, hi, ok_bind, run_spec send sport port m dst dst4 hd msgs w hw hv]

/-- two packet functions that agree wherever the kernel takes either packet give the same emissions -/
theorem filter_map_congr {α : Type} (send : Bytes → Bool) (f g : α → Bytes) (l : List α)
    (h : ∀ x ∈ l, f x = g x ∨ (send (f x) = false ∧ send (g x) = false)) :
    (l.map f).filter send = (l.map g).filter send := by
  induction l with
  | nil => rfl
  | cons a t ih =>
    have iht := ih (fun y hy => h y (by simp [hy]))
    rcases h a (by simp) with he | ⟨h1, h2⟩
    · simp only [List.map_cons, List.filter_cons, he, iht]
    · simp only [List.map_cons, List.filter_cons, h1, h2, iht]
      rfl

theorem isV4_of_to4 {ip : Bytes} (h : (to4 ip).isSome = true) : IsV4 ip (v4of ip) := by
  unfold to4 at h
  split at h
  · rename_i h4
    exact ⟨by simp [v4of, h4], .inl (by simp [v4of, h4])⟩
  · split at h
    · rename_i h16
      obtain ⟨hl, hz, hf⟩ := h16
      refine ⟨by simp [v4of, hl], .inr ?_⟩
      have e : ip = ip.take 10 ++ ((ip.drop 10).take 2 ++ ip.drop 12) := by
        have h12 : ip.drop 12 = (ip.drop 10).drop 2 := by rw [List.drop_drop]
        rw [h12, List.take_append_drop, List.take_append_drop]
      rw [hz, hf] at e
      simp only [v4of, hl, mapped]
      rw [List.append_assoc]
      exact e
    · simp at h

theorem to4_isSome_iff (ip : Bytes) : (to4 ip).isSome = true ↔ IsV4 ip (v4of ip) :=
  ⟨isV4_of_to4, fun h => by rw [to4_isV4 h]; rfl⟩

end Vflow.Mirror
