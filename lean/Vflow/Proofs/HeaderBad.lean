import Vflow.Proofs.HeaderSpec
/-!
# Sampled headers that cannot be broken down (specification side of F19a)

A sampler keeps a fixed number of octets of every frame, whatever the frame is.  The packet structs can
represent Ethernet (± one 802.1Q tag) / IPv4 | IPv6 / TCP | UDP | ICMP; every other sampled header has no
breakdown, and `packet.Decoder` must say so with an error — upon which the sFlow decoder leaves the
raw-header record out and goes on (instead of failing the datagram, which was F19a).  `ABad` lists such
headers on the abstract side — cut short at any layer, another ether type, an IP protocol without a struct,
another header protocol — and `dissect_bad` has each of them an *error* of the dissector: never a panic,
never a packet.
-/
namespace Vflow.Packet
open Vflow Vflow.Sflow

theorem oct_take (d : Bytes) (i k : Nat) (h : i < k) : oct (d.take k) i = oct d i := by
  simp only [oct, List.getD_eq_getElem?_getD, List.getElem?_take_of_lt h]

theorem take_append_ge (x y : Bytes) (k n : Nat) (hx : x.length = n) (hk : n ≤ k) :
    (x ++ y).take k = x ++ y.take (k - n) := by
  subst hx
  rw [List.take_append, List.take_of_length_le hk]

/-- octets of the transport header the structs are filled from: the fixed TCP header, the UDP header,
and for ICMP type, code, checksum and one octet more (`RestHeader` is everything after the checksum) -/
def ATrans.need : ATrans → Nat
  | .tcp .. => 20
  | .udp .. => 8
  | .icmp .. => 5

theorem decodeNext_cut (t : ATrans) (p : Nat) (x : Bytes) (hp : t.protoOK p) (hx : x.length < t.need) :
    ∃ e, decodeNext p x = .err e := by
  rw [decodeNext_eq]
  cases t with
  | tcp sp dp seq ack off res fl win cs urg =>
    cases (hp : p = 6)
    exact ⟨.tcpShort, by rw [if_neg (by decide), if_pos rfl, decodeTCP_eq, if_pos (show x.length < 20 from hx)]⟩
  | udp sp dp len cs =>
    cases (hp : p = 17)
    exact ⟨.udpShort, by rw [if_neg (by decide), if_neg (by decide), if_pos rfl, decodeUDP_eq, if_pos (show x.length < 8 from hx)]⟩
  | icmp ty code cs rest =>
    have hp : p = 1 ∨ p = 58 := hp
    exact ⟨.icmpShort, by rw [if_pos hp, decodeICMP_eq, if_pos (show x.length < 5 from hx)]⟩

/-- a protocol number without a struct: `errUnknownTransportLayer` -/
theorem decodeNext_unknown (p : Nat) (d : Bytes) (h : p ≠ 1 ∧ p ≠ 58 ∧ p ≠ 6 ∧ p ≠ 17) :
    decodeNext p d = .err .l4Unknown := by
  rw [decodeNext_eq, if_neg (by omega), if_neg h.2.2.1, if_neg h.2.2.2]

def netLen : ANet → Nat
  | .v4 _ opts => 20 + opts.length
  | .v6 _ => 40

theorem encNet_length (n : ANet) (hn : n.WF) : (encNet n).length = netLen n := by
  cases n with
  | v4 h opts => exact encIPv4_length h opts hn.1
  | v6 h => exact encIPv6_length h hn

/-- network + transport layers cut before the end of the transport header: an error — of the network
decoder when its own header (for IPv4: fixed part or options) is cut, else of the transport decoder -/
theorem dissectNet_cut (l2 : L2) (n : ANet) (t : ATrans) (payload : Bytes) (j : Nat) (hn : n.WF)
    (hp : t.protoOK n.proto) (hj : j < netLen n + t.need) :
    ∃ e, dissectNet l2 n ((encNet n ++ (encTrans t ++ payload)).take j) = .err e := by
  have hl := encNet_length n hn
  by_cases hnet : j < netLen n
  · have hlen : ((encNet n ++ (encTrans t ++ payload)).take j).length = j := by
      rw [List.length_take, List.length_append, hl]; omega
    cases n with
    | v4 h opts =>
      refine ⟨.ip4Short, ?_⟩
      simp only [encNet] at hlen
      have hcut : j < ihlOctets (oct ((encIPv4 h opts ++ (encTrans t ++ payload)).take j) 0) := by
        by_cases h20 : j < 20
        · exact Nat.lt_of_lt_of_le h20 (ihlOctets_ge _)
        · rw [oct_take _ _ _ (by omega), oct0_encIPv4 h opts _ hn.1.1 hn.2]; exact hnet
      simp only [dissectNet, dissectV4, encNet, decodeIPv4_eq, hlen, if_pos hcut, err_bind]
    | v6 h => exact ⟨.ip6Short, by simp only [dissectNet, dissectV6, decodeIPv6_eq, hlen, if_pos (show j < 40 from hnet), err_bind]⟩
  · rw [take_append_ge _ _ j _ hl (by omega), dissectNet_encNet l2 n _ hn]
    obtain ⟨e, he⟩ := decodeNext_cut t n.proto ((encTrans t ++ payload).take (j - netLen n)) hp
      (by rw [List.length_take]; omega)
    exact ⟨e, by rw [he]; rfl⟩

def ethLenE (e : AEth) : Nat :=
  match e.tag with
  | none => 14
  | some _ => 18

theorem encEthL_length (e : AEth) (et : Nat) (he : e.WF) : (encEthL e et).length = ethLenE e := by
  obtain ⟨dst, src, tag⟩ := e
  obtain ⟨hd, hs, _⟩ := he
  simp only at hd hs
  cases tag with
  | none => simp [encEthL, encEth, ethLenE, hd, hs]
  | some pv => simp [encEthL, encEthVlan, ethLenE, hd, hs]

/-- the first 14 … 17 octets of a tagged frame: the ethertype is there and says 0x8100, the tag is not -/
theorem decodeEthernet_tag_cut {dst src : Bytes} (hd : dst.length = 6) (hs : src.length = 6) (l : Bytes) (k : Nat)
    (ht : oct l 0 * 256 + oct l 1 = 0x8100) (h14 : 14 ≤ k) (h18 : k < 18) :
    decodeEthernet ((dst ++ (src ++ l)).take k) = .err .ethShort := by
  rw [take_append_ge _ _ k 6 hd (by omega), take_append_ge _ _ (k - 6) 6 hs (by omega), decodeEthernet_mac hd hs]
  split
  · rfl
  · rw [oct_take _ _ _ (by omega), oct_take _ _ _ (by omega), if_pos ht,
      if_pos (Nat.lt_of_le_of_lt (List.length_take_le _ _) (by omega))]

/-- an Ethernet header cut inside the addresses, the ether type or the 802.1Q tag: `errShortEthernetHeaderLength` -/
theorem decodeEthernet_cut (e : AEth) (et : Nat) (x : Bytes) (k : Nat) (he : e.WF) (hk : k < ethLenE e) :
    decodeEthernet ((encEthL e et ++ x).take k) = .err .ethShort := by
  by_cases h14 : k < 14
  · rw [decodeEthernet_eq, if_pos (by rw [List.length_take]; omega)]
  · obtain ⟨dst, src, tag⟩ := e
    cases tag with
    | none => simp only [ethLenE] at hk; omega
    | some pv =>
      simp only [encEthL, encEthVlan, List.append_assoc, List.cons_append]
      exact decodeEthernet_tag_cut he.1 he.2.1 _ k (oct_tag _) (by omega) hk

/-- what `decodeEthernet` makes of a second 802.1Q tag behind the first (QinQ): the frame is untagged
once, the ether type it then sees is 0x8100 again -/
theorem decodeEthernet_qinq (dst src : Bytes) (tci : Nat) (rest : Bytes) (hd : dst.length = 6) (hs : src.length = 6) :
    ∃ l2 r, decodeEthernet (encEthVlan dst src tci 0x8100 ++ rest) = .ok (l2, r) ∧ l2.etherType = 0x8100 := by
  have hform : encEthVlan dst src tci 0x8100 ++ rest =
      dst ++ (src ++ (b8 0x81 :: b8 0x00 :: b8 (tci / 256) :: b8 (tci % 256) :: b8 0x81 :: b8 0x00 :: rest)) := by
    simp only [encEthVlan, List.append_assoc, List.cons_append, List.nil_append]
  rw [hform, decodeEthernet_mac hd hs, if_neg (by simp), if_pos (oct_tag _), if_neg (by simp)]
  refine ⟨_, _, rfl, ?_⟩
  show (l2At (dst ++ (src ++ (b8 0x81 :: b8 0x00 :: rest)))).etherType = 0x8100
  rw [l2At_etherType, oct_mac hd hs _ 0, oct_mac hd hs _ 1]
  exact oct_tag rest

def needLen (h : AHeader) : Nat :=
  (match h.eth with
   | some e => ethLenE e
   | none => 0) + netLen h.net + h.trans.need

theorem dissect_cut (h : AHeader) (payload : Bytes) (k : Nat) (hwf : wfHeader h) (hk : k < needLen h) :
    ∃ e, dissect ((encodeHeader h ++ payload).take k) (protoOf h) = .err e := by
  obtain ⟨eth, net, trans⟩ := h
  obtain ⟨he, hn, _, hp⟩ := hwf
  rw [protoOf_layers]
  simp only [encodeHeader, List.append_assoc]
  cases eth with
  | none =>
    rw [List.nil_append, dissect_noEth]
    exact dissectNet_cut {} net trans payload k hn hp (by simpa only [needLen, Nat.zero_add] using hk)
  | some e =>
    simp only at he
    simp only [needLen] at hk
    by_cases hke : k < ethLenE e
    · exact ⟨.ethShort, by simp only [protoOfLayers, dissect, if_true, dissectEth, decodeEthernet_cut e _ _ k he hke, err_bind]⟩
    · rw [take_append_ge _ _ k _ (encEthL_length e _ he) (by omega), show protoOfLayers (some e) net = 1 from rfl,
        dissect_eth e net _ he]
      exact dissectNet_cut _ net trans payload _ hn hp (by omega)

/-- **an Ethernet frame that is not IP**: any ether type other than 0x0800 / 0x86DD — behind an 802.1Q tag
also 0x8100 (a second tag: QinQ) — is `errUnknownEtherType`, whatever follows -/
theorem dissect_etherType (e : AEth) (et : Nat) (rest : Bytes) (he : e.WF) (h1 : et < 65536)
    (h2 : et ≠ 0x0800) (h3 : et ≠ 0x86DD) (h4 : e.tag = none → et ≠ 0x8100) :
    dissect (encEthL e et ++ rest) 1 = .err .etherType := by
  by_cases h81 : et = 0x8100
  · obtain ⟨dst, src, tag⟩ := e
    cases tag with
    | none => exact absurd h81 (h4 rfl)
    | some pv =>
      subst h81
      obtain ⟨l2, r, hdec, het⟩ := decodeEthernet_qinq dst src (pv.1 * 4096 + pv.2) rest he.1 he.2.1
      simp only [dissect, if_true, dissectEth, encEthL, hdec, ok_bind, het,
        show ¬ ((0x8100 : Nat) = 0x0800) by decide, show ¬ ((0x8100 : Nat) = 0x86DD) by decide, if_false]
  · simp only [dissect, if_true, dissectEth, decodeEthernet_encL e et rest he h1 h81, ok_bind,
      show (expEth e et).etherType = et from rfl, h2, h3, if_false]

/-- the Ethernet and network layers of a header, whatever follows them -/
def encLayers (eth : Option AEth) (n : ANet) : Bytes :=
  (match eth with
   | some e => encEthL e n.etherType
   | none => []) ++ encNet n

/-- **an IP protocol without a struct**: a well-formed Ethernet (or none) and IPv4 / IPv6 header whose
protocol / first next-header field is not TCP, UDP, ICMP or ICMPv6 — GRE, ESP, OSPF, SCTP, an IPv6
extension header, … — is `errUnknownTransportLayer`, whatever follows -/
theorem dissect_ipProto (eth : Option AEth) (n : ANet) (rest : Bytes)
    (he : match eth with | some e => e.WF | none => True) (hn : n.WF)
    (hp : n.proto ≠ 1 ∧ n.proto ≠ 58 ∧ n.proto ≠ 6 ∧ n.proto ≠ 17) :
    dissect (encLayers eth n ++ rest) (protoOfLayers eth n) = .err .l4Unknown := by
  have hnet (l2 : L2) : dissectNet l2 n (encNet n ++ rest) = .err .l4Unknown := by
    rw [dissectNet_encNet l2 n _ hn, decodeNext_unknown _ _ hp]; rfl
  simp only [encLayers, List.append_assoc]
  cases eth with
  | none => rw [List.nil_append, dissect_noEth, hnet]
  | some e => rw [show protoOfLayers (some e) n = 1 from rfl, dissect_eth e n _ he, hnet]

/-- **another sFlow header protocol** (token ring, FDDI, PPP, MPLS, …): `errUnknownHeaderProtocol` -/
theorem dissect_hdrProto (proto : Nat) (octets : Bytes) (h : proto ≠ 1 ∧ proto ≠ 11 ∧ proto ≠ 12) :
    dissect octets proto = .err .hdrProto := by
  simp only [dissect, if_neg h.1, if_neg h.2.1, if_neg h.2.2]

inductive ABad where
  /-- the first `k` octets of a well-formed header followed by `payload`, `k < needLen h` -/
  | cut (h : AHeader) (payload : Bytes) (k : Nat)
  /-- an Ethernet frame (± 802.1Q tag) of an ether type other than IPv4 / IPv6 -/
  | etherType (e : AEth) (et : Nat) (rest : Bytes)
  /-- (Ethernet ±tag) + IPv4 / IPv6 carrying a protocol other than TCP / UDP / ICMP / ICMPv6 -/
  | ipProto (eth : Option AEth) (n : ANet) (rest : Bytes)
  /-- any octets under an sFlow header protocol other than 1 / 11 / 12 -/
  | hdrProto (proto : Nat) (octets : Bytes)

def ABad.proto : ABad → Nat
  | .cut h _ _ => protoOf h
  | .etherType _ _ _ => 1
  | .ipProto eth n _ => protoOfLayers eth n
  | .hdrProto p _ => p

def ABad.octets : ABad → Bytes
  | .cut h payload k => (encodeHeader h ++ payload).take k
  | .etherType e et rest => encEthL e et ++ rest
  | .ipProto eth n rest => encLayers eth n ++ rest
  | .hdrProto _ o => o

def ABad.WF : ABad → Prop
  | .cut h _ k => wfHeader h ∧ k < needLen h
  | .etherType e et _ => e.WF ∧ et < 65536 ∧ et ≠ 0x0800 ∧ et ≠ 0x86DD ∧ (e.tag = none → et ≠ 0x8100)
  | .ipProto eth n _ => (match eth with | some e => e.WF | none => True) ∧ n.WF ∧
      n.proto ≠ 1 ∧ n.proto ≠ 58 ∧ n.proto ≠ 6 ∧ n.proto ≠ 17
  | .hdrProto p _ => p ≠ 1 ∧ p ≠ 11 ∧ p ≠ 12

theorem dissect_bad (b : ABad) (hwf : b.WF) : ∃ e, dissect b.octets b.proto = .err e := by
  cases b with
  | cut h payload k => exact dissect_cut h payload k hwf.1 hwf.2
  | etherType e et rest =>
    obtain ⟨he, h1, h2, h3, h4⟩ := hwf
    exact ⟨_, dissect_etherType e et rest he h1 h2 h3 h4⟩
  | ipProto eth n rest =>
    obtain ⟨he, hn, hp⟩ := hwf
    exact ⟨_, dissect_ipProto eth n rest he hn hp⟩
  | hdrProto p o => exact ⟨_, dissect_hdrProto p o hwf⟩

theorem protoOfLayers_lt (eth : Option AEth) (n : ANet) : protoOfLayers eth n < 256 ^ 4 := by
  cases eth <;> cases n <;> simp [protoOfLayers]

end Vflow.Packet
