import Vflow.Proofs.IpfixIR
/-!
# The translated `unmarshal` functions of `ipfix/decoder.go` are the model's readers

The header functions are chains of reads into fields.  `TemplateRecord.unmarshal` / `unmarshalOpts` are `Ipfix.parseTpl`
/ `parseOptTpl`: count-down loops over the field count, each an instance of `specLoop` (a successful specifier read
consumes at least 4 octets, so `fuel` = octets left + 1 suffices).
-/
namespace Vflow.IpfixIR
open Vflow

/-! ## the `unmarshal` functions -/

theorem fieldSpecUnmarshal_sem (addr : Bytes) (fuel : Nat) (r : Rd) (c : Cache) (s0 : Spec) :
    SpecOut (Ipfix.readSpec r) c (IpfixProg.fieldSpecUnmarshal addr fuel [.spec s0] ⟨r, c⟩) := by
  rw [IpfixProg.fieldSpecUnmarshal, Func.sem_eq rfl rfl, Ipfix.readSpec]
  unfold SpecOut
  rcases h1 : r.rU16 with _ | ⟨id, r1⟩
  · exact ⟨{ s0 with id := 0 }, by ir_simp [Gen.IpfixIR.fieldSpecUnmarshal, h1]⟩
  · simp only []
    rcases h2 : r1.rU16 with _ | ⟨len, r2⟩
    · exact ⟨{ s0 with id := id, len := 0 }, by ir_simp [Gen.IpfixIR.fieldSpecUnmarshal, h1, h2]⟩
    · simp only []
      have hband : id &&& 32767 = id % 32768 := Nat.and_two_pow_sub_one_eq_mod id 15
      by_cases hid : id > 0x8000
      · simp only [hid, if_true]
        rcases h3 : r2.rU32 with _ | ⟨ent, r3⟩
        · exact ⟨⟨id % 0x8000, len, 0⟩, by ir_simp [Gen.IpfixIR.fieldSpecUnmarshal, h1, h2, h3, hid, hband]⟩
        · ir_simp [Gen.IpfixIR.fieldSpecUnmarshal, h1, h2, h3, hid, hband]
      · simp only [hid, if_false]
        ir_simp [Gen.IpfixIR.fieldSpecUnmarshal, h1, h2, hid]

theorem tplHeaderUnmarshal_sem (addr : Bytes) (fuel : Nat) (r : Rd) (c : Cache) (a b sc : Nat) :
    IpfixProg.tplHeaderUnmarshal addr fuel [.thdr a b sc] ⟨r, c⟩ =
      match r.rU16 with
      | none => some (⟨r, c⟩, [.thdr 0 b sc], [errReader])
      | some (tid, r1) =>
        match r1.rU16 with
        | none => some (⟨r1, c⟩, [.thdr tid 0 sc], [errReader])
        | some (n, r2) => some (⟨r2, c⟩, [.thdr tid n sc], [.nil]) := by
  rw [IpfixProg.tplHeaderUnmarshal, Func.sem_eq rfl rfl]
  rcases h1 : r.rU16 with _ | ⟨tid, r1⟩
  · ir_simp [Gen.IpfixIR.tplHeaderUnmarshal, h1]
  · rcases h2 : r1.rU16 with _ | ⟨n, r2⟩ <;> ir_simp [Gen.IpfixIR.tplHeaderUnmarshal, h1, h2]

theorem tplHeaderUnmarshalOpts_sem (addr : Bytes) (fuel : Nat) (r : Rd) (c : Cache) (a b sc : Nat) :
    IpfixProg.tplHeaderUnmarshalOpts addr fuel [.thdr a b sc] ⟨r, c⟩ =
      match r.rU16 with
      | none => some (⟨r, c⟩, [.thdr 0 b sc], [errReader])
      | some (tid, r1) =>
        match r1.rU16 with
        | none => some (⟨r1, c⟩, [.thdr tid 0 sc], [errReader])
        | some (n, r2) =>
          match r2.rU16 with
          | none => some (⟨r2, c⟩, [.thdr tid n 0], [errReader])
          | some (m, r3) => some (⟨r3, c⟩, [.thdr tid n m], [.nil]) := by
  rw [IpfixProg.tplHeaderUnmarshalOpts, Func.sem_eq rfl rfl]
  rcases h1 : r.rU16 with _ | ⟨tid, r1⟩
  · ir_simp [Gen.IpfixIR.tplHeaderUnmarshalOpts, h1]
  · rcases h2 : r1.rU16 with _ | ⟨n, r2⟩
    · ir_simp [Gen.IpfixIR.tplHeaderUnmarshalOpts, h1, h2]
    · rcases h3 : r2.rU16 with _ | ⟨m, r3⟩ <;> ir_simp [Gen.IpfixIR.tplHeaderUnmarshalOpts, h1, h2, h3]

theorem setHeaderUnmarshal_sem (addr : Bytes) (fuel : Nat) (r : Rd) (c : Cache) (a b : Nat) :
    IpfixProg.setHeaderUnmarshal addr fuel [.shdr a b] ⟨r, c⟩ =
      match r.rU16 with
      | none => some (⟨r, c⟩, [.shdr 0 b], [errReader])
      | some (sid, r1) =>
        match r1.rU16 with
        | none => some (⟨r1, c⟩, [.shdr sid 0], [errReader])
        | some (len, r2) => some (⟨r2, c⟩, [.shdr sid len], [.nil]) := by
  rw [IpfixProg.setHeaderUnmarshal, Func.sem_eq rfl rfl]
  rcases h1 : r.rU16 with _ | ⟨tid, r1⟩
  · ir_simp [Gen.IpfixIR.setHeaderUnmarshal, h1]
  · rcases h2 : r1.rU16 with _ | ⟨n, r2⟩ <;> ir_simp [Gen.IpfixIR.setHeaderUnmarshal, h1, h2]

theorem msgHeaderUnmarshal_sem (addr : Bytes) (fuel : Nat) (r : Rd) (c : Cache) (h0 : MHdr) :
    match Ipfix.readHeader r with
    | some (h, r') => ∃ h1 : MHdr, h1.toHdr = h ∧
        IpfixProg.msgHeaderUnmarshal addr fuel [.mhdr h0] ⟨r, c⟩ = some (⟨r', c⟩, [.mhdr h1], [.nil])
    | none => ∃ r' h1, IpfixProg.msgHeaderUnmarshal addr fuel [.mhdr h0] ⟨r, c⟩ = some (⟨r', c⟩, [.mhdr h1], [errReader]) := by
  rw [IpfixProg.msgHeaderUnmarshal, Func.sem_eq rfl rfl, Ipfix.readHeader]
  rcases h1 : r.rU16 with _ | ⟨ver, r1⟩
  · exact ⟨r, { h0 with ver := 0 }, by ir_simp [Gen.IpfixIR.msgHeaderUnmarshal, h1]⟩
  · simp only []
    rcases h2 : r1.rU16 with _ | ⟨len, r2⟩
    · exact ⟨r1, { h0 with ver := ver, len := 0 }, by ir_simp [Gen.IpfixIR.msgHeaderUnmarshal, h1, h2]⟩
    · simp only []
      rcases h3 : r2.rU32 with _ | ⟨et, r3⟩
      · exact ⟨r2, { h0 with ver := ver, len := len, et := 0 }, by ir_simp [Gen.IpfixIR.msgHeaderUnmarshal, h1, h2, h3]⟩
      · simp only []
        rcases h4 : r3.rU32 with _ | ⟨sq, r4⟩
        · exact ⟨r3, { h0 with ver := ver, len := len, et := et, sq := 0 }, by ir_simp [Gen.IpfixIR.msgHeaderUnmarshal, h1, h2, h3, h4]⟩
        · simp only []
          rcases h5 : r4.rU32 with _ | ⟨dom, r5⟩
          · exact ⟨r4, ⟨ver, len, et, sq, 0⟩, by ir_simp [Gen.IpfixIR.msgHeaderUnmarshal, h1, h2, h3, h4, h5]⟩
          · exact ⟨⟨ver, len, et, sq, dom⟩, rfl, by ir_simp [Gen.IpfixIR.msgHeaderUnmarshal, h1, h2, h3, h4, h5]⟩

theorem msgHeaderValidate_sem (addr : Bytes) (fuel : Nat) (st : St) (h : MHdr) :
    IpfixProg.msgHeaderValidate addr fuel [.mhdr h] st =
      some (st, [.mhdr h], [if h.toHdr.headD 0 ≠ 10 then .err ⟨false, .badVersion⟩ else .nil]) := by
  rw [IpfixProg.msgHeaderValidate, Func.sem_eq rfl rfl]
  by_cases hv : h.ver = 10 <;> ir_simp [Gen.IpfixIR.msgHeaderValidate, hv, MHdr.toHdr, List.headD_cons]

/-! ### `TemplateRecord.unmarshal` -/

def tru (i : Nat) : Stmt := Gen.IpfixIR.tplRecordUnmarshal.body.nth i
theorem tru_body : Gen.IpfixIR.tplRecordUnmarshal.body =
    blk (tru 0 :: tru 1 :: tru 2 :: [tru 3, tru 4, tru 5] ++ tru 6 :: [tru 7]) := rfl
theorem tru6_shape : tru 6 = .loop (tru 6).loopCond (tru 6).loopBody (tru 6).loopPost := rfl

theorem readSpec_lt {r r' : Rd} {s : Spec} (h : Ipfix.readSpec r = (.ok s, r')) : r'.rem.length < r.rem.length :=
  (Ipfix.readSpec_adv h).1.rem_lt (Nat.ne_of_gt (Nat.lt_of_lt_of_le (Nat.lt_add_of_pos_right (by decide)) ((Ipfix.readSpec_adv h).2 s rfl)))

section
variable (addr : Bytes) (fuel : Nat) (c : Cache)

abbrev truLink : Linkage :=
  [("tplHeaderUnmarshal", IpfixProg.tplHeaderUnmarshal addr fuel), ("fieldSpecUnmarshal", IpfixProg.fieldSpecUnmarshal addr fuel)]

/-- the locals of `unmarshal` in its loop: `tr`, `th`, `tf`, the header `err`, `i`, the loop's `err` -/
def truEnv (tid cnt : Nat) (th e3 : V) (acc : List Spec) (tf : Spec) (i : Nat) (e : V) : Env :=
  [.tpl ⟨tid, cnt, 0, [], acc⟩, th, .spec tf, e3, .int i, e]

theorem tru6_body (tid cnt : Nat) (th e3 : V) (r : Rd) (acc : List Spec) (tf : Spec) (i : Nat) (e : V) :
    SpecStepOut c (fun s => truEnv tid cnt th e3 (acc ++ [s]) s i .nil) (Ipfix.readSpec r)
      (exec addr (truLink addr fuel) fuel (tru 6).loopBody ⟨r, c⟩ (truEnv tid cnt th e3 acc tf i e)) := by
  have hs := fieldSpecUnmarshal_sem addr fuel r c tf
  rcases hrs : Ipfix.readSpec r with ⟨e' | s, r'⟩ <;> simp only [hrs, SpecOut, SpecStepOut] at hs ⊢
  · obtain ⟨s', hs⟩ := hs
    refine ⟨⟨tid, cnt, 0, [], acc⟩, [th, .spec s', e3, .int i, .err ⟨false, e'⟩], ?_⟩
    ir_simp [truEnv, tru, Gen.IpfixIR.tplRecordUnmarshal, hs]
  · ir_simp [truEnv, tru, Gen.IpfixIR.tplRecordUnmarshal, hs]
end

theorem tplRecordUnmarshal_sem (addr : Bytes) (fuel : Nat) (r : Rd) (c : Cache) (hfuel : r.rem.length < fuel) :
    TplOut (Ipfix.parseTpl r) c (IpfixProg.tplRecordUnmarshal addr fuel [.tpl Ipfix.emptyTpl] ⟨r, c⟩) := by
  rw [Ipfix.parseTpl]
  unfold TplOut
  have hh := tplHeaderUnmarshal_sem addr fuel r c 0 0 0
  have herr : ∀ (r' : Rd) (th' : V), IpfixProg.tplHeaderUnmarshal addr fuel [.thdr 0 0 0] ⟨r, c⟩ = some (⟨r', c⟩, [th'], [errReader]) →
      IpfixProg.tplRecordUnmarshal addr fuel [.tpl Ipfix.emptyTpl] ⟨r, c⟩ = some (⟨r', c⟩, [.tpl Ipfix.emptyTpl], [errReader]) := by
    intro r' th' hh
    rw [IpfixProg.tplRecordUnmarshal, Func.sem_eq rfl rfl]
    ir_simp [Gen.IpfixIR.tplRecordUnmarshal, hh, Ipfix.emptyTpl]
  rcases h1 : r.rU16 with _ | ⟨tid, r1⟩ <;> simp only [h1] at hh ⊢
  · exact ⟨_, herr _ _ hh⟩
  rcases h2 : r1.rU16 with _ | ⟨n, r2⟩ <;> simp only [h2] at hh ⊢
  · exact ⟨_, herr _ _ hh⟩
  rw [IpfixProg.tplRecordUnmarshal, Func.sem_eq (env0 := .tpl Ipfix.emptyTpl :: List.replicate 5 .unset) rfl rfl, tru_body]
  have pre : exec addr (truLink addr fuel) fuel (blk (tru 0 :: tru 1 :: tru 2 :: [tru 3, tru 4, tru 5])) ⟨r, c⟩
      (.tpl Ipfix.emptyTpl :: List.replicate 5 .unset) =
      some (.norm, ⟨r2, c⟩, truEnv tid n (.thdr tid n 0) .nil [] ⟨0, 0, 0⟩ n .unset) := by
    ir_simp [truEnv, tru, Gen.IpfixIR.tplRecordUnmarshal, hh, Ipfix.emptyTpl]
  have hr2 : r2.rem.length < fuel := Nat.lt_of_le_of_lt ((adv_rU16 h1).1.trans (adv_rU16 h2).1).rem_le hfuel
  have hl := specLoop (P := fun _ => True) (read := Ipfix.readSpec) (reads := Ipfix.readSpecs)
    (truEnv tid n (.thdr tid n 0) .nil) (fun _ _ => rfl) (fun _ _ _ => rfl) (fun h => ⟨readSpec_lt h, trivial⟩)
    (cond := fun st env => eval addr st env (tru 6).loopCond) (post := exec addr (truLink addr fuel) fuel (tru 6).loopPost)
    (by intros; ir_simp [truEnv, tru, Gen.IpfixIR.tplRecordUnmarshal])
    (by intro _ _ _ i _ hi; ir_simp [truEnv, tru, Gen.IpfixIR.tplRecordUnmarshal, subAt_u16_pred i hi])
    (fun r acc tf i e _ => tru6_body addr fuel c tid n (.thdr tid n 0) .nil r acc tf i e)
    n fuel r2 [] ⟨0, 0, 0⟩ .unset trivial (rU16_lt h2) hr2
  rw [exec_blk_append_norm _ pre, exec_blk_cons, tru6_shape, exec_loop]
  rcases hrs : Ipfix.readSpecs n r2 [] with ⟨e | fs, r3⟩ <;> simp only [hrs, SpecsOut] at hl ⊢
  · obtain ⟨t', rest, hl⟩ := hl
    exact ⟨t', by ir_simp [hl, Gen.IpfixIR.tplRecordUnmarshal]⟩
  · obtain ⟨tf', e', _, hl⟩ := hl
    simp only [hl]
    ir_simp [truEnv, tru, Gen.IpfixIR.tplRecordUnmarshal]

/-! ### `TemplateRecord.unmarshalOpts` -/

def truo (i : Nat) : Stmt := Gen.IpfixIR.tplRecordUnmarshalOpts.body.nth i
theorem truo_body : Gen.IpfixIR.tplRecordUnmarshalOpts.body =
    blk (truo 0 :: truo 1 :: truo 2 :: [truo 3, truo 4, truo 5, truo 6] ++ truo 7 :: truo 8 :: truo 9 :: [truo 10]) := rfl
theorem truo7_shape : truo 7 = .loop (truo 7).loopCond (truo 7).loopBody (truo 7).loopPost := rfl
theorem truo9_shape : truo 9 = .loop (truo 9).loopCond (truo 9).loopBody (truo 9).loopPost := rfl

section
variable (addr : Bytes) (fuel : Nat) (c : Cache)

abbrev truoLink : Linkage :=
  [("tplHeaderUnmarshalOpts", IpfixProg.tplHeaderUnmarshalOpts addr fuel), ("fieldSpecUnmarshal", IpfixProg.fieldSpecUnmarshal addr fuel)]

/-- the locals of `unmarshalOpts` in its scope loop: `tr`, `th`, `tf`, the header `err`, the loop's `i` and `err`, and the
two slots `x` of the field loop -/
def truoEnv7 (tid cnt scnt : Nat) (th e3 : V) (x : V × V) (acc : List Spec) (tf : Spec) (i : Nat) (e : V) : Env :=
  [.tpl ⟨tid, cnt, scnt, acc, []⟩, th, .spec tf, e3, .int i, e, x.1, x.2]

/-- the locals of `unmarshalOpts` in its field loop (`x`: the two slots of the scope loop) -/
def truoEnv9 (tid cnt scnt : Nat) (scope : List Spec) (th e3 : V) (x : V × V) (acc : List Spec) (tf : Spec) (i : Nat) (e : V) :
    Env :=
  [.tpl ⟨tid, cnt, scnt, scope, acc⟩, th, .spec tf, e3, x.1, x.2, .int i, e]

theorem truo7_body (tid cnt scnt : Nat) (th e3 : V) (x : V × V) (r : Rd) (acc : List Spec) (tf : Spec) (i : Nat) (e : V) :
    SpecStepOut c (fun s => truoEnv7 tid cnt scnt th e3 x (acc ++ [s]) s i .nil) (Ipfix.readSpec r)
      (exec addr (truoLink addr fuel) fuel (truo 7).loopBody ⟨r, c⟩ (truoEnv7 tid cnt scnt th e3 x acc tf i e)) := by
  have hs := fieldSpecUnmarshal_sem addr fuel r c tf
  rcases hrs : Ipfix.readSpec r with ⟨e' | s, r'⟩ <;> simp only [hrs, SpecOut, SpecStepOut] at hs ⊢
  · obtain ⟨s', hs⟩ := hs
    refine ⟨⟨tid, cnt, scnt, acc, []⟩, [th, .spec s', e3, .int i, .err ⟨false, e'⟩, x.1, x.2], ?_⟩
    ir_simp [truoEnv7, truo, Gen.IpfixIR.tplRecordUnmarshalOpts, hs]
  · ir_simp [truoEnv7, truo, Gen.IpfixIR.tplRecordUnmarshalOpts, hs]

theorem truo9_body (tid cnt scnt : Nat) (scope : List Spec) (th e3 : V) (x : V × V) (r : Rd) (acc : List Spec) (tf : Spec)
    (i : Nat) (e : V) :
    SpecStepOut c (fun s => truoEnv9 tid cnt scnt scope th e3 x (acc ++ [s]) s i .nil) (Ipfix.readSpec r)
      (exec addr (truoLink addr fuel) fuel (truo 9).loopBody ⟨r, c⟩ (truoEnv9 tid cnt scnt scope th e3 x acc tf i e)) := by
  have hs := fieldSpecUnmarshal_sem addr fuel r c tf
  rcases hrs : Ipfix.readSpec r with ⟨e' | s, r'⟩ <;> simp only [hrs, SpecOut, SpecStepOut] at hs ⊢
  · obtain ⟨s', hs⟩ := hs
    refine ⟨⟨tid, cnt, scnt, scope, acc⟩, [th, .spec s', e3, x.1, x.2, .int i, .err ⟨false, e'⟩], ?_⟩
    ir_simp [truoEnv9, truo, Gen.IpfixIR.tplRecordUnmarshalOpts, hs]
  · ir_simp [truoEnv9, truo, Gen.IpfixIR.tplRecordUnmarshalOpts, hs]
end

theorem tplRecordUnmarshalOpts_sem (addr : Bytes) (fuel : Nat) (r : Rd) (c : Cache) (hfuel : r.rem.length < fuel) :
    TplOut (Ipfix.parseOptTpl r) c (IpfixProg.tplRecordUnmarshalOpts addr fuel [.tpl Ipfix.emptyTpl] ⟨r, c⟩) := by
  rw [Ipfix.parseOptTpl]
  unfold TplOut
  have hh := tplHeaderUnmarshalOpts_sem addr fuel r c 0 0 0
  have herr : ∀ (r' : Rd) (th' : V), IpfixProg.tplHeaderUnmarshalOpts addr fuel [.thdr 0 0 0] ⟨r, c⟩ = some (⟨r', c⟩, [th'], [errReader]) →
      IpfixProg.tplRecordUnmarshalOpts addr fuel [.tpl Ipfix.emptyTpl] ⟨r, c⟩ = some (⟨r', c⟩, [.tpl Ipfix.emptyTpl], [errReader]) := by
    intro r' th' hh
    rw [IpfixProg.tplRecordUnmarshalOpts, Func.sem_eq rfl rfl]
    ir_simp [Gen.IpfixIR.tplRecordUnmarshalOpts, hh, Ipfix.emptyTpl]
  rcases h1 : r.rU16 with _ | ⟨tid, r1⟩ <;> simp only [h1] at hh ⊢
  · exact ⟨_, herr _ _ hh⟩
  rcases h2 : r1.rU16 with _ | ⟨n, r2⟩ <;> simp only [h2] at hh ⊢
  · exact ⟨_, herr _ _ hh⟩
  rcases h3 : r2.rU16 with _ | ⟨sc, r3⟩ <;> simp only [h3] at hh ⊢
  · exact ⟨_, herr _ _ hh⟩
  rw [IpfixProg.tplRecordUnmarshalOpts, Func.sem_eq (env0 := .tpl Ipfix.emptyTpl :: List.replicate 7 .unset) rfl rfl, truo_body]
  -- the number of field specifiers, a 16-bit difference that wraps, gets a name: no step may try to compute with it
  obtain ⟨k, hk⟩ : ∃ k, (n + 65536 - sc) % 65536 = k := ⟨_, rfl⟩
  have hk16 : k < 65536 := by rw [← hk]; exact Nat.mod_lt _ (by decide)
  rw [hk]
  have pre : exec addr (truoLink addr fuel) fuel (blk (truo 0 :: truo 1 :: truo 2 :: [truo 3, truo 4, truo 5, truo 6]))
      ⟨r, c⟩ (.tpl Ipfix.emptyTpl :: List.replicate 7 .unset) =
      some (.norm, ⟨r3, c⟩, truoEnv7 tid n sc (.thdr tid n sc) .nil (.unset, .unset) [] ⟨0, 0, 0⟩ sc .unset) := by
    ir_simp [truoEnv7, truo, Gen.IpfixIR.tplRecordUnmarshalOpts, hh, Ipfix.emptyTpl]
  have hr3 : r3.rem.length < fuel :=
    Nat.lt_of_le_of_lt (((adv_rU16 h1).1.trans (adv_rU16 h2).1).trans (adv_rU16 h3).1).rem_le hfuel
  have hl := specLoop (P := fun _ => True) (read := Ipfix.readSpec) (reads := Ipfix.readSpecs)
    (truoEnv7 tid n sc (.thdr tid n sc) .nil (.unset, .unset)) (fun _ _ => rfl) (fun _ _ _ => rfl) (fun h => ⟨readSpec_lt h, trivial⟩)
    (cond := fun st env => eval addr st env (truo 7).loopCond) (post := exec addr (truoLink addr fuel) fuel (truo 7).loopPost)
    (by intros; ir_simp [truoEnv7, truo, Gen.IpfixIR.tplRecordUnmarshalOpts])
    (by intro _ _ _ i _ hi; ir_simp [truoEnv7, truo, Gen.IpfixIR.tplRecordUnmarshalOpts, subAt_u16_pred i hi])
    (fun r acc tf i e _ => truo7_body addr fuel c tid n sc (.thdr tid n sc) .nil (.unset, .unset) r acc tf i e)
    sc fuel r3 [] ⟨0, 0, 0⟩ .unset trivial (rU16_lt h3) hr3
  rw [exec_blk_append_norm _ pre, exec_blk_cons, truo7_shape, exec_loop]
  rcases hrs : Ipfix.readSpecs sc r3 [] with ⟨e | scs, r4⟩ <;> simp only [hrs, SpecsOut] at hl ⊢
  · obtain ⟨t', rest, hl⟩ := hl
    exact ⟨t', by ir_simp [hl, Gen.IpfixIR.tplRecordUnmarshalOpts]⟩
  obtain ⟨tf', e', _, hl⟩ := hl
  have hr4 : r4.rem.length < fuel := Nat.lt_of_le_of_lt (Ipfix.readSpecs_adv sc r3 [] _ _ hrs).1.rem_le hr3
  have e8 : exec addr (truoLink addr fuel) fuel (truo 8) ⟨r4, c⟩ (truoEnv7 tid n sc (.thdr tid n sc) .nil (.unset, .unset) scs tf' 0 e') =
      some (.norm, ⟨r4, c⟩, truoEnv9 tid n sc scs (.thdr tid n sc) .nil (.int 0, e') [] tf' k .unset) := by
    ir_simp [truoEnv7, truoEnv9, truo, Gen.IpfixIR.tplRecordUnmarshalOpts, subAt_u16_lt n sc (rU16_lt h3), hk]
  have hl2 := specLoop (P := fun _ => True) (read := Ipfix.readSpec) (reads := Ipfix.readSpecs)
    (truoEnv9 tid n sc scs (.thdr tid n sc) .nil (.int 0, e')) (fun _ _ => rfl) (fun _ _ _ => rfl) (fun h => ⟨readSpec_lt h, trivial⟩)
    (cond := fun st env => eval addr st env (truo 9).loopCond) (post := exec addr (truoLink addr fuel) fuel (truo 9).loopPost)
    (by intros; ir_simp [truoEnv9, truo, Gen.IpfixIR.tplRecordUnmarshalOpts])
    (by intro _ _ _ i _ hi; ir_simp [truoEnv9, truo, Gen.IpfixIR.tplRecordUnmarshalOpts, subAt_u16_pred i hi])
    (fun r acc tf i e _ => truo9_body addr fuel c tid n sc scs (.thdr tid n sc) .nil (.int 0, e') r acc tf i e)
    k fuel r4 [] tf' .unset trivial hk16 hr4
  simp only [hl]
  rw [exec_blk_cons_norm _ e8, exec_blk_cons, truo9_shape, exec_loop]
  rcases hrs2 : Ipfix.readSpecs k r4 [] with ⟨e | fs, r5⟩ <;> simp only [hrs2, SpecsOut] at hl2 ⊢
  · obtain ⟨t', rest, hl2⟩ := hl2
    exact ⟨t', by ir_simp [hl2, Gen.IpfixIR.tplRecordUnmarshalOpts]⟩
  · obtain ⟨tf'', e'', _, hl2⟩ := hl2
    simp only [hl2]
    ir_simp [truoEnv9, truo, Gen.IpfixIR.tplRecordUnmarshalOpts]

end Vflow.IpfixIR
