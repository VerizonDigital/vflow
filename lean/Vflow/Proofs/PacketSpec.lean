import Vflow.Proofs.PacketSafe
/-!
# Specification-side encoders of the sampled packet headers (RFC field positions) and the
field-extraction theorems of the dissector

An encoder lays a header out as a list of octets `b8 n`; the dissector reads `oct d i` (closed forms of
`Proofs/PacketSafe`).  Three facts about octets carry every layer: a value below 256 survives `b8`
(`b8_toNat`), two octets give back a 16-bit value (`b8_be16`), an octet packed from two bit fields gives
back both (`b8_pack`).
-/
namespace Vflow.Packet
open Vflow Vflow.Sflow

def b8 (n : Nat) : UInt8 := UInt8.ofNat n

theorem b8_toNat (n : Nat) (h : n < 256) : (b8 n).toNat = n := UInt8.toNat_ofNat_of_lt' h

theorem b8_be16 (n : Nat) (h : n < 65536) : (b8 (n / 256)).toNat * 256 + (b8 (n % 256)).toNat = n := by
  rw [b8_toNat _ (Nat.div_lt_of_lt_mul h), b8_toNat _ (Nat.mod_lt _ (by decide)), Nat.div_add_mod']

/-- the octet `a * k + b`: `a < m` in the high bits over `b < k`, `m * k = 256` -/
theorem b8_pack (a b k m : Nat) (hk : m * k = 256) (ha : a < m) (hb : b < k) :
    (b8 (a * k + b)).toNat = a * k + b ∧ (a * k + b) / k = a ∧ (a * k + b) % k = b := by
  have hk0 : 0 < k := Nat.pos_of_ne_zero (by rintro rfl; simp at hk)
  refine ⟨b8_toNat _ ?_, ?_, ?_⟩
  · calc a * k + b < a * k + k := Nat.add_lt_add_left hb _
      _ = (a + 1) * k := (Nat.succ_mul a k).symm
      _ ≤ m * k := Nat.mul_le_mul_right k ha
      _ = 256 := hk
  · rw [Nat.add_comm, Nat.add_mul_div_right _ _ hk0, Nat.div_eq_of_lt hb, Nat.zero_add]
  · rw [Nat.add_comm, Nat.add_mul_mod_self_right, Nat.mod_eq_of_lt hb]

@[simp] theorem oct_cons_zero (a : UInt8) (l : Bytes) : oct (a :: l) 0 = a.toNat := rfl
@[simp] theorem oct_cons_succ (a : UInt8) (l : Bytes) (n : Nat) : oct (a :: l) (n + 1) = oct l n := by
  simp only [oct, List.getD_cons_succ]

theorem oct_append_right (x y : Bytes) (i n : Nat) (h : x.length = n) : oct (x ++ y) (n + i) = oct y i := by
  subst h
  simp only [oct, List.getD_eq_getElem?_getD]
  rw [List.getElem?_append_right (by omega)]
  simp

/-- RFC 791: version and header length (IHL, in 32-bit words: 5 for the fixed part plus the options),
type of service, total length, identification, flags / fragment offset, time to live, protocol, header
checksum, source and destination address, then the options (already padded to a multiple of four
octets, as the header length field can only express that) -/
def encIPv4 (h : IPv4Hdr) (opts : Bytes) : Bytes :=
  [b8 (h.version * 16 + (5 + opts.length / 4)), b8 h.tos, b8 (h.totalLen / 256), b8 (h.totalLen % 256),
   b8 (h.id / 256), b8 (h.id % 256),
   b8 (h.flags * 32 + h.fragOff / 256), b8 (h.fragOff % 256), b8 h.ttl, b8 h.protocol,
   b8 (h.checksum / 256), b8 (h.checksum % 256)] ++ (h.src ++ (h.dst ++ opts))

def IPv4Hdr.WF (h : IPv4Hdr) : Prop :=
  h.version < 16 ∧ h.tos < 256 ∧ h.totalLen < 65536 ∧ h.id < 65536 ∧ h.flags < 8 ∧ h.fragOff < 8192 ∧
  h.ttl < 256 ∧ h.protocol < 256 ∧ h.checksum < 65536 ∧ h.src.length = 4 ∧ h.dst.length = 4

/-- IPv4 options as the header length field can announce them: a whole number of 32-bit words, at most
ten (IHL 5 … 15); the content is arbitrary -/
def OptsWF (opts : Bytes) : Prop := opts.length % 4 = 0 ∧ opts.length ≤ 40

theorem ihlOctets_enc (v n : Nat) (h1 : n % 4 = 0) (h2 : n ≤ 40) :
    ihlOctets (v * 16 + (5 + n / 4)) = 20 + n := by
  unfold ihlOctets
  rw [Nat.add_comm, Nat.add_mul_mod_self_right, Nat.mod_eq_of_lt (by omega)]
  split <;> omega

theorem encIPv4_length (h : IPv4Hdr) (opts : Bytes) (hwf : h.WF) :
    (encIPv4 h opts).length = 20 + opts.length := by
  simp only [encIPv4, List.length_append, List.length_cons, List.length_nil, hwf.2.2.2.2.2.2.2.2.2.1,
    hwf.2.2.2.2.2.2.2.2.2.2]
  omega

theorem oct0_encIPv4 (h : IPv4Hdr) (opts rest : Bytes) (hv : h.version < 16) (ho : OptsWF opts) :
    ihlOctets (oct (encIPv4 h opts ++ rest) 0) = 20 + opts.length := by
  have h0 : oct (encIPv4 h opts ++ rest) 0 = h.version * 16 + (5 + opts.length / 4) :=
    (b8_pack h.version _ 16 16 rfl hv (by have := ho.2; omega)).1
  rw [h0, ihlOctets_enc _ _ ho.1 ho.2]

theorem decodeIPv4_enc (h : IPv4Hdr) (opts rest : Bytes) (hwf : h.WF) (ho : OptsWF opts) :
    decodeIPv4 (encIPv4 h opts ++ rest) = .ok (h, rest) := by
  have hl := encIPv4_length h opts hwf
  obtain ⟨h1, h2, h3, h4, h5, h6, h7, h8, h9, h10, h11⟩ := hwf
  rw [decodeIPv4_eq, oct0_encIPv4 h opts rest h1 ho, if_neg (by rw [List.length_append, hl]; omega),
    List.drop_left' hl]
  obtain ⟨v0, v1, -⟩ := b8_pack h.version (5 + opts.length / 4) 16 16 rfl h1 (by have := ho.2; omega)
  obtain ⟨f0, f1, f2⟩ := b8_pack h.flags (h.fragOff / 256) 32 8 rfl h5 (Nat.div_lt_of_lt_mul h6)
  obtain ⟨version, tos, totalLen, id, flags, fragOff, ttl, protocol, checksum, src, dst⟩ := h
  simp only at h1 h2 h3 h4 h5 h6 h7 h8 h9 h10 h11 v0 v1 f0 f1 f2
  simp only [encIPv4, ipv4At, List.cons_append, List.nil_append, oct_cons_succ, oct_cons_zero,
    List.drop_succ_cons, List.drop_zero, List.append_assoc, List.take_left' h10, List.drop_left' h10,
    List.take_left' h11]
  simp (disch := assumption) only [b8_toNat, b8_be16]
  rw [v0, v1, f0, f1, f2, b8_toNat _ (Nat.mod_lt _ (by decide)), Nat.div_add_mod']

/-- RFC 8200 -/
def encIPv6 (h : IPv6Hdr) : Bytes :=
  [b8 (h.version * 16 + h.trafficClass / 16), b8 ((h.trafficClass % 16) * 16 + h.flowLabel / 65536),
   b8 (h.flowLabel / 256 % 256), b8 (h.flowLabel % 256), b8 (h.payloadLen / 256), b8 (h.payloadLen % 256),
   b8 h.nextHeader, b8 h.hopLimit] ++ (h.src ++ h.dst)

def IPv6Hdr.WF (h : IPv6Hdr) : Prop :=
  h.version < 16 ∧ h.trafficClass < 256 ∧ h.flowLabel < 1048576 ∧ h.payloadLen < 65536 ∧ h.nextHeader < 256 ∧
  h.hopLimit < 256 ∧ h.src.length = 16 ∧ h.dst.length = 16

theorem encIPv6_length (h : IPv6Hdr) (hwf : h.WF) : (encIPv6 h).length = 40 := by
  simp only [encIPv6, List.length_append, List.length_cons, List.length_nil, hwf.2.2.2.2.2.2.1,
    hwf.2.2.2.2.2.2.2]

theorem decodeIPv6_enc (h : IPv6Hdr) (rest : Bytes) (hwf : h.WF) :
    decodeIPv6 (encIPv6 h ++ rest) = .ok (h, rest) := by
  have hl := encIPv6_length h hwf
  obtain ⟨h1, h2, h3, h4, h5, h6, h7, h8⟩ := hwf
  rw [decodeIPv6_eq, if_neg (by rw [List.length_append, hl]; omega), List.drop_left' hl]
  obtain ⟨v0, v1, v2⟩ := b8_pack h.version (h.trafficClass / 16) 16 16 rfl h1 (Nat.div_lt_of_lt_mul h2)
  obtain ⟨t0, t1, t2⟩ := b8_pack (h.trafficClass % 16) (h.flowLabel / 65536) 16 16 rfl
    (Nat.mod_lt _ (by decide)) (Nat.div_lt_of_lt_mul h3)
  obtain ⟨version, tc, fl, pl, nh, hop, src, dst⟩ := h
  simp only at h1 h2 h3 h4 h5 h6 h7 h8 v0 v1 v2 t0 t1 t2
  simp only [encIPv6, ipv6At, List.cons_append, List.nil_append, oct_cons_succ, oct_cons_zero,
    List.drop_succ_cons, List.drop_zero, List.append_assoc, List.take_left' h7, List.drop_left' h7,
    List.take_left' h8]
  simp (disch := assumption) only [b8_toNat, b8_be16]
  rw [v0, v1, v2, t0, t1, t2, Nat.div_add_mod', b8_toNat _ (Nat.mod_lt _ (by decide)),
    b8_toNat _ (Nat.mod_lt _ (by decide))]
  have hfl : fl / 65536 * 65536 + fl / 256 % 256 * 256 + fl % 256 = fl := by omega
  rw [hfl]

/-- RFC 793 / RFC 3540: ports, sequence and acknowledgement numbers, then in octets 12 and 13 the data offset
(4 bits), the reserved bits `res` (3 bits) and the nine flag bits `fl` (NS | CWR ECE URG ACK PSH RST SYN FIN),
window, checksum, urgent pointer -/
def encTCP (sp dp seq ack off res fl win cs urg : Nat) : Bytes :=
  [b8 (sp / 256), b8 (sp % 256), b8 (dp / 256), b8 (dp % 256),
   b8 (seq / 16777216 % 256), b8 (seq / 65536 % 256), b8 (seq / 256 % 256), b8 (seq % 256),
   b8 (ack / 16777216 % 256), b8 (ack / 65536 % 256), b8 (ack / 256 % 256), b8 (ack % 256),
   b8 (off * 16 + res * 2 + fl / 256), b8 (fl % 256), b8 (win / 256 % 256), b8 (win % 256),
   b8 (cs / 256 % 256), b8 (cs % 256), b8 (urg / 256 % 256), b8 (urg % 256)]

theorem decodeTCP_enc (sp dp seq ack off res fl win cs urg : Nat) (rest : Bytes)
    (hwf : sp < 65536 ∧ dp < 65536 ∧ off < 16 ∧ res < 8 ∧ fl < 512) :
    decodeTCP (encTCP sp dp seq ack off res fl win cs urg ++ rest) = .ok (.tcp sp dp off res fl) := by
  obtain ⟨h1, h2, h3, h3', h4⟩ := hwf
  rw [decodeTCP_eq, if_neg (by simp [encTCP])]
  simp only [encTCP, List.cons_append, List.nil_append, oct_cons_succ, oct_cons_zero]
  simp (disch := assumption) only [b8_be16]
  rw [b8_toNat (off * 16 + res * 2 + fl / 256) (by omega), b8_toNat _ (Nat.mod_lt _ (by decide))]
  simp only [Res.ok.injEq, L4.tcp.injEq, true_and]
  omega

/-- RFC 768 -/
def encUDP (sp dp len cs : Nat) : Bytes :=
  [b8 (sp / 256), b8 (sp % 256), b8 (dp / 256), b8 (dp % 256), b8 (len / 256 % 256), b8 (len % 256),
   b8 (cs / 256 % 256), b8 (cs % 256)]

theorem decodeUDP_enc (sp dp len cs : Nat) (rest : Bytes) (hwf : sp < 65536 ∧ dp < 65536) :
    decodeUDP (encUDP sp dp len cs ++ rest) = .ok (.udp sp dp) := by
  rw [decodeUDP_eq, if_neg (by simp [encUDP])]
  simp only [encUDP, List.cons_append, List.nil_append, oct_cons_succ, oct_cons_zero]
  rw [b8_be16 sp hwf.1, b8_be16 dp hwf.2]

/-- RFC 792: type, code, checksum; then the rest of the header -/
def encICMP (ty code cs : Nat) : Bytes := [b8 ty, b8 code, b8 (cs / 256 % 256), b8 (cs % 256)]

theorem decodeICMP_enc (ty code cs : Nat) (rest : Bytes) (hwf : ty < 256 ∧ code < 256) (hr : 1 ≤ rest.length) :
    decodeICMP (encICMP ty code cs ++ rest) = .ok (.icmp ty code rest) := by
  rw [decodeICMP_eq, if_neg (by simp [encICMP]; omega)]
  simp only [encICMP, List.cons_append, List.nil_append, oct_cons_succ, oct_cons_zero, List.drop_succ_cons,
    List.drop_zero]
  rw [b8_toNat ty hwf.1, b8_toNat code hwf.2]

/-! ## Ethernet

A frame is `dst ++ (src ++ l)` with two addresses of six octets; what the dissector makes of it depends on
`l` alone (`decodeEthernet_mac`). -/

/-- IEEE 802.3: destination, source, ethertype -/
def encEth (dst src : Bytes) (et : Nat) : Bytes := dst ++ (src ++ [b8 (et / 256), b8 (et % 256)])

/-- IEEE 802.1Q: destination, source, 0x8100, tag control information, inner ethertype -/
def encEthVlan (dst src : Bytes) (tci et : Nat) : Bytes :=
  dst ++ (src ++ [b8 0x81, b8 0x00, b8 (tci / 256), b8 (tci % 256), b8 (et / 256), b8 (et % 256)])

section mac
variable {dst src : Bytes} (hd : dst.length = 6) (hs : src.length = 6) (l : Bytes)
include hd hs

theorem oct_mac (i : Nat) : oct (dst ++ (src ++ l)) (12 + i) = oct l i := by
  rw [show 12 + i = 6 + (6 + i) by omega, oct_append_right _ _ _ _ hd, oct_append_right _ _ _ _ hs]

theorem drop_mac (i : Nat) : (dst ++ (src ++ l)).drop (12 + i) = l.drop i := by
  rw [← List.append_assoc, ← List.drop_drop, List.drop_left' (by rw [List.length_append, hd, hs])]

theorem l2At_mac (h : oct l 0 * 256 + oct l 1 ≠ 0x8100) :
    l2At (dst ++ (src ++ l)) = ⟨src, dst, 0, oct l 0 * 256 + oct l 1⟩ := by
  have o12 := oct_mac hd hs l 0
  have o13 := oct_mac hd hs l 1
  unfold l2At
  rw [o12, o13, if_pos h, List.take_left' hd, List.drop_left' hd, List.take_left' hs]

theorem untag_mac : untag (dst ++ (src ++ l)) = dst ++ (src ++ l.drop 4) := by
  have h12 : (dst ++ src).length = 12 := by rw [List.length_append, hd, hs]
  have h6 : l.drop 6 = (l.drop 4).drop 2 := by rw [List.drop_drop]
  unfold untag
  rw [List.drop_zero, Nat.sub_zero, drop_mac hd hs l 4, drop_mac hd hs l 6, ← List.append_assoc dst,
    List.take_left' h12, List.append_assoc (dst ++ src), h6, List.take_append_drop, List.append_assoc]

theorem decodeEthernet_mac :
    decodeEthernet (dst ++ (src ++ l)) =
      if l.length < 2 then .err .ethShort
      else if oct l 0 * 256 + oct l 1 = 0x8100 then
        if l.length < 6 then .err .ethShort
        else .ok ({ l2At (dst ++ (src ++ l.drop 4)) with vlan := (oct l 2 * 256 + oct l 3) % 4096 }, l.drop 6)
      else .ok (⟨src, dst, 0, oct l 0 * 256 + oct l 1⟩, l.drop 2) := by
  have hlen : (dst ++ (src ++ l)).length = 12 + l.length := by
    simp only [List.length_append, hd, hs]; omega
  rw [decodeEthernet_eq, decodeVlan_eq, hlen, oct_mac hd hs l 0, oct_mac hd hs l 1, oct_mac hd hs l 2,
    oct_mac hd hs l 3, untag_mac hd hs, drop_mac hd hs l 2, drop_mac hd hs (l.drop 4) 2, List.drop_drop]
  by_cases h2 : l.length < 2
  · rw [if_pos h2, if_pos (by omega)]
  · rw [if_neg h2, if_neg (by omega)]
    by_cases ht : oct l 0 * 256 + oct l 1 = 0x8100
    · rw [if_pos ht, if_pos ht]
      by_cases h6 : l.length < 6
      · rw [if_pos h6, if_pos (by omega)]
      · rw [if_neg h6, if_neg (by omega)]
    · rw [if_neg ht, if_neg ht, l2At_mac hd hs l ht]

end mac

theorem oct_tag (l : Bytes) : oct (b8 0x81 :: b8 0x00 :: l) 0 * 256 + oct (b8 0x81 :: b8 0x00 :: l) 1 = 0x8100 := by
  rw [oct_cons_zero, oct_cons_succ, oct_cons_zero]; decide

theorem decodeEthernet_enc (dst src : Bytes) (et : Nat) (rest : Bytes)
    (hwf : dst.length = 6 ∧ src.length = 6 ∧ et < 65536 ∧ et ≠ 0x8100) :
    decodeEthernet (encEth dst src et ++ rest) = .ok (⟨src, dst, 0, et⟩, rest) := by
  obtain ⟨hd, hs, he, hne⟩ := hwf
  have hform : encEth dst src et ++ rest = dst ++ (src ++ (b8 (et / 256) :: b8 (et % 256) :: rest)) := by
    simp only [encEth, List.append_assoc, List.cons_append, List.nil_append]
  rw [hform, decodeEthernet_mac hd hs, if_neg (by simp)]
  simp only [oct_cons_zero, oct_cons_succ, b8_be16 et he, if_neg hne, List.drop_succ_cons, List.drop_zero]

theorem decodeEthernet_vlan_enc (dst src : Bytes) (tci et : Nat) (rest : Bytes)
    (hwf : dst.length = 6 ∧ src.length = 6 ∧ tci < 65536 ∧ et < 65536 ∧ et ≠ 0x8100) :
    decodeEthernet (encEthVlan dst src tci et ++ rest) = .ok (⟨src, dst, tci % 4096, et⟩, rest) := by
  obtain ⟨hd, hs, ht, he, hne⟩ := hwf
  have hform : encEthVlan dst src tci et ++ rest =
      dst ++ (src ++ (b8 0x81 :: b8 0x00 :: b8 (tci / 256) :: b8 (tci % 256) :: b8 (et / 256) :: b8 (et % 256) :: rest)) := by
    simp only [encEthVlan, List.append_assoc, List.cons_append, List.nil_append]
  have hinner : oct (b8 (et / 256) :: b8 (et % 256) :: rest) 0 * 256 + oct (b8 (et / 256) :: b8 (et % 256) :: rest) 1 = et :=
    b8_be16 et he
  rw [hform, decodeEthernet_mac hd hs, if_neg (by simp), if_pos (oct_tag _)]
  simp only [oct_cons_zero, oct_cons_succ, b8_be16 tci ht, List.drop_succ_cons, List.drop_zero]
  rw [if_neg (by simp), l2At_mac hd hs _ (by rw [hinner]; exact hne), hinner]

end Vflow.Packet
