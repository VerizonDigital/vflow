import Vflow.Model.SaramaLoop
/-!
# The kafka send loop that retries until accepted (C14, F20)

`runK_retrying`: what a run of `Producer.runK` offers, counts and logs, for every loop description that
`retriesUntilAccepted`, every arm script and every message list.
-/
namespace Vflow
namespace Producer

theorem inputArms_cons_input (sc : List Arm) : inputArms (.input :: sc) = inputArms sc + 1 := by
  simp [inputArms]

theorem inputArms_cons_error (sc : List Arm) : inputArms (.error :: sc) = inputArms sc := by
  simp [inputArms]

theorem errorArms_cons_input (sc : List Arm) : errorArms (.input :: sc) = errorArms sc := by
  simp [errorArms]

theorem errorArms_cons_error (sc : List Arm) : errorArms (.error :: sc) = errorArms sc + 1 := by
  simp [errorArms]

theorem runK_retrying {α : Type} (lp : KLoop) (h : lp.retriesUntilAccepted) :
    ∀ (sc : List Arm) (ms : List α),
      (runK lp sc ms).offered = ms.take (inputArms sc) ∧
      (runK lp sc ms).stuck = false ∧
      (runK lp sc ms).steps ≤ sc.length ∧
      (runK lp sc ms).ec = errorArms (sc.take (runK lp sc ms).steps) ∧
      (runK lp sc ms).logged = errorArms (sc.take (runK lp sc ms).steps) ∧
      (inputArms (sc.take (runK lp sc ms).steps) = min ms.length (inputArms sc)) := by
  obtain ⟨⟨bi, hi, hi1, hi2⟩, ⟨be, he, he1, he2⟩⟩ := h
  intro sc
  induction sc with
  | nil => intro ms; simp [runK, inputArms, errorArms]
  | cons a sc ih =>
    intro ms
    cases ms with
    | nil => simp [runK, inputArms, errorArms]
    | cons m ms =>
      cases a with
      | input =>
        obtain ⟨h1, h2, h3, h4, h5, h6⟩ := ih ms
        simp only [runK, hi, hi1, hi2, if_true, inputArms_cons_input, List.take_succ_cons,
          List.singleton_append, List.length_cons, errorArms_cons_input, Nat.zero_add]
        refine ⟨by rw [h1], h2, by omega, h4, h5, ?_⟩
        rw [h6]; omega
      | error =>
        obtain ⟨h1, h2, h3, h4, h5, h6⟩ := ih (m :: ms)
        simp only [runK, he, he1, he2, inputArms_cons_error, List.take_succ_cons,
          List.length_cons, errorArms_cons_error]
        refine ⟨by simpa using h1, h2, by omega, by rw [h4]; omega, by rw [h5]; omega, ?_⟩
        simpa using h6

end Producer
end Vflow
