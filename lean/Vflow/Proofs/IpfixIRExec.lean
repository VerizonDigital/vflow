import Vflow.Model.IpfixIR
import Vflow.Proofs.RdLemmas
import Vflow.Proofs.BigEndian
import Vflow.Proofs.OuterLoop
import Vflow.Proofs.IpfixIRAttr
/-!
# Running the interpreter of `Model/IpfixIR.lean` inside a proof

Straight-line code of a translated function is executed by `simp` with the rules collected under the attribute `ir`
(the tactic `ir_simp`).  The rules for `exec` / `eval` are applied *before* the statement they speak of is looked at
(`↓`), so only the branch that is taken is ever visited.  What the rules do not decide — the outcome of a read, a
comparison of symbolic numbers — is given to `ir_simp` as hypotheses.  A longer body is run in parts named by position
(`Stmt.nth`, `Stmt.loopBody`, …, never copied): a fact per part, put together by the `exec_blk_*` lemmas; each loop shape
of the two decoders has one induction here.
-/
namespace Vflow.IpfixIR
open Vflow
attribute [local irreducible] Vflow.lookupElem

/-! ## reader calls in the `Nat`-indexed forms of the model -/

theorem readN_beN_lt {r r' : Rd} {n : Nat} {b : Bytes} (h : r.readN n = some (b, r')) : beN b < 256 ^ n := by
  obtain ⟨h1, rfl, _⟩ := readN_some h
  have := beN_lt (r.rem.take n)
  rwa [List.length_take, Nat.min_eq_left h1] at this

theorem readNum_lt {r r' : Rd} {k v : Nat} (h : (r.readN k).map (fun (b, r') => (beN b, r')) = some (v, r')) :
    v < 256 ^ k := by
  simp only [Option.map_eq_some_iff] at h
  obtain ⟨⟨b, r1⟩, h1, h2⟩ := h
  cases h2
  exact readN_beN_lt h1

theorem rU8_lt {r r' : Rd} {v : Nat} (h : r.rU8 = some (v, r')) : v < 256 := readNum_lt h
theorem rU16_lt {r r' : Rd} {v : Nat} (h : r.rU16 = some (v, r')) : v < 65536 := readNum_lt h
theorem rU32_lt {r r' : Rd} {v : Nat} (h : r.rU32 = some (v, r')) : v < 4294967296 := readNum_lt h

section
variable (st : St)

@[ir] theorem builtin_rdU8 : builtin .rdU8 [] st =
    match st.r.rU8 with
    | some (v, r') => some ({ st with r := r' }, [], [.int v, .nil])
    | none => some (st, [], [.int 0, errReader]) := by
  unfold builtin Rd.step Rd.take? Rd.rU8 Rd.readN Rd.adv
  by_cases h : st.r.rem.length < 1 <;> simp [h, rdResult]

@[ir] theorem builtin_rdU16 : builtin .rdU16 [] st =
    match st.r.rU16 with
    | some (v, r') => some ({ st with r := r' }, [], [.int v, .nil])
    | none => some (st, [], [.int 0, errReader]) := by
  unfold builtin Rd.step Rd.take? Rd.rU16 Rd.readN Rd.adv
  by_cases h : st.r.rem.length < 2 <;> simp [h, rdResult]

@[ir] theorem builtin_rdU32 : builtin .rdU32 [] st =
    match st.r.rU32 with
    | some (v, r') => some ({ st with r := r' }, [], [.int v, .nil])
    | none => some (st, [], [.int 0, errReader]) := by
  unfold builtin Rd.step Rd.take? Rd.rU32 Rd.readN Rd.adv
  by_cases h : st.r.rem.length < 4 <;> simp [h, rdResult]

@[ir] theorem builtin_rdPeekU16 : builtin .rdPeekU16 [] st =
    match st.r.peek16 with
    | some v => some (st, [], [.int v, .nil])
    | none => some (st, [], [.int 0, errReader]) := by
  unfold builtin Rd.step Rd.take? Rd.peek16 Rd.readN
  by_cases h : st.r.rem.length < 2 <;> simp [h, rdResult]

@[ir] theorem builtin_rdRead (n : Nat) : builtin .rdRead [.int n] st =
    match st.r.readN n with
    | some (b, r') => some ({ st with r := r' }, [], [.bytes b, .nil])
    | none => some (st, [], [.bytes [], errReader]) := by
  unfold builtin Rd.step Rd.take? Rd.readN Rd.adv
  have h0 : ¬ ((n : Int) < 0) := by omega
  by_cases h : st.r.rem.length < n <;> simp [h, h0, rdResult]

@[ir] theorem builtin_insert (st : St) (id : Nat) (a : Bytes) (t : Template) :
    builtin .insert [.int id, .bytes a, .tpl t] st = some ({ st with cache := st.cache.insert a id t }, [], []) := rfl

@[ir] theorem builtin_retrieve (st : St) (id : Nat) (a : Bytes) :
    builtin .retrieve [.int id, .bytes a] st =
      match st.cache.lookup a id with
      | some t => some (st, [], [.tpl t, .bool true])
      | none => some (st, [], [.tpl ⟨0, 0, 0, [], []⟩, .bool false]) := rfl

@[ir] theorem builtin_infoModel (st : St) (ent id : Nat) : builtin .infoModel [.int ent, .int id] st =
    match lookupElem ent id with
    | some (fid, ty) => some (st, [], [.elem fid ty, .bool true])
    | none => some (st, [], [.elem 0 0, .bool false]) := rfl
end

/-! ## `-` at the Go types -/

theorem subAt_u16_pred (i : Nat) (hi : i + 1 < 65536) : subAt .u16 (i + 1) 1 = some i := by
  simp only [subAt, Option.some.injEq]
  omega

theorem subAt_u16_lt (a b : Nat) (hb : b < 65536) : subAt .u16 a b = some ((a + 65536 - b) % 65536) := by
  simp only [subAt, Nat.mod_eq_of_lt hb]

theorem subV_int (a b : Nat) (h : b ≤ a) : subV .int a b = some (.int (a - b)) := by
  simp only [subV, h, if_true]

@[simp] theorem subV_u16 (a b : Nat) : subV .u16 a b = (subAt .u16 a b).map .int := rfl
@[simp] theorem subV_u8 (a b : Nat) : subV .u8 a b = (subAt .u8 a b).map .int := rfl
@[simp] theorem subV_u32 (a b : Nat) : subV .u32 a b = (subAt .u32 a b).map .int := rfl
attribute [ir] subV_u16 subV_u8 subV_u32

/-! ## field selection -/

section fields
attribute [local simp] fieldOf setField
variable (s : Spec) (t : Template) (h : MHdr) (p : PHdr) (a : Bytes) (rs : List Record)
  (tid cnt scnt olen oslen id len fid ty n : Nat) (l : List Spec)
@[ir] theorem f_spec_id : fieldOf (.spec s) "ElementID" = some (.int s.id) := by simp
@[ir] theorem f_spec_len : fieldOf (.spec s) "Length" = some (.int s.len) := by simp
@[ir] theorem f_spec_ent : fieldOf (.spec s) "EnterpriseNo" = some (.int s.ent) := by simp
@[ir] theorem f_thdr_tid : fieldOf (.thdr tid cnt scnt) "TemplateID" = some (.int tid) := by simp
@[ir] theorem f_thdr_cnt : fieldOf (.thdr tid cnt scnt) "FieldCount" = some (.int cnt) := by simp
@[ir] theorem f_thdr_scnt : fieldOf (.thdr tid cnt scnt) "ScopeFieldCount" = some (.int scnt) := by simp
@[ir] theorem f_tpl_tid : fieldOf (.tpl t) "TemplateID" = some (.int t.tid) := by simp
@[ir] theorem f_tpl_cnt : fieldOf (.tpl t) "FieldCount" = some (.int t.cnt) := by simp
@[ir] theorem f_tpl_scnt : fieldOf (.tpl t) "ScopeFieldCount" = some (.int t.scnt) := by simp
@[ir] theorem f_tpl_fields : fieldOf (.tpl t) "FieldSpecifiers" = some (.specs t.fields) := by simp
@[ir] theorem f_tpl_scope : fieldOf (.tpl t) "ScopeFieldSpecifiers" = some (.specs t.scope) := by simp
@[ir] theorem f_shdr_id : fieldOf (.shdr id len) "SetID" = some (.int id) := by simp
@[ir] theorem f_shdr_fid : fieldOf (.shdr id len) "FlowSetID" = some (.int id) := by simp
@[ir] theorem f_shdr_len : fieldOf (.shdr id len) "Length" = some (.int len) := by simp
@[ir] theorem f_elem_fid : fieldOf (.elem fid ty) "FieldID" = some (.int fid) := by simp
@[ir] theorem f_elem_ty : fieldOf (.elem fid ty) "Type" = some (.int ty) := by simp
@[ir] theorem f_mhdr_ver : fieldOf (.mhdr h) "Version" = some (.int h.ver) := by simp
@[ir] theorem f_mhdr_len : fieldOf (.mhdr h) "Length" = some (.int h.len) := by simp
@[ir] theorem f_mhdr_et : fieldOf (.mhdr h) "ExportTime" = some (.int h.et) := by simp
@[ir] theorem f_mhdr_sq : fieldOf (.mhdr h) "SequenceNo" = some (.int h.sq) := by simp
@[ir] theorem f_mhdr_dom : fieldOf (.mhdr h) "DomainID" = some (.int h.dom) := by simp
@[ir] theorem f_msg_agent : fieldOf (.msg a h rs) "AgentID" = some (.bytes a) := by simp
@[ir] theorem f_msg_hdr : fieldOf (.msg a h rs) "Header" = some (.mhdr h) := by simp
@[ir] theorem f_msg_sets : fieldOf (.msg a h rs) "DataSets" = some (.dsets rs) := by simp
@[ir] theorem f_thdr9_tid : fieldOf (.thdr9 tid cnt olen oslen) "TemplateID" = some (.int tid) := by simp
@[ir] theorem f_thdr9_cnt : fieldOf (.thdr9 tid cnt olen oslen) "FieldCount" = some (.int cnt) := by simp
@[ir] theorem f_thdr9_olen : fieldOf (.thdr9 tid cnt olen oslen) "OptionLen" = some (.int olen) := by simp
@[ir] theorem f_thdr9_oslen : fieldOf (.thdr9 tid cnt olen oslen) "OptionScopeLen" = some (.int oslen) := by simp
@[ir] theorem f_phdr_ver : fieldOf (.phdr p) "Version" = some (.int p.ver) := by simp
@[ir] theorem f_phdr_cnt : fieldOf (.phdr p) "Count" = some (.int p.cnt) := by simp
@[ir] theorem f_phdr_up : fieldOf (.phdr p) "SysUpTime" = some (.int p.up) := by simp
@[ir] theorem f_phdr_secs : fieldOf (.phdr p) "UNIXSecs" = some (.int p.secs) := by simp
@[ir] theorem f_phdr_sq : fieldOf (.phdr p) "SeqNum" = some (.int p.sq) := by simp
@[ir] theorem f_phdr_src : fieldOf (.phdr p) "SrcID" = some (.int p.src) := by simp
@[ir] theorem f_msg9_agent : fieldOf (.msg9 a p rs) "AgentID" = some (.bytes a) := by simp
@[ir] theorem f_msg9_hdr : fieldOf (.msg9 a p rs) "Header" = some (.phdr p) := by simp
@[ir] theorem f_msg9_sets : fieldOf (.msg9 a p rs) "DataSets" = some (.dsets rs) := by simp

@[ir] theorem sf_spec_id : setField (.spec s) "ElementID" (.int n) = some (.spec { s with id := n }) := by simp
@[ir] theorem sf_spec_len : setField (.spec s) "Length" (.int n) = some (.spec { s with len := n }) := by simp
@[ir] theorem sf_spec_ent : setField (.spec s) "EnterpriseNo" (.int n) = some (.spec { s with ent := n }) := by simp
@[ir] theorem sf_thdr_tid : setField (.thdr tid cnt scnt) "TemplateID" (.int n) = some (.thdr n cnt scnt) := by simp
@[ir] theorem sf_thdr_cnt : setField (.thdr tid cnt scnt) "FieldCount" (.int n) = some (.thdr tid n scnt) := by simp
@[ir] theorem sf_thdr_scnt : setField (.thdr tid cnt scnt) "ScopeFieldCount" (.int n) = some (.thdr tid cnt n) := by simp
@[ir] theorem sf_tpl_tid : setField (.tpl t) "TemplateID" (.int n) = some (.tpl { t with tid := n }) := by simp
@[ir] theorem sf_tpl_cnt : setField (.tpl t) "FieldCount" (.int n) = some (.tpl { t with cnt := n }) := by simp
@[ir] theorem sf_tpl_scnt : setField (.tpl t) "ScopeFieldCount" (.int n) = some (.tpl { t with scnt := n }) := by simp
@[ir] theorem sf_tpl_fields : setField (.tpl t) "FieldSpecifiers" (.specs l) = some (.tpl { t with fields := l }) := by simp
@[ir] theorem sf_tpl_scope : setField (.tpl t) "ScopeFieldSpecifiers" (.specs l) = some (.tpl { t with scope := l }) := by simp
@[ir] theorem sf_shdr_id : setField (.shdr id len) "SetID" (.int n) = some (.shdr n len) := by simp
@[ir] theorem sf_shdr_fid : setField (.shdr id len) "FlowSetID" (.int n) = some (.shdr n len) := by simp
@[ir] theorem sf_shdr_len : setField (.shdr id len) "Length" (.int n) = some (.shdr id n) := by simp
@[ir] theorem sf_mhdr_ver : setField (.mhdr h) "Version" (.int n) = some (.mhdr { h with ver := n }) := by simp
@[ir] theorem sf_mhdr_len : setField (.mhdr h) "Length" (.int n) = some (.mhdr { h with len := n }) := by simp
@[ir] theorem sf_mhdr_et : setField (.mhdr h) "ExportTime" (.int n) = some (.mhdr { h with et := n }) := by simp
@[ir] theorem sf_mhdr_sq : setField (.mhdr h) "SequenceNo" (.int n) = some (.mhdr { h with sq := n }) := by simp
@[ir] theorem sf_mhdr_dom : setField (.mhdr h) "DomainID" (.int n) = some (.mhdr { h with dom := n }) := by simp
@[ir] theorem sf_msg_agent (b : Bytes) : setField (.msg a h rs) "AgentID" (.bytes b) = some (.msg b h rs) := by simp
@[ir] theorem sf_msg_hdr (h' : MHdr) : setField (.msg a h rs) "Header" (.mhdr h') = some (.msg a h' rs) := by simp
@[ir] theorem sf_msg_sets (rs' : List Record) : setField (.msg a h rs) "DataSets" (.dsets rs') = some (.msg a h rs') := by simp
@[ir] theorem sf_thdr9_tid : setField (.thdr9 tid cnt olen oslen) "TemplateID" (.int n) = some (.thdr9 n cnt olen oslen) := by simp
@[ir] theorem sf_thdr9_cnt : setField (.thdr9 tid cnt olen oslen) "FieldCount" (.int n) = some (.thdr9 tid n olen oslen) := by simp
@[ir] theorem sf_thdr9_olen : setField (.thdr9 tid cnt olen oslen) "OptionLen" (.int n) = some (.thdr9 tid cnt n oslen) := by simp
@[ir] theorem sf_thdr9_oslen : setField (.thdr9 tid cnt olen oslen) "OptionScopeLen" (.int n) = some (.thdr9 tid cnt olen n) := by simp
@[ir] theorem sf_phdr_ver : setField (.phdr p) "Version" (.int n) = some (.phdr { p with ver := n }) := by simp
@[ir] theorem sf_phdr_cnt : setField (.phdr p) "Count" (.int n) = some (.phdr { p with cnt := n }) := by simp
@[ir] theorem sf_phdr_up : setField (.phdr p) "SysUpTime" (.int n) = some (.phdr { p with up := n }) := by simp
@[ir] theorem sf_phdr_secs : setField (.phdr p) "UNIXSecs" (.int n) = some (.phdr { p with secs := n }) := by simp
@[ir] theorem sf_phdr_sq : setField (.phdr p) "SeqNum" (.int n) = some (.phdr { p with sq := n }) := by simp
@[ir] theorem sf_phdr_src : setField (.phdr p) "SrcID" (.int n) = some (.phdr { p with src := n }) := by simp
@[ir] theorem sf_msg9_agent (b : Bytes) : setField (.msg9 a p rs) "AgentID" (.bytes b) = some (.msg9 b p rs) := by simp
@[ir] theorem sf_msg9_hdr (p' : PHdr) : setField (.msg9 a p rs) "Header" (.phdr p') = some (.msg9 a p' rs) := by simp
@[ir] theorem sf_msg9_sets (rs' : List Record) : setField (.msg9 a p rs) "DataSets" (.dsets rs') = some (.msg9 a p rs') := by simp
end fields

/-! ## the evaluation rules, and the parts of a body -/

attribute [ir ↓] exec eval evalList evalArgs readLHS writeLHS writeAll getPath setPath
  List.getElem?_cons_zero List.getElem?_cons_succ
  List.set_cons_zero List.set_cons_succ List.getD_cons_zero List.getD_cons_succ
attribute [ir] errReader zero wrap binInt veq lenV indexV appendV elemsV cmpNeg readSlots refSlots
  errClasses errConsts List.lookup
  Option.bind_some Option.map_some Option.bind_none Option.map_none Option.getD_some Option.getD_none List.isEmpty_cons List.isEmpty_nil
  Bool.not_true Bool.not_false Bool.false_eq_true decide_true decide_false if_true if_false
  List.length_cons List.length_nil ne_eq not_true_eq_false not_false_eq_true
  List.replicate_succ List.replicate_zero List.cons_append List.nil_append
  ge_iff_le gt_iff_lt Bool.true_and Bool.false_and Bool.and_true Bool.and_false Bool.true_or Bool.false_or

theorem items_blk (l : List Stmt) : (blk l).items = l := by
  induction l with
  | nil => rfl
  | cons s ss ih => rw [blk, Stmt.items, ih]

@[ir] theorem nth_blk (l : List Stmt) (i : Nat) : (blk l).nth i = l.getD i (.unrecognised "no such statement") := by
  rw [Stmt.nth, items_blk]

/-- the init statement of an `if` (beside the model's `Stmt.thn`, `Stmt.els`, `Stmt.loopBody`, …) -/
def Stmt.init : Stmt → Stmt
  | .ite i _ _ _ => i
  | _ => .unrecognised "not an if"
def Stmt.cond : Stmt → Expr
  | .ite _ c _ _ => c
  | _ => .unrecognised "not an if"

section
variable (c : Expr) (x : Nat) (init a b p : Stmt)
@[ir] theorem init_ite : (Stmt.ite init c a b).init = init := rfl
@[ir] theorem cond_ite : (Stmt.ite init c a b).cond = c := rfl
@[ir] theorem loopCond_loop : (Stmt.loop c b p).loopCond = c := rfl
@[ir] theorem loopBody_loop : (Stmt.loop c b p).loopBody = b := rfl
@[ir] theorem loopPost_loop : (Stmt.loop c b p).loopPost = p := rfl
@[ir] theorem loopBody_range : (Stmt.range x c b).loopBody = b := rfl
@[ir] theorem thn_ite : (Stmt.ite init c a b).thn = a := rfl
@[ir] theorem els_ite : (Stmt.ite init c a b).els = b := rfl
@[ir] theorem thn_switchNonfatal : (Stmt.switchNonfatal c a b).thn = a := rfl
@[ir] theorem els_switchNonfatal : (Stmt.switchNonfatal c a b).els = b := rfl
end

section
variable (addr : Bytes) (link : Linkage) (fuel : Nat) (st : St) (env : Env)

@[ir ↓] theorem exec_blk_nil : exec addr link fuel (blk []) st env = some (.norm, st, env) := by
  rw [blk, exec]

@[ir ↓] theorem exec_blk_cons (s : Stmt) (ss : List Stmt) : exec addr link fuel (blk (s :: ss)) st env =
    match exec addr link fuel s st env with
    | some (.norm, st1, env1) => exec addr link fuel (blk ss) st1 env1
    | r => r := by
  rw [blk, exec.eq_2]; rfl

theorem exec_blk_append (a b : List Stmt) : exec addr link fuel (blk (a ++ b)) st env =
    match exec addr link fuel (blk a) st env with
    | some (.norm, st1, env1) => exec addr link fuel (blk b) st1 env1
    | r => r := by
  induction a generalizing st env with
  | nil => rw [List.nil_append, exec_blk_nil]
  | cons s a ih =>
    rw [List.cons_append, exec_blk_cons, exec_blk_cons]
    rcases exec addr link fuel s st env with _ | ⟨f, st1, env1⟩
    · rfl
    · cases f <;> simp only [ih]

end

section
variable {addr : Bytes} {link : Linkage} {fuel : Nat} {st st1 : St} {env env1 : Env}

theorem exec_blk_append_norm {a : List Stmt} (b : List Stmt) (h : exec addr link fuel (blk a) st env = some (.norm, st1, env1)) :
    exec addr link fuel (blk (a ++ b)) st env = exec addr link fuel (blk b) st1 env1 := by
  rw [exec_blk_append, h]

theorem exec_blk_cons_norm {s : Stmt} (ss : List Stmt) (h : exec addr link fuel s st env = some (.norm, st1, env1)) :
    exec addr link fuel (blk (s :: ss)) st env = exec addr link fuel (blk ss) st1 env1 := by
  rw [exec_blk_cons, h]

theorem exec_skip : exec addr link fuel .skip st env = some (.norm, st, env) := by rw [exec]

theorem exec_blk_one (s : Stmt) : exec addr link fuel (blk [s]) st env = exec addr link fuel s st env := by
  rw [exec_blk_cons]
  rcases exec addr link fuel s st env with _ | ⟨f, st1, env1⟩
  · rfl
  · cases f <;> simp only [exec_blk_nil]

theorem exec_ite_of {init t e : Stmt} {c : Expr} {b : Bool} (hi : exec addr link fuel init st env = some (.norm, st1, env1))
    (hc : eval addr st1 env1 c = some (.bool b)) :
    exec addr link fuel (.ite init c t e) st env = exec addr link fuel (bif b then t else e) st1 env1 := by
  rw [exec, hi]
  cases b <;> simp only [hc] <;> rfl

theorem exec_loop (c : Expr) (body post : Stmt) :
    exec addr link fuel (.loop c body post) st env =
      loopF (fun st env => eval addr st env c) (exec addr link fuel body) (exec addr link fuel post) fuel st env := by
  rw [exec]
end

section
variable (addr : Bytes) (link : Linkage) (fuel : Nat) (st : St) (env : Env)

@[ir ↓ high] theorem writeLHS_slot (i : Nat) (x : V) : writeLHS env (.slot i []) x = (env[i]?).map fun _ => env.set i x := by
  rw [writeLHS]
  cases env[i]? <;> rfl

@[ir ↓ high] theorem writeAll_two (l1 l2 : LHS) (x1 x2 : V) :
    writeAll env [l1, l2] [x1, x2] = (writeLHS env l1 x1).bind fun env1 => writeLHS env1 l2 x2 := by
  rw [writeAll]
  cases writeLHS env l1 x1 with
  | none => rfl
  | some env1 => simp only [Option.bind_some, writeAll]; cases writeLHS env1 l2 x2 <;> rfl

@[ir ↓ high] theorem writeAll_one (l : LHS) (x : V) : writeAll env [l] [x] = writeLHS env l x := by
  rw [writeAll]
  cases writeLHS env l x <;> rfl

@[ir ↓ high] theorem exec_assign_slot (i : Nat) (e : Expr) :
    exec addr link fuel (.assign (.slot i []) e) st env =
      match eval addr st env e with
      | some v => (env[i]?).map fun _ => (.norm, st, env.set i v)
      | none => none := by
  rw [exec]
  cases eval addr st env e with
  | none => rfl
  | some v => simp only [writeLHS_slot, Option.map_map]; rfl

@[ir ↓ high] theorem exec_ite_skip (c : Expr) (t e : Stmt) :
    exec addr link fuel (.ite .skip c t e) st env =
      match eval addr st env c with
      | some (.bool true) => exec addr link fuel t st env
      | some (.bool false) => exec addr link fuel e st env
      | _ => none := by
  rw [exec, exec]; rfl

/-- `a && b` / `a || b` with a left side whose value need not be known: the right side is evaluated under an `if`, and
`ite_and` / `ite_or` put the two Booleans together again -/
@[ir ↓ high] theorem eval_land (t : Ty) (a b : Expr) :
    eval addr st env (.bin .land t a b) =
      match eval addr st env a with
      | some (.bool x) =>
        if x then (match eval addr st env b with | some (.bool y) => some (.bool y) | _ => none) else some (.bool false)
      | _ => none := by
  rw [eval]
  rcases eval addr st env a with _ | v
  · rfl
  · cases v <;> try rfl
    rename_i x; cases x <;> rfl

@[ir ↓ high] theorem eval_lor (t : Ty) (a b : Expr) :
    eval addr st env (.bin .lor t a b) =
      match eval addr st env a with
      | some (.bool x) =>
        if x then some (.bool true) else (match eval addr st env b with | some (.bool y) => some (.bool y) | _ => none)
      | _ => none := by
  rw [eval]
  rcases eval addr st env a with _ | v
  · rfl
  · cases v <;> try rfl
    rename_i x; cases x <;> rfl

@[ir] theorem ite_and (x y : Bool) : (if x = true then some (V.bool y) else some (V.bool false)) = some (V.bool (x && y)) := by
  cases x <;> rfl

@[ir] theorem ite_or (x y : Bool) : (if x = true then some (V.bool true) else some (V.bool y)) = some (V.bool (x || y)) := by
  cases x <;> rfl

@[ir ↓ high] theorem eval_var_ne_nil (i : Nat) :
    eval addr st env (.bin .ne .error (.var i) .nil) =
      match env[i]? with
      | some .nil => some (.bool false)
      | some (.err _) => some (.bool true)
      | _ => none := by
  simp only [eval]
  rcases env[i]? with _ | v
  · rfl
  · cases v <;> rfl
end

/-- `List.lookup` with a decidable test of the key: on string literals the test is settled by `String.reduceEq` (the
first character that differs), where `==` would be evaluated octet by octet -/
theorem lookup_cons_ite {α β : Type} [BEq α] [LawfulBEq α] [DecidableEq α] (k a : α) (b : β) (l : List (α × β)) :
    List.lookup k ((a, b) :: l) = if k = a then some b else List.lookup k l := by
  rw [List.lookup]
  by_cases h : k = a
  · rw [if_pos h, h, beq_self_eq_true]
  · rw [if_neg h, beq_false_of_ne h]

-- `register_simp_attr ir` also declares `ir_proc`, the simprocs that go with the rules
attribute [ir_proc] List.reduceReplicate Nat.reduceAdd Nat.reduceSub Nat.reduceLT Nat.reduceLeDiff Nat.reduceEqDiff
  String.reduceBEq reduceCtorEq
attribute [ir_proc ↓] reduceIte

/-- run the interpreter with the rules `ir` and the given facts (a rule that holds by `rfl` is still used with its proof
term: checking many small steps is cheaper than re-evaluating the interpreter between two of them) -/
macro "ir_simp" "[" ls:Lean.Parser.Tactic.simpLemma,* "]" : tactic =>
  `(tactic| simp -implicitDefEqProofs only [ir, $ls,*])

/-! ## a compound statement of the `unmarshal` functions -/

section
variable (addr : Bytes) (link : Linkage) (fuel : Nat) (st : St)

/-- `if x.F, err = r.Uint16(); err != nil { return err }` in a function whose locals are `x` and `err` -/
@[ir ↓ high] theorem exec_rdU16_into (F : String) (x e : V) :
    exec addr link fuel (.ite (.call [.slot 0 [F], .slot 1 []] .rdU16 []) (.bin .ne .error (.var 1) .nil) (blk [.ret [.var 1]]) .skip)
        st [x, e] =
      match st.r.rU16 with
      | some (v, r') => ((fieldOf x F).bind fun _ => setField x F (.int v)).map fun x' => (.norm, { st with r := r' }, [x', .nil])
      | none => ((fieldOf x F).bind fun _ => setField x F (.int 0)).map fun x' => (.ret [errReader], st, [x', errReader]) := by
  rcases h : st.r.rU16 with _ | ⟨v, r'⟩ <;> rcases hf : fieldOf x F with _ | y
  · ir_simp [h, hf]
  · rcases hs : setField x F (.int 0) with _ | x' <;> ir_simp [h, hf, hs]
  · ir_simp [h, hf]
  · rcases hs : setField x F (.int v) with _ | x' <;> ir_simp [h, hf, hs]

@[ir ↓ high] theorem exec_rdU32_into (F : String) (x e : V) :
    exec addr link fuel (.ite (.call [.slot 0 [F], .slot 1 []] .rdU32 []) (.bin .ne .error (.var 1) .nil) (blk [.ret [.var 1]]) .skip)
        st [x, e] =
      match st.r.rU32 with
      | some (v, r') => ((fieldOf x F).bind fun _ => setField x F (.int v)).map fun x' => (.norm, { st with r := r' }, [x', .nil])
      | none => ((fieldOf x F).bind fun _ => setField x F (.int 0)).map fun x' => (.ret [errReader], st, [x', errReader]) := by
  rcases h : st.r.rU32 with _ | ⟨v, r'⟩ <;> rcases hf : fieldOf x F with _ | y
  · ir_simp [h, hf]
  · rcases hs : setField x F (.int 0) with _ | x' <;> ir_simp [h, hf, hs]
  · ir_simp [h, hf]
  · rcases hs : setField x F (.int v) with _ | x' <;> ir_simp [h, hf, hs]
end

/-! ## functions and loops -/

/-- on an error path nobody reads the final locals: a goal `∃ env', out = …` becomes an equation `ir_simp` can evaluate -/
theorem exists_env_iff (out : Res) (f : Flow) (s : St) :
    (∃ env', out = some (f, s, env')) ↔ out.map (fun p => (p.1, p.2.1)) = some (f, s) := by
  rcases out with _ | ⟨f', s', env'⟩
  · simp
  · simp only [Option.some.injEq, Prod.mk.injEq, Option.map_some]
    exact ⟨fun ⟨_, h1, h2, _⟩ => ⟨h1, h2⟩, fun ⟨h1, h2⟩ => ⟨env', h1, h2, rfl⟩⟩

theorem Func.sem_eq {f : Func} {addr : Bytes} {link : Linkage} {fuel : Nat} {args : List V} {st : St} {env0 : Env}
    (hargs : args.length = (f.params.filter ParamKind.hasSlot).length)
    (henv : args ++ List.replicate (f.nslots - args.length) .unset = env0) :
    f.sem addr link fuel args st =
      match exec addr link fuel f.body st env0 with
      | some (.ret vs, st', env') =>
        if vs.length ≠ f.results.length then none
        else (readSlots env' (refSlots f.params 0)).map fun outs => (st', outs, vs)
      | _ => none := by
  rw [Func.sem, if_neg (fun h => h hargs), henv]; rfl

/-- `for _, x := range l { body }` where a round adds `w b` to a counter: `E n v` are the locals with the counter at `n`
and the loop variable `v` -/
theorem rangeF_sum {β : Type} (x : Nat) {body : St → Env → Res} {st : St} (f : β → V) (w : β → Nat) (E : Nat → V → Env)
    (hset : ∀ n y v, x < (E n y).length ∧ (E n y).set x v = E n v)
    (hbody : ∀ n b, body st (E n (f b)) = some (.norm, st, E (n + w b) (f b))) :
    ∀ (l : List β) (n : Nat) (y : V),
      ∃ y', rangeF x body (l.map f) st (E n y) = some (.norm, st, E (n + (l.map w).sum) y')
  | [], n, y => ⟨y, rfl⟩
  | b :: l, n, y => by
    obtain ⟨y', h⟩ := rangeF_sum x f w E hset hbody l (n + w b) (f b)
    exact ⟨y', by simp only [List.map_cons, rangeF, (hset n y (f b)).1, if_true, (hset n y (f b)).2, hbody, h, List.sum_cons,
      Nat.add_assoc]⟩

/-- outcome of a step of `decodeData` that yields `a` (the locals are then `E a j` for some values `j` of the slots
that are dead afterwards) or returns `nil` and the error, wrapped in `nonfatalError{…}` for the classes `nf` -/
def StepOut {α J : Type} (c : Cache) (nf : Err → Bool) (E : α → J → Env) (res : Except Err α × Rd) (out : Res) : Prop :=
  match res with
  | (.ok a, r') => ∃ j, out = some (.norm, ⟨r', c⟩, E a j)
  | (.error e, r') => ∃ env', out = some (.ret [.nil, .err ⟨nf e, e⟩], ⟨r', c⟩, env')

theorem fields_append {step : Spec → Rd → Except Err DField × Rd} {run : List Spec → Rd → Record → Except Err Record × Rd}
    (hnil : ∀ r acc, run [] r acc = (.ok acc, r))
    (hcons : ∀ f l r acc, run (f :: l) r acc =
      match step f r with
      | (.error e, r') => (.error e, r')
      | (.ok d, r') => run l r' (acc ++ [d]))
    (a b : List Spec) (r : Rd) (acc : Record) :
    run (a ++ b) r acc =
      match run a r acc with
      | (.error e, r') => (.error e, r')
      | (.ok acc', r') => run b r' acc' := by
  induction a generalizing r acc with
  | nil => rw [List.nil_append, hnil]
  | cons f fs ih =>
    rw [List.cons_append, hcons, hcons]
    rcases step f r with ⟨e | d, r'⟩
    · rfl
    · exact ih r' _

/-- `for i := 0; i < len(fs); i++ { body }` where a round decodes the field of `fs[i]` (`step`) and appends it to the
record: the loop is `run`, the recursion over the specifiers with that step -/
theorem fieldLoop {J : Type} {cond : St → Env → Option V} {body post : St → Env → Res} {c : Cache} {nf : Err → Bool}
    {fs : List Spec} {step : Spec → Rd → Except Err DField × Rd} {run : List Spec → Rd → Record → Except Err Record × Rd}
    (E : Record → Nat → J → Env)
    (hnil : ∀ r acc, run [] r acc = (.ok acc, r))
    (hcons : ∀ f l r acc, run (f :: l) r acc =
      match step f r with
      | (.error e, r') => (.error e, r')
      | (.ok d, r') => run l r' (acc ++ [d]))
    (hcond : ∀ st acc i j, cond st (E acc i j) = some (.bool (decide (i < fs.length))))
    (hpost : ∀ st acc i j, post st (E acc i j) = some (.norm, st, E acc (i + 1) j))
    (hbody : ∀ r acc i j f, fs[i]? = some f →
      StepOut c nf (fun d => E (acc ++ [d]) i) (step f r) (body ⟨r, c⟩ (E acc i j))) :
    ∀ (m i k : Nat) (r : Rd) (acc : Record) (j : J), i + m = fs.length → m < k →
      StepOut c nf (fun acc' => E acc' fs.length) (run (fs.drop i) r acc) (loopF cond body post k ⟨r, c⟩ (E acc i j)) := by
  intro m
  induction m with
  | zero =>
    intro i k r acc j hi hk
    obtain ⟨k, rfl⟩ := Nat.exists_eq_succ_of_ne_zero (Nat.ne_of_gt hk)
    have hlt : ¬ (i < fs.length) := by omega
    rw [List.drop_eq_nil_of_le (by omega), hnil]
    simp only [StepOut, loopF, hcond, hlt, decide_false]
    exact ⟨j, by rw [show i = fs.length from by omega]⟩
  | succ m ih =>
    intro i k r acc j hi hk
    obtain ⟨k, rfl⟩ := Nat.exists_eq_succ_of_ne_zero (Nat.ne_of_gt (Nat.lt_of_le_of_lt (Nat.zero_le _) hk))
    have hlt : i < fs.length := by omega
    have hb := hbody r acc i j fs[i] (List.getElem?_eq_getElem hlt)
    rw [List.drop_eq_getElem_cons hlt, hcons]
    simp only [loopF, hcond, hlt, decide_true]
    rcases hs : step fs[i] r with ⟨e | d, r'⟩ <;> simp only [hs, StepOut] at hb ⊢
    · obtain ⟨env', hb⟩ := hb
      exact ⟨env', by simp only [hb]⟩
    · obtain ⟨j', hb⟩ := hb
      simp only [hb, hpost]
      exact ih (i + 1) k r' (acc ++ [d]) j' (by omega) (by omega)

/-- outcome of `TemplateFieldSpecifier.unmarshal` (on an error the specifier is partly overwritten) -/
def SpecOut (res : Except Err Spec × Rd) (c : Cache) (out : Option (St × List V × List V)) : Prop :=
  match res with
  | (.ok s, r') => out = some (⟨r', c⟩, [.spec s], [.nil])
  | (.error e, r') => ∃ s', out = some (⟨r', c⟩, [.spec s'], [.err ⟨false, e⟩])

/-- outcome of `TemplateRecord.unmarshal` / `unmarshalOpts` (on an error the template is partly filled) -/
def TplOut (res : Except Err Template × Rd) (c : Cache) (out : Option (St × List V × List V)) : Prop :=
  match res with
  | (.ok t, r') => out = some (⟨r', c⟩, [.tpl t], [.nil])
  | (.error e, r') => ∃ t', out = some (⟨r', c⟩, [.tpl t'], [.err ⟨false, e⟩])

/-- an error return of a function whose first slot is the by-pointer template -/
def ErrOut (c : Cache) (e : Err) (r' : Rd) (out : Res) : Prop :=
  ∃ t' rest, out = some (.ret [.err ⟨false, e⟩], ⟨r', c⟩, .tpl t' :: rest)

/-- outcome of one round of a specifier loop -/
def SpecStepOut (c : Cache) (E : Spec → Env) (res : Except Err Spec × Rd) (out : Res) : Prop :=
  match res with
  | (.ok s, r') => out = some (.norm, ⟨r', c⟩, E s)
  | (.error e, r') => ErrOut c e r' out

/-- outcome of a specifier loop (`E fs tf e`: the locals with the counter at 0, the last specifier `tf` and its `err`) -/
def SpecsOut (c : Cache) (P : Spec → Prop) (E : List Spec → Spec → V → Env) (res : Except Err (List Spec) × Rd)
    (out : Res) : Prop :=
  match res with
  | (.ok fs, r') => ∃ tf e, P tf ∧ out = some (.norm, ⟨r', c⟩, E fs tf e)
  | (.error e, r') => ErrOut c e r' out

/-- `for i := n; i > 0; i-- { if err := tf.unmarshal(r); err != nil { return err }; xs = append(xs, tf) }` is `reads`, the
count-down recursion with the step `read`.  `E acc tf i e` are the locals with the specifiers `acc` appended so far, the
scratch specifier `tf` (kept in `P`: the v9 specifier has no enterprise number), the counter `i` and the last `err`; a
successful read consumes octets, so a fuel above the octets left suffices. -/
theorem specLoop {cond : St → Env → Option V} {body post : St → Env → Res} {c : Cache} {P : Spec → Prop}
    {read : Rd → Except Err Spec × Rd} {reads : Nat → Rd → List Spec → Except Err (List Spec) × Rd}
    (E : List Spec → Spec → Nat → V → Env)
    (hzero : ∀ r acc, reads 0 r acc = (.ok acc, r))
    (hsucc : ∀ n r acc, reads (n + 1) r acc =
      match read r with
      | (.error e, r') => (.error e, r')
      | (.ok s, r') => reads n r' (acc ++ [s]))
    (hread : ∀ {r s r'}, read r = (.ok s, r') → r'.rem.length < r.rem.length ∧ P s)
    (hcond : ∀ st acc tf i e, cond st (E acc tf i e) = some (.bool (decide (i > 0))))
    (hpost : ∀ st acc tf i e, i + 1 < 65536 → post st (E acc tf (i + 1) e) = some (.norm, st, E acc tf i e))
    (hbody : ∀ r acc tf i e, P tf → SpecStepOut c (fun s => E (acc ++ [s]) s i .nil) (read r) (body ⟨r, c⟩ (E acc tf i e))) :
    ∀ (i k : Nat) (r : Rd) (acc : List Spec) (tf : Spec) (e : V), P tf → i < 65536 → r.rem.length < k →
      SpecsOut c P (fun fs tf e => E fs tf 0 e) (reads i r acc) (loopF cond body post k ⟨r, c⟩ (E acc tf i e)) := by
  intro i
  induction i with
  | zero =>
    intro k r acc tf e htf _ hk
    obtain ⟨k, rfl⟩ := Nat.exists_eq_succ_of_ne_zero (Nat.ne_of_gt (Nat.lt_of_le_of_lt (Nat.zero_le _) hk))
    simp only [hzero, SpecsOut, loopF, hcond, Nat.lt_irrefl, gt_iff_lt, decide_false]
    exact ⟨tf, e, htf, rfl⟩
  | succ i ih =>
    intro k r acc tf e htf hi hk
    obtain ⟨k, rfl⟩ := Nat.exists_eq_succ_of_ne_zero (Nat.ne_of_gt (Nat.lt_of_le_of_lt (Nat.zero_le _) hk))
    have hb := hbody r acc tf (i + 1) e htf
    simp only [hsucc, loopF, hcond, gt_iff_lt, Nat.zero_lt_succ, decide_true]
    rcases hrs : read r with ⟨e' | s, r'⟩ <;> simp only [hrs, SpecStepOut] at hb ⊢
    · obtain ⟨t', rest, hb⟩ := hb
      exact ⟨t', rest, by simp only [hb]⟩
    · simp only [hb, hpost _ _ _ _ _ hi]
      exact ih k r' (acc ++ [s]) s .nil (hread hrs).2 (Nat.lt_of_succ_lt hi)
        (Nat.lt_of_lt_of_le (hread hrs).1 (Nat.le_of_lt_succ hk))

/-! ## the set loop of `Decode` -/

section
variable {σ : Type} {step : Nat → σ → σ × Option Err} {len : σ → Nat} {nf : Err → Bool}
  {out : Nat → σ → List Err → σ × Option Err × List Err}
  (S : σ → St) (E : σ → List Err → V → Env)

/-- outcome of the set loop of `Decode` for a result of the model's loop -/
def SetsOut (res : σ × Option Err × List Err) (o : Res) : Prop :=
  match res with
  | (st', none, errs') => ∃ e4', o = some (.norm, S st', E st' errs' e4')
  | (st', some e, _) => ∃ env', o = some (.ret [.nil, .err ⟨false, e⟩], S st', env')

/-- `for d.reader.Len() > 4 { if err := d.decodeSet(…); err != nil { switch err.(type) { … } } }` is the model's loop
`out` over `step` = `decodeSet` (an `OuterLoop`): `E st errs e` are the locals with the state's message, the errors
collected so far and the loop's `err`; `I` is what the round lemma `hbody` needs of a state, and a round that goes on leaves
fewer octets. -/
theorem _root_.Vflow.OuterLoop.loopF_eq (h : OuterLoop step len nf out) (I : σ → Prop)
    {cond : St → Env → Option V} {body post : St → Env → Res}
    (hpost : ∀ st env, post st env = some (.norm, st, env))
    (hcond : ∀ st errs e, cond (S st) (E st errs e) = some (.bool (decide (len st > 4))))
    (hbody : ∀ st errs e4, I st → body (S st) (E st errs e4) =
      match step (len st + 1) st with
      | (st', none) => some (.norm, S st', E st' errs .nil)
      | (st', some e) =>
        if nf e then some (.norm, S st', E st' (errs ++ [e]) (.err ⟨true, e⟩))
        else some (.ret [.nil, .err ⟨false, e⟩], S st', E st' errs (.err ⟨false, e⟩)))
    (hnext : ∀ st st' e, I st → 4 < len st → step (len st + 1) st = (st', e) → fatal nf e = false →
      len st' < len st ∧ I st') :
    ∀ (k k' : Nat) (st : σ) (errs : List Err) (e4 : V), len st < k → len st < k' → I st →
      SetsOut S E (out k' st errs) (loopF cond body post k (S st) (E st errs e4)) := by
  intro k
  induction k with
  | zero => intro k' st _ _ hk; exact absurd hk (Nat.not_lt_zero _)
  | succ k ih =>
    intro k' st errs e4 hk hk' hi
    cases k' with
    | zero => exact absurd hk' (Nat.not_lt_zero _)
    | succ k' =>
    simp only [loopF, hcond]
    by_cases hgt : len st > 4
    · simp only [hgt, decide_true, hbody st errs e4 hi]
      rcases hd : step (len st + 1) st with ⟨st', _ | e⟩ <;> rw [h.iter _ _ _ _ _ hgt hd] <;> simp only [fatal]
      · obtain ⟨hlt, hi'⟩ := hnext st st' none hi hgt hd rfl
        simp only [hpost, Bool.false_eq_true, if_false, Option.toList_none, List.append_nil]
        exact ih k' st' errs .nil (Nat.lt_of_lt_of_le hlt (Nat.le_of_lt_succ hk)) (Nat.lt_of_lt_of_le hlt (Nat.le_of_lt_succ hk')) hi'
      · by_cases hn : nf e = true
        · obtain ⟨hlt, hi'⟩ := hnext st st' (some e) hi hgt hd (by simp only [fatal, hn, Bool.not_true])
          simp only [hn, hpost, Bool.not_true, Bool.false_eq_true, if_false, if_true, Option.toList_some]
          exact ih k' st' (errs ++ [e]) _ (Nat.lt_of_lt_of_le hlt (Nat.le_of_lt_succ hk))
            (Nat.lt_of_lt_of_le hlt (Nat.le_of_lt_succ hk')) hi'
        · rw [Bool.not_eq_true] at hn
          simp only [hn, Bool.not_false, if_true, Bool.false_eq_true, if_false]
          exact ⟨_, rfl⟩
    · simp only [hgt, decide_false, h.stop _ _ _ (Nat.le_of_not_lt hgt)]
      exact ⟨e4, rfl⟩
end

end Vflow.IpfixIR
