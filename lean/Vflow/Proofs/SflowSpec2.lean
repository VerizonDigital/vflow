import Vflow.Proofs.SflowSpec
import Vflow.Proofs.HeaderBad
/-!
# The datagram round trip with raw-header records given by an abstract header

`ADatagram'` is `ADatagram` except that a raw packet header record is given by an abstract header with its
trailing payload — a header the packet structs can represent — or by an abstract undissectable header (`ABad`:
cut short at any layer, not IP, an IP protocol without a struct, another header protocol) instead of bare
octets.  `lower` maps both to the octet form, so that `encodeSflow' d = encodeSflow d.lower` is the same XDR
encoder.  The expected datagram `expected' d` and well-formedness are written on the abstract side alone, without
the dissector: `expectedPacket h payload` for the first form, no packet for the second (F33);
`expected_lower` shows that this is what the octet form dissects to (`dissect_encodeHeader`, `dissect_bad`).
-/
namespace Vflow.Sflow
open Vflow Vflow.Packet

inductive AFlowRec' where
  /-- raw packet header: frame length, stripped, the abstract sampled header and the payload octets after it -/
  | raw (frameLen stripped : Nat) (h : AHeader) (payload : Bytes)
  /-- raw packet header whose sampled octets have no breakdown: frame length, stripped, the abstract undissectable header -/
  | rawBad (frameLen stripped : Nat) (b : ABad)
  | sw (s : ExtSwitch)
  | rtr (r : ExtRouter)
  | unknown (fmt : Nat) (body : Bytes)

inductive ASample' where
  | flow (seq srcType srcIdx rate pool drops inp out : Nat) (recs : List AFlowRec')
  | counter (seq srcType srcIdx : Nat) (recs : List ACounterRec)
  | unknown (type : Nat) (body : Bytes)

structure ADatagram' where
  agent : Bytes
  subID : Nat
  seqNo : Nat
  upTime : Nat
  samples : List ASample'

def AFlowRec'.lower : AFlowRec' → AFlowRec
  | .raw fl st h payload => .raw (protoOf h) fl st (encodeHeader h ++ payload)
  | .rawBad fl st b => .raw b.proto fl st b.octets
  | .sw s => .sw s
  | .rtr r => .rtr r
  | .unknown fmt body => .unknown fmt body

def ASample'.lower : ASample' → ASample
  | .flow seq ty idx rate pool drops inp out recs =>
    .flow seq ty idx rate pool drops inp out (recs.map AFlowRec'.lower)
  | .counter seq ty idx recs => .counter seq ty idx recs
  | .unknown t body => .unknown t body

def ADatagram'.lower (d : ADatagram') : ADatagram :=
  { agent := d.agent, subID := d.subID, seqNo := d.seqNo, upTime := d.upTime,
    samples := d.samples.map ASample'.lower }

def encodeSflow' (d : ADatagram') : Bytes := encodeSflow d.lower

/-- what a flow record contributes to `Records`, on the abstract side: a raw-header record its four words
(F33: header protocol, frame length, stripped, number of sampled octets) with the expected packet of a
representable header and without a packet for an undissectable one; nothing for a skipped record -/
def expFlowRec' : AFlowRec' → Option FlowRec
  | .raw fl st h payload =>
    some (.raw ⟨protoOf h, fl, st, (encodeHeader h ++ payload).length, some (expectedPacket h payload)⟩)
  | .rawBad fl st b => some (.raw ⟨b.proto, fl, st, b.octets.length, none⟩)
  | .sw s => some (.sw s)
  | .rtr r => some (.rtr r)
  | .unknown _ _ => none

def expSample' : ASample' → Option Sample
  | .flow seq ty idx rate pool drops inp out recs =>
    some (.flow ⟨seq, ty, idx, rate, pool, drops, inp, out, recs.length, FlowRecs.ofList (recs.map expFlowRec')⟩)
  | .counter seq ty idx recs =>
    some (.counter ⟨seq, ty, idx, recs.length, CounterRecs.ofList (recs.map expCounterRec)⟩)
  | .unknown _ _ => none

/-- the decoded datagram it stands for (no reference to the dissector) -/
def expected' (d : ADatagram') : Datagram :=
  mkDatagram ⟨5, if d.agent.length = 16 then 2 else 1, d.agent, d.subID, d.seqNo, d.upTime, d.samples.length⟩
    (d.samples.map expSample')

/-- what a raw-header record looks like on the wire: format 1, record length, header protocol, frame
length, stripped, header length, the encoded header followed by the payload, XDR padding -/
theorem encFlowRec_raw (fl st : Nat) (h : AHeader) (payload : Bytes) :
    encFlowRec (AFlowRec'.raw fl st h payload).lower =
      be32 1 ++ be32 (16 + (encodeHeader h ++ payload).length + pad (encodeHeader h ++ payload).length) ++
        (encFields [4, 4, 4, 4] [protoOf h, fl, st, (encodeHeader h ++ payload).length] ++
          ((encodeHeader h ++ payload) ++ List.replicate (pad (encodeHeader h ++ payload).length) 0)) := rfl

def AFlowRec'.WF : AFlowRec' → Prop
  | .raw fl st h payload =>
    fl < 256 ^ 4 ∧ st < 256 ^ 4 ∧ wfHeader h ∧ (encodeHeader h ++ payload).length ≤ 1500
  | .rawBad fl st b =>
    fl < 256 ^ 4 ∧ st < 256 ^ 4 ∧ b.WF ∧ b.proto < 256 ^ 4 ∧ b.octets.length ≤ 1500
  | .sw s => Fits [4, 4, 4, 4] [s.srcVlan, s.srcPriority, s.dstVlan, s.dstPriority]
  | .rtr r => (r.nextHop.length = 4 ∨ r.nextHop.length = 16) ∧ Fits [4, 4] [r.srcMask, r.dstMask]
  | .unknown fmt body => fmt ≠ 1 ∧ fmt ≠ 1001 ∧ (fmt = 1002 → body.length ≠ 16 ∧ body.length ≠ 28) ∧
      fmt < 256 ^ 4 ∧ body.length < 256 ^ 4

def ASample'.WF : ASample' → Prop
  | .flow seq ty idx rate pool drops inp out recs =>
    Fits [4, 1] [seq, ty] ∧ idx < 256 ^ 3 ∧ Fits [4, 4, 4, 4, 4, 4] [rate, pool, drops, inp, out, recs.length] ∧
      (∀ r ∈ recs, r.WF) ∧ (encSampleBody (ASample'.flow seq ty idx rate pool drops inp out recs).lower).length < 256 ^ 4
  | .counter seq ty idx recs =>
    Fits [4, 1, 3, 4] [seq, ty, idx, recs.length] ∧ (∀ r ∈ recs, r.WF) ∧
      (encSampleBody (.counter seq ty idx recs)).length < 256 ^ 4
  | .unknown t body => (t / 4096 ≠ 0 ∨ (t % 4096 ≠ 1 ∧ t % 4096 ≠ 2)) ∧ t < 256 ^ 4 ∧ body.length < 256 ^ 4

def ADatagram'.WF (d : ADatagram') : Prop :=
  (d.agent.length = 4 ∨ d.agent.length = 16) ∧ Fits [4, 4, 4, 4] [d.subID, d.seqNo, d.upTime, d.samples.length] ∧
    ∀ s ∈ d.samples, s.WF

theorem protoOf_lt (h : AHeader) : protoOf h < 256 ^ 4 := by
  obtain ⟨eth, net, trans⟩ := h
  cases eth <;> cases net <;> simp [protoOf]

theorem AFlowRec'.lower_WF (r : AFlowRec') (hwf : r.WF) : r.lower.WF := by
  cases r with
  | raw fl st h payload =>
    obtain ⟨h1, h2, h3, h4⟩ := hwf
    exact ⟨⟨protoOf_lt h, h1, h2, by omega, trivial⟩, h4⟩
  | rawBad fl st b =>
    obtain ⟨h1, h2, _, h4, h5⟩ := hwf
    exact ⟨⟨h4, h1, h2, by omega, trivial⟩, h5⟩
  | sw s => exact hwf
  | rtr r => exact hwf
  | unknown fmt body => exact hwf

theorem ASample'.lower_WF (s : ASample') (hwf : s.WF) : s.lower.WF := by
  cases s with
  | flow seq ty idx rate pool drops inp out recs =>
    obtain ⟨h1, h2, h3, h4, h5⟩ := hwf
    refine ⟨h1, h2, by simpa [List.length_map] using h3, ?_, h5⟩
    intro r hr
    obtain ⟨r', hr', rfl⟩ := List.mem_map.mp hr
    exact r'.lower_WF (h4 r' hr')
  | counter seq ty idx recs => exact hwf
  | unknown t body => exact hwf

theorem ADatagram'.lower_WF (d : ADatagram') (hwf : d.WF) : d.lower.WF := by
  obtain ⟨h1, h2, h3⟩ := hwf
  refine ⟨h1, by simpa [ADatagram'.lower, List.length_map] using h2, ?_⟩
  intro s hs
  obtain ⟨s', hs', rfl⟩ := List.mem_map.mp hs
  exact s'.lower_WF (h3 s' hs')

/-! ## the abstract expectation is what the octet form dissects to -/

theorem expFlowRec_lower (r : AFlowRec') (hwf : r.WF) : expFlowRec r.lower = expFlowRec' r := by
  cases r with
  | raw fl st h payload =>
    simp only [AFlowRec'.lower, expFlowRec, expFlowRec', dissected_ok (dissect_encodeHeader h payload hwf.2.2.1)]
  | rawBad fl st b =>
    obtain ⟨e, he⟩ := dissect_bad b hwf.2.2.1
    simp only [AFlowRec'.lower, expFlowRec, expFlowRec', dissected_err he]
  | sw s => rfl
  | rtr r => rfl
  | unknown fmt body => rfl

theorem expSample_lower (s : ASample') (hwf : s.WF) : expSample s.lower = expSample' s := by
  cases s with
  | flow seq ty idx rate pool drops inp out recs =>
    have hmap : (recs.map AFlowRec'.lower).map expFlowRec = recs.map expFlowRec' := by
      rw [List.map_map]
      exact List.map_congr_left (fun r hr => expFlowRec_lower r (hwf.2.2.2.1 r hr))
    simp only [ASample'.lower, expSample, expSample', hmap, List.length_map]
  | counter seq ty idx recs => rfl
  | unknown t body => rfl

theorem expected_lower (d : ADatagram') (hwf : d.WF) : expected d.lower = expected' d := by
  have hmap : (d.samples.map ASample'.lower).map expSample = d.samples.map expSample' := by
    rw [List.map_map]
    exact List.map_congr_left (fun s hs => expSample_lower s (hwf.2.2 s hs))
  simp only [expected, expected', ADatagram'.lower, hmap, List.length_map]
  rfl

theorem decode_enc' (f : List Nat) (d : ADatagram') (hwf : d.WF) :
    decode f (encodeSflow' d) = .ok (dropTypes f (expected' d)) := by
  rw [← expected_lower d hwf]
  exact decode_enc f d.lower (d.lower_WF hwf)

/-- a record without an entry changes nothing in `Records`: the map built from the records around it -/
theorem ofList_skip (a b : List (Option FlowRec)) : FlowRecs.ofList (a ++ none :: b) = FlowRecs.ofList (a ++ b) := by
  simp [FlowRecs.ofList, List.foldl_append, FlowRecs.put]

end Vflow.Sflow
