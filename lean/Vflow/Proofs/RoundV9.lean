import Vflow.Model.V9
import Vflow.Proofs.WireLemmas
import Vflow.Proofs.EqnsV9
/-!
# C06 — NetFlow v9 round trip: what the RFC 3954 encoder of `Spec/Wire.lean` writes, the decoder
model reads back exactly

From the leaves up: field list → record → record loop → flowset → packet.  `Props/C06` re-exports the main
statements with what they claim about the decoder.
-/
namespace Vflow.V9
open Vflow Vflow.Wire

attribute [local irreducible] Vflow.lookupElem

theorem wfField_iff (s : Spec) (v : Bytes) :
    Wire.V9.wfField s v = true ↔ s.ent = 0 ∧ (lookupElem s.ent s.id).isSome = true ∧ v.length = s.len := by
  simp only [Wire.V9.wfField, Bool.and_eq_true, beq_iff_eq, and_assoc]

theorem decFields_roundtrip : ∀ (specs : List Spec) (vals : List Bytes) (rest : Bytes) (c : Nat)
    (acc : Record),
    specs.length = vals.length → (List.zipWith Wire.V9.wfField specs vals).all id = true →
    decFields specs ⟨vals.flatten ++ rest, c⟩ acc =
      (.ok (acc ++ List.zipWith expectedField specs vals), ⟨rest, c + vals.flatten.length⟩) := by
  intro specs vals rest c acc hl hw
  match specs, vals, hl, hw with
  | [], [], _, _ => simp [decFields_nil]
  | f :: fs, v :: vs, hl, hw =>
    simp only [List.zipWith_cons_cons, List.all_cons, id, Bool.and_eq_true] at hw
    obtain ⟨hent, hsome, hlen⟩ := (wfField_iff f v).1 hw.1
    obtain ⟨⟨fid, ty⟩, hlk⟩ := Option.isSome_iff_exists.1 hsome
    rw [decFields_cons]
    simp only [List.flatten_cons, List.append_assoc, readN_append' v _ c f.len hlen, ← hent, hlk,
      List.zipWith_cons_cons, expectedField_of_lookup hlk]
    rw [decFields_roundtrip fs vs rest _ _ (by simpa using hl) hw.2]
    simp [hlen, Nat.add_assoc]

theorem decodeData_roundtrip (t : Template) (vals : List Bytes) (rest : Bytes) (c : Nat)
    (hw : Wire.V9.wfRecord t vals = true) :
    decodeData t ⟨Wire.V9.encodeRecord t vals ++ rest, c⟩ =
      (.ok (expectedRecord t vals), ⟨rest, c + (Wire.V9.encodeRecord t vals).length⟩) := by
  simp only [Wire.V9.wfRecord, Bool.and_eq_true, beq_iff_eq] at hw
  exact decFields_roundtrip (specsOf t) vals rest c [] hw.1 hw.2

theorem wf_flatten_length : ∀ (specs : List Spec) (vals : List Bytes),
    specs.length = vals.length → (List.zipWith Wire.V9.wfField specs vals).all id = true →
    vals.flatten.length = (specs.map (·.len)).sum
  | [], [], _, _ => rfl
  | f :: fs, v :: vs, hl, hw => by
    simp only [List.zipWith_cons_cons, List.all_cons, id, Bool.and_eq_true] at hw
    simp [((wfField_iff f v).1 hw.1).2.2, wf_flatten_length fs vs (by simpa using hl) hw.2]

theorem encodeRecord_length (t : Template) (vals : List Bytes) (hw : Wire.V9.wfRecord t vals = true) :
    (Wire.V9.encodeRecord t vals).length = Wire.V9.recLen t := by
  simp only [Wire.V9.wfRecord, Bool.and_eq_true, beq_iff_eq] at hw
  exact wf_flatten_length _ _ hw.1 hw.2

def body (t : Template) (records : List (List Bytes)) : Bytes :=
  (records.map (Wire.V9.encodeRecord t)).flatten

theorem body_nil (t : Template) : body t [] = [] := rfl
theorem body_cons (t : Template) (x : List Bytes) (xs : List (List Bytes)) :
    body t (x :: xs) = Wire.V9.encodeRecord t x ++ body t xs := by
  simp [body]

/-- the decoder's `minRecordLen` is the template's record length, clamped to 1 -/
theorem minRecLen_spec (t : Template) :
    minRecLen t = if Wire.V9.recLen t < 1 then 1 else Wire.V9.recLen t := rfl

/-- `k` octets of the flowset are left when the reader has consumed `c` octets of the packet: the length the
flowset header announced minus what was read since, in the decoder's `int` arithmetic -/
def Left (ctx : Ctx) (c k : Nat) : Prop := leftInt ctx ⟨[], c⟩ = (k : Int)

theorem Left.adv {ctx : Ctx} {c m k : Nat} (h : Left ctx c (m + k)) : Left ctx (c + m) k := by
  unfold Left leftInt at h ⊢
  simp only at h ⊢
  omega

theorem contCond_eq {ctx : Ctx} {rem : Bytes} {c k : Nat} (h : Left ctx c k) (hrem : k ≤ rem.length) :
    contCond ctx ⟨rem, c⟩ = decide (minLeft ctx ≤ k) := by
  have := minLeft_pos ctx
  unfold contCond
  rw [show leftInt ctx ⟨rem, c⟩ = (k : Int) from h]
  by_cases hk : minLeft ctx ≤ k
  · rw [decide_eq_true hk]
    simp only [Bool.and_eq_true, decide_eq_true_eq]
    omega
  · rw [decide_eq_false hk]
    simp only [Bool.and_eq_false_iff, decide_eq_false_iff_not]
    omega

/-- One statement for the three kinds of flowset: `xs` are its items (records, template records, options template
records), `ft x` the templates and `fr x` the records that one round of the loop on `x` yields. -/
theorem setLoop_items {α : Type} (ctx : Ctx) (enc : α → Bytes) (ft : α → List Template)
    (fr : α → List Record) (pad rest : Bytes) (hpad : pad.length < minLeft ctx) :
    ∀ (xs : List α) (fuel c : Nat) (cache : Cache) (recs : List Record),
      (∀ x ∈ xs, minLeft ctx ≤ (enc x).length ∧ ∀ n tail c cache recs,
        contCond ctx ⟨enc x ++ tail, c⟩ = true →
        setLoop ctx (n + 1) ⟨⟨enc x ++ tail, c⟩, cache, recs⟩ =
          setLoop ctx n ⟨⟨tail, c + (enc x).length⟩, insertAll ctx.addr cache (ft x), recs ++ fr x⟩) →
      Left ctx c ((xs.map enc).flatten.length + pad.length) → xs.length < fuel →
      setLoop ctx fuel ⟨⟨(xs.map enc).flatten ++ (pad ++ rest), c⟩, cache, recs⟩ =
        (⟨⟨pad ++ rest, c + (xs.map enc).flatten.length⟩, insertAll ctx.addr cache (xs.flatMap ft),
          recs ++ xs.flatMap fr⟩, none)
  | [], fuel + 1, c, cache, recs, _, hleft, _ => by
    simp only [List.map_nil, List.flatten_nil, List.length_nil, Nat.zero_add] at hleft
    rw [setLoop, contCond_eq hleft (by simp), decide_eq_false (by omega)]
    simp [insertAll]
  | x :: xs, fuel + 1, c, cache, recs, hx, hleft, hfuel => by
    obtain ⟨hmin, hstep⟩ := hx x List.mem_cons_self
    simp only [List.map_cons, List.flatten_cons, List.length_append, List.append_assoc, Nat.add_assoc]
      at hleft ⊢
    rw [hstep _ _ _ _ _ (by rw [contCond_eq hleft (by simp)]; exact decide_eq_true (by omega)),
      setLoop_items ctx enc ft fr pad rest hpad xs fuel _ _ _
        (fun y hy => hx y (List.mem_cons_of_mem x hy)) hleft.adv (by simpa using hfuel)]
    simp [insertAll, List.foldl_append, Nat.add_assoc]

theorem setLoop_record (ctx : Ctx) (hsid : 255 < ctx.setId) (hbig : 0 < Wire.V9.recLen ctx.tr)
    (x : List Bytes) (hw : Wire.V9.wfRecord ctx.tr x = true) (n : Nat) (tail : Bytes) (c : Nat)
    (cache : Cache) (recs : List Record) (hc : contCond ctx ⟨Wire.V9.encodeRecord ctx.tr x ++ tail, c⟩ = true) :
    setLoop ctx (n + 1) ⟨⟨Wire.V9.encodeRecord ctx.tr x ++ tail, c⟩, cache, recs⟩ =
      setLoop ctx n ⟨⟨tail, c + (Wire.V9.encodeRecord ctx.tr x).length⟩, insertAll ctx.addr cache [],
        recs ++ [expectedRecord ctx.tr x]⟩ := by
  have hlen := encodeRecord_length ctx.tr x hw
  rw [setLoop, if_pos hc, if_neg (by omega), if_neg (by omega)]
  simp only [decodeData_roundtrip ctx.tr x tail c hw]
  rw [if_neg (by omega)]
  rfl

theorem setLoop_template (ctx : Ctx) (hsid : ctx.setId = 0 ∨ ctx.setId = 1) (enc : Template → Bytes)
    (parse : Rd → Except Err Template × Rd)
    (hsel : ∀ r, (if ctx.setId = 0 then parseTpl r else parseOptTpl r) = parse r) (t : Template)
    (hparse : ∀ tail c, parse ⟨enc t ++ tail, c⟩ = (.ok t, ⟨tail, c + (enc t).length⟩))
    (n : Nat) (tail : Bytes) (c : Nat) (cache : Cache) (recs : List Record)
    (hc : contCond ctx ⟨enc t ++ tail, c⟩ = true) :
    setLoop ctx (n + 1) ⟨⟨enc t ++ tail, c⟩, cache, recs⟩ =
      setLoop ctx n ⟨⟨tail, c + (enc t).length⟩, insertAll ctx.addr cache [t], recs ++ []⟩ := by
  rw [setLoop, if_pos hc, if_pos hsid]
  simp only [hsel, hparse, List.append_nil]
  rfl

theorem encodeSet_length (id : Nat) (b pad : Bytes) :
    (Wire.V9.encodeSet id b pad).length = 4 + (b.length + pad.length) := by
  simp [Wire.V9.encodeSet, be16_length]; omega

/-- `otr` is what `mem.retrieve` returns for the flowset id (nothing for the template flowsets) -/
theorem decodeSet_of_setLoop (addr : Bytes) (sid : Nat) (otr : Option Template) (b pad rest : Bytes)
    (c fuel : Nat) (cache cache' : Cache) (recs recs' : List Record) (hsid : sid < 65536)
    (hlen : 4 + (b ++ pad).length < 65536) (hlook : lookupTpl cache addr sid = (otr, none))
    (hloop : ∀ ctx : Ctx, ctx = ⟨addr, sid, 4 + (b ++ pad).length, c, otr.getD emptyTpl⟩ →
      Left ctx (c + 4) (b.length + pad.length) →
      setLoop ctx fuel ⟨⟨b ++ (pad ++ rest), c + 4⟩, cache, recs⟩ =
        (⟨⟨pad ++ rest, c + 4 + b.length⟩, cache', recs'⟩, none)) :
    decodeSet addr fuel ⟨⟨Wire.V9.encodeSet sid b pad ++ rest, c⟩, cache, recs⟩ =
      (⟨⟨rest, c + (Wire.V9.encodeSet sid b pad).length⟩, cache', recs'⟩, none) := by
  have hleft : Left ⟨addr, sid, 4 + (b ++ pad).length, c, otr.getD emptyTpl⟩ (c + 4) (b.length + pad.length) := by
    simp only [Left, leftInt, List.length_append]; omega
  rw [encodeSet_length]
  simp only [decodeSet, Wire.V9.encodeSet, List.append_assoc, rU16_be16 sid hsid,
    rU16_be16 _ hlen, if_neg (Nat.not_lt.2 (Nat.le_add_right 4 _)), setBody, hlook, hloop _ rfl hleft]
  -- the leftover is the padding
  have hl : leftInt ⟨addr, sid, 4 + (b ++ pad).length, c, otr.getD emptyTpl⟩ ⟨pad ++ rest, c + 4 + b.length⟩ =
      (pad.length : Int) := by
    simp only [leftInt, List.length_append]; omega
  simp only [skipRest, hl, reduceCtorEq, if_false, Int.toNat_natCast]
  by_cases hp : pad.length = 0
  · rw [List.eq_nil_of_length_eq_zero hp]
    simp [Nat.add_assoc]
  · rw [if_pos (by omega), readN_append]
    simp only [Nat.add_assoc]

theorem setLoop_data (ctx : Ctx) (hsid : 255 < ctx.setId) (hbig : 0 < Wire.V9.recLen ctx.tr)
    (records : List (List Bytes)) (pad rest : Bytes) (fuel : Nat) (st : St)
    (hrec : ∀ x ∈ records, Wire.V9.wfRecord ctx.tr x = true) (hpad : pad.length < Wire.V9.recLen ctx.tr)
    (hrem : st.r.rem = body ctx.tr records ++ (pad ++ rest))
    (hleft : leftInt ctx st.r = (((body ctx.tr records).length + pad.length : Nat) : Int))
    (hfuel : records.length < fuel) :
    setLoop ctx fuel st =
      ({ st with r := ⟨pad ++ rest, st.r.cnt + (body ctx.tr records).length⟩,
                 recs := st.recs ++ records.map (expectedRecord ctx.tr) }, none) := by
  obtain ⟨⟨rem, c⟩, cache, recs⟩ := st
  subst hrem
  have hmin : minLeft ctx = Wire.V9.recLen ctx.tr := by
    rw [minLeft, if_pos hsid, minRecLen_spec, if_neg (by omega)]
  have := setLoop_items ctx (Wire.V9.encodeRecord ctx.tr) (fun _ => []) (fun x => [expectedRecord ctx.tr x])
    pad rest (hmin ▸ hpad) records fuel c cache recs
    (fun x hx => ⟨by rw [hmin, encodeRecord_length _ x (hrec x hx)]; exact Nat.le_refl _,
      setLoop_record ctx hsid hbig x (hrec x hx)⟩)
    hleft hfuel
  rw [flatMap_nil', ← List.map_eq_flatMap] at this
  exact this

theorem decodeSet_data (addr : Bytes) (t : Template) (records : List (List Bytes)) (pad rest : Bytes)
    (c fuel : Nat) (cache : Cache) (recs : List Record)
    (hw : Wire.V9.wfSet addr cache (.data t records pad) = true) (hfuel : records.length < fuel) :
    decodeSet addr fuel ⟨⟨Wire.V9.encodeDataSet t records pad ++ rest, c⟩, cache, recs⟩ =
      (⟨⟨rest, c + (Wire.V9.encodeDataSet t records pad).length⟩, cache,
        recs ++ records.map (expectedRecord t)⟩, none) := by
  simp only [Wire.V9.wfSet, Wire.V9.wfSetLen, Wire.V9.wfDataPad, Bool.and_eq_true, decide_eq_true_eq, beq_iff_eq,
    List.all_eq_true] at hw
  obtain ⟨⟨⟨⟨⟨⟨h255, h64k⟩, hlk⟩, hbig⟩, _⟩, hrec⟩, hpad, hlen⟩ := hw
  refine decodeSet_of_setLoop addr t.tid (some t) _ pad rest c fuel cache _ recs _ h64k hlen
    (by simp only [lookupTpl, if_pos h255, hlk]) fun ctx hctx hleft => ?_
  subst hctx
  exact setLoop_data _ h255 hbig records pad rest fuel _ hrec hpad rfl hleft hfuel

theorem wfSpec_iff (s : Spec) :
    Wire.V9.wfSpec s = true ↔ s.id < 65536 ∧ s.len < 65536 ∧ s.ent = 0 := by
  simp only [Wire.V9.wfSpec, Bool.and_eq_true, decide_eq_true_eq, beq_iff_eq, and_assoc]

theorem encodeSpec_length (s : Spec) : (Wire.V9.encodeSpec s).length = 4 := by
  simp [Wire.V9.encodeSpec, be16_length]

theorem readSpec_roundtrip (s : Spec) (hw : Wire.V9.wfSpec s = true) (rest : Bytes) (c : Nat) :
    readSpec ⟨Wire.V9.encodeSpec s ++ rest, c⟩ = (.ok s, ⟨rest, c + (Wire.V9.encodeSpec s).length⟩) := by
  obtain ⟨h1, h2, h3⟩ := (wfSpec_iff s).1 hw
  obtain ⟨id, len, ent⟩ := s
  simp only at h1 h2 h3
  subst h3
  simp only [readSpec, Wire.V9.encodeSpec, List.append_assoc, rU16_be16 id h1, rU16_be16 len h2,
    List.length_append, be16_length, Nat.add_assoc]

theorem readSpecs_roundtrip : ∀ (specs : List Spec) (rest : Bytes) (c : Nat) (acc : List Spec),
    specs.all Wire.V9.wfSpec = true →
    readSpecs specs.length ⟨(specs.map Wire.V9.encodeSpec).flatten ++ rest, c⟩ acc =
      (.ok (acc ++ specs), ⟨rest, c + (specs.map Wire.V9.encodeSpec).flatten.length⟩)
  | [], rest, c, acc, _ => by simp [readSpecs]
  | s :: ss, rest, c, acc, hw => by
    simp only [List.all_cons, Bool.and_eq_true] at hw
    simp only [List.length_cons, readSpecs, List.map_cons, List.flatten_cons, List.append_assoc,
      readSpec_roundtrip s hw.1, readSpecs_roundtrip ss rest _ (acc ++ [s]) hw.2, List.singleton_append,
      List.length_append, Nat.add_assoc]

theorem wfTemplate_iff (t : Template) :
    Wire.V9.wfTemplate t = true ↔
      t.tid < 65536 ∧ t.scope = [] ∧ t.cnt = t.fields.length ∧ t.scnt = 0 ∧ 1 ≤ t.fields.length ∧
      t.fields.length < 65536 ∧ t.fields.all Wire.V9.wfSpec = true := by
  simp only [Wire.V9.wfTemplate, Bool.and_eq_true, decide_eq_true_eq, beq_iff_eq, and_assoc]

theorem parseTpl_roundtrip (t : Template) (hw : Wire.V9.wfTemplate t = true) (rest : Bytes) (c : Nat) :
    parseTpl ⟨Wire.V9.encodeTemplate t ++ rest, c⟩ =
      (.ok t, ⟨rest, c + (Wire.V9.encodeTemplate t).length⟩) := by
  obtain ⟨h1, h2, h3, h4, _, h6, h7⟩ := (wfTemplate_iff t).1 hw
  obtain ⟨tid, cnt, scnt, scope, fields⟩ := t
  simp only at h1 h2 h3 h4 h6 h7
  subst h2 h3 h4
  simp only [parseTpl, Wire.V9.encodeTemplate, List.append_assoc, rU16_be16 tid h1, rU16_be16 _ h6,
    readSpecs_roundtrip fields rest _ [] h7, List.nil_append, List.length_append, be16_length, Nat.add_assoc]

theorem wfOptTemplate_iff (t : Template) :
    Wire.V9.wfOptTemplate t = true ↔
      t.tid < 65536 ∧ t.cnt = 0 ∧ t.scnt = 0 ∧ 4 * t.scope.length < 65536 ∧
      4 * t.fields.length < 65536 ∧ t.scope.all Wire.V9.wfSpec = true ∧
      t.fields.all Wire.V9.wfSpec = true := by
  simp only [Wire.V9.wfOptTemplate, Bool.and_eq_true, decide_eq_true_eq, beq_iff_eq, and_assoc]

theorem parseOptTpl_roundtrip (t : Template) (hw : Wire.V9.wfOptTemplate t = true) (rest : Bytes)
    (c : Nat) :
    parseOptTpl ⟨Wire.V9.encodeOptTemplate t ++ rest, c⟩ =
      (.ok t, ⟨rest, c + (Wire.V9.encodeOptTemplate t).length⟩) := by
  obtain ⟨h1, h2, h3, h4, h5, h6, h7⟩ := (wfOptTemplate_iff t).1 hw
  obtain ⟨tid, cnt, scnt, scope, fields⟩ := t
  simp only at h1 h2 h3 h4 h5 h6 h7
  subst h2 h3
  -- the header carries the two lengths in octets, four per specifier
  simp only [parseOptTpl, Wire.V9.encodeOptTemplate, List.append_assoc, rU16_be16 tid h1, rU16_be16 _ h4,
    rU16_be16 _ h5, Nat.mul_div_cancel_left _ (by decide : 0 < 4)]
  rw [readSpecs_roundtrip scope _ _ [] h6]
  simp only []
  rw [readSpecs_roundtrip fields rest _ [] h7]
  simp only [List.nil_append, List.length_append, be16_length, Nat.add_assoc]

theorem decodeSet_templates (addr : Bytes) (sid : Nat) (hsid : sid = 0 ∨ sid = 1) (enc : Template → Bytes)
    (parse : Rd → Except Err Template × Rd)
    (hsel : ∀ r, (if sid = 0 then parseTpl r else parseOptTpl r) = parse r)
    (ts : List Template) (pad rest : Bytes) (c fuel : Nat) (cache : Cache) (recs : List Record)
    (hts : ∀ t ∈ ts, 4 < (enc t).length ∧
      ∀ tail c, parse ⟨enc t ++ tail, c⟩ = (.ok t, ⟨tail, c + (enc t).length⟩))
    (hpad : pad.length ≤ 4) (hlen : 4 + ((ts.map enc).flatten ++ pad).length < 65536)
    (hfuel : ts.length < fuel) :
    decodeSet addr fuel ⟨⟨Wire.V9.encodeSet sid (ts.map enc).flatten pad ++ rest, c⟩, cache, recs⟩ =
      (⟨⟨rest, c + (Wire.V9.encodeSet sid (ts.map enc).flatten pad).length⟩, insertAll addr cache ts,
        recs⟩, none) := by
  have h255 : ¬ sid > 255 := by omega
  refine decodeSet_of_setLoop addr sid none _ pad rest c fuel cache _ recs _ (by omega) hlen
    (by simp only [lookupTpl, if_neg h255]) fun ctx hctx hleft => ?_
  subst hctx
  have := setLoop_items _ enc (fun t => [t]) (fun _ => []) pad rest
    (by simp only [minLeft, if_neg h255]; omega) ts fuel (c + 4) cache recs
    (fun t ht => ⟨by simp only [minLeft, if_neg h255]; have := (hts t ht).1; omega,
      setLoop_template _ hsid enc parse hsel t (hts t ht).2⟩)
    hleft hfuel
  rw [flatMap_nil', List.flatMap_singleton', List.append_nil] at this
  exact this

theorem wfTemplate_wire {t : Template} (hw : Wire.V9.wfTemplate t = true) :
    4 < (Wire.V9.encodeTemplate t).length ∧
    ∀ tail c, parseTpl ⟨Wire.V9.encodeTemplate t ++ tail, c⟩ =
      (.ok t, ⟨tail, c + (Wire.V9.encodeTemplate t).length⟩) := by
  refine ⟨?_, parseTpl_roundtrip t hw⟩
  -- at least one 4-octet specifier behind the 4-octet header
  obtain ⟨_, _, _, _, h5, _, _⟩ := (wfTemplate_iff t).1 hw
  cases hf : t.fields with
  | nil => simp [hf] at h5
  | cons s ss =>
    simp only [Wire.V9.encodeTemplate, hf, List.map_cons, List.flatten_cons, List.length_append, be16_length,
      encodeSpec_length]
    omega

theorem wfOptTemplate_wire {t : Template} (hw : Wire.V9.wfOptTemplate t = true) :
    4 < (Wire.V9.encodeOptTemplate t).length ∧
    ∀ tail c, parseOptTpl ⟨Wire.V9.encodeOptTemplate t ++ tail, c⟩ =
      (.ok t, ⟨tail, c + (Wire.V9.encodeOptTemplate t).length⟩) :=
  ⟨by simp only [Wire.V9.encodeOptTemplate, List.length_append, be16_length]; omega,
    parseOptTpl_roundtrip t hw⟩

theorem decodeSet_tpl (addr : Bytes) (ts : List Template) (pad rest : Bytes)
    (c fuel : Nat) (cache : Cache) (recs : List Record)
    (hw : Wire.V9.wfSet addr cache (.tpl ts pad) = true) (hfuel : ts.length < fuel) :
    decodeSet addr fuel ⟨⟨Wire.V9.encodeTemplateSet ts pad ++ rest, c⟩, cache, recs⟩ =
      (⟨⟨rest, c + (Wire.V9.encodeTemplateSet ts pad).length⟩, insertAll addr cache ts, recs⟩, none) := by
  simp only [Wire.V9.wfSet, Wire.V9.wfSetLen, Wire.V9.wfTplPad, Bool.and_eq_true, decide_eq_true_eq,
    List.all_eq_true] at hw
  obtain ⟨⟨_, hts⟩, hpad, hlen⟩ := hw
  exact decodeSet_templates addr 0 (.inl rfl) _ parseTpl (fun _ => if_pos rfl) ts pad rest c fuel cache recs
    (fun t ht => wfTemplate_wire (hts t ht)) hpad hlen hfuel

theorem decodeSet_optTpl (addr : Bytes) (ts : List Template) (pad rest : Bytes)
    (c fuel : Nat) (cache : Cache) (recs : List Record)
    (hw : Wire.V9.wfSet addr cache (.optTpl ts pad) = true) (hfuel : ts.length < fuel) :
    decodeSet addr fuel ⟨⟨Wire.V9.encodeOptTemplateSet ts pad ++ rest, c⟩, cache, recs⟩ =
      (⟨⟨rest, c + (Wire.V9.encodeOptTemplateSet ts pad).length⟩, insertAll addr cache ts, recs⟩, none) := by
  simp only [Wire.V9.wfSet, Wire.V9.wfSetLen, Wire.V9.wfTplPad, Bool.and_eq_true, decide_eq_true_eq,
    List.all_eq_true] at hw
  obtain ⟨⟨_, hts⟩, hpad, hlen⟩ := hw
  exact decodeSet_templates addr 1 (.inr rfl) _ parseOptTpl (fun _ => if_neg (by decide)) ts pad rest c fuel
    cache recs (fun t ht => wfOptTemplate_wire (hts t ht)) hpad hlen hfuel

theorem applySet_acc (addr : Bytes) (recs : List Record) (c : Cache) (s : Wire.V9.FlowSet) :
    Wire.V9.applySet addr (recs, c) s =
      (recs ++ (Wire.V9.applySet addr ([], c) s).1, (Wire.V9.applySet addr ([], c) s).2) := by
  cases s <;> simp [Wire.V9.applySet]

theorem decodeSet_flowSet (addr : Bytes) (s : Wire.V9.FlowSet) (cache : Cache)
    (hw : Wire.V9.wfSet addr cache s = true) :
    4 < (Wire.V9.encodeFlowSet s).length ∧ ∀ (rest : Bytes) (c fuel : Nat) (recs : List Record),
      (Wire.V9.encodeFlowSet s).length < fuel →
      decodeSet addr fuel ⟨⟨Wire.V9.encodeFlowSet s ++ rest, c⟩, cache, recs⟩ =
        (⟨⟨rest, c + (Wire.V9.encodeFlowSet s).length⟩, (Wire.V9.applySet addr (recs, cache) s).2,
          (Wire.V9.applySet addr (recs, cache) s).1⟩, none) := by
  -- each flowset has at least one item, and no more items than octets
  have hw' := hw
  cases s with
  | tpl ts pad =>
    simp only [Wire.V9.wfSet, Bool.and_eq_true, Bool.not_eq_true', List.isEmpty_eq_false_iff,
      List.all_eq_true] at hw'
    have := length_le_flatten_map Wire.V9.encodeTemplate ts fun t ht => by
      have := (wfTemplate_wire (hw'.1.2 t ht)).1; omega
    have := List.length_pos_iff.2 hw'.1.1
    have hl : (Wire.V9.encodeFlowSet (.tpl ts pad)).length = _ := encodeSet_length _ _ _
    exact ⟨by omega, fun rest c fuel recs hfuel => decodeSet_tpl addr ts pad rest c fuel cache recs hw (by omega)⟩
  | optTpl ts pad =>
    simp only [Wire.V9.wfSet, Bool.and_eq_true, Bool.not_eq_true', List.isEmpty_eq_false_iff,
      List.all_eq_true] at hw'
    have := length_le_flatten_map Wire.V9.encodeOptTemplate ts fun t ht => by
      have := (wfOptTemplate_wire (hw'.1.2 t ht)).1; omega
    have := List.length_pos_iff.2 hw'.1.1
    have hl : (Wire.V9.encodeFlowSet (.optTpl ts pad)).length = _ := encodeSet_length _ _ _
    exact ⟨by omega, fun rest c fuel recs hfuel => decodeSet_optTpl addr ts pad rest c fuel cache recs hw (by omega)⟩
  | data t records pad =>
    simp only [Wire.V9.wfSet, Bool.and_eq_true, Bool.not_eq_true', List.isEmpty_eq_false_iff,
      List.all_eq_true, decide_eq_true_eq] at hw'
    have := length_le_flatten_map (Wire.V9.encodeRecord t) records fun x hx => by
      rw [encodeRecord_length t x (hw'.1.2 x hx)]; exact hw'.1.1.1.2
    have := List.length_pos_iff.2 hw'.1.1.2
    have hl : (Wire.V9.encodeFlowSet (.data t records pad)).length = _ := encodeSet_length _ _ _
    exact ⟨by omega, fun rest c fuel recs hfuel => decodeSet_data addr t records pad rest c fuel cache recs hw (by omega)⟩

theorem outer_roundtrip (addr : Bytes) : ∀ (sets : List Wire.V9.FlowSet) (cache : Cache)
    (recs : List Record) (c fuel : Nat) (errs : List Err),
    Wire.V9.wfSets addr cache sets = true → (sets.map Wire.V9.encodeFlowSet).flatten.length < fuel →
    outer addr fuel ⟨⟨(sets.map Wire.V9.encodeFlowSet).flatten, c⟩, cache, recs⟩ errs =
      (⟨⟨[], c + (sets.map Wire.V9.encodeFlowSet).flatten.length⟩,
        (sets.foldl (Wire.V9.applySet addr) (recs, cache)).2,
        (sets.foldl (Wire.V9.applySet addr) (recs, cache)).1⟩, none, errs)
  | [], cache, recs, c, fuel + 1, errs, _, _ => by simp [outer]
  | s :: ss, cache, recs, c, fuel + 1, errs, hw, hf => by
    simp only [Wire.V9.wfSets, Bool.and_eq_true] at hw
    obtain ⟨hlen, hdec⟩ := decodeSet_flowSet addr s cache hw.1
    simp only [List.map_cons, List.flatten_cons, List.length_append] at hf ⊢
    rw [outer, if_pos (by simp only [List.length_append]; omega),
      hdec _ _ _ _ (by simp only [List.length_append]; omega)]
    simp only
    rw [applySet_acc, outer_roundtrip addr ss _ _ _ fuel errs hw.2 (by omega)]
    simp only [List.foldl_cons, Nat.add_assoc]
    rw [applySet_acc addr recs cache s]

theorem readHeader_roundtrip (m : Wire.V9.Msg) (rest : Bytes)
    (h1 : m.count < 65536) (h2 : m.upTime < 4294967296) (h3 : m.secs < 4294967296)
    (h4 : m.seq < 4294967296) (h5 : m.srcId < 4294967296) :
    readHeader ⟨Wire.V9.encodeHeader m ++ rest, 0⟩ = some (Wire.V9.expectedHdr m, ⟨rest, 20⟩) := by
  simp only [readHeader, Wire.V9.encodeHeader, List.append_assoc, rU16_be16 9 (by decide), rU16_be16 _ h1,
    rU32_be32 _ h2, rU32_be32 _ h3, rU32_be32 _ h4, rU32_be32 _ h5]
  rfl

theorem decode_roundtrip (c : Cache) (addr : Bytes) (m : Wire.V9.Msg)
    (hw : Wire.V9.wfMsg addr c m = true) :
    decode c addr (Wire.V9.encodeMsg m) =
      (.ok (Wire.V9.expectedHdr m, (Wire.V9.expected addr c m).1, []), (Wire.V9.expected addr c m).2) := by
  simp only [Wire.V9.wfMsg, Bool.and_eq_true, decide_eq_true_eq] at hw
  obtain ⟨⟨⟨⟨⟨h1, h2⟩, h3⟩, h4⟩, h5⟩, hsets⟩ := hw
  simp only [decode, Wire.V9.encodeMsg]
  rw [readHeader_roundtrip m _ h1 h2 h3 h4 h5]
  simp only [Wire.V9.expectedHdr, List.headD_cons, ne_eq, not_true_eq_false, if_false]
  rw [outer_roundtrip addr m.sets c [] 20 _ [] hsets (by simp only [List.length_append]; omega)]
  rfl

end Vflow.V9
