import Vflow.Spec.JsonText
import Vflow.Proofs.JsonLex
/-!
# The scanner accepts every rendered tree and no proper prefix of a rendered object / array

About `Spec.jsonValid`, the port of Go's `encoding/json` scanner (`Spec/JsonText.lean`), and the RFC 8259 trees of
`Spec/Json.lean`.  `render_valid`: by recursion over the tree, reading `render j` from a state that expects a value
leaves the parse stack as it was and ends in a state in which a value has just ended.  `valid_prefix_rejected`: after
an opening bracket the parse stack stays non-empty until the matching bracket moves the scanner to `endTop` (`Open`
is an invariant of `step`); with a non-empty stack the end of input never accepts; from `endTop` anything but
whitespace is an error, and errors are final.
-/
namespace Vflow.JsonScan
open Vflow Vflow.Spec
open Vflow.JsonLex (isDigit_iff beq_outside)

theorem run_append (s : Scan) (a b : Bytes) : run s (a ++ b) = run (run s a) b := List.foldl_append ..
theorem run_cons (s : Scan) (c : UInt8) (t : Bytes) : run s (c :: t) = run (step s c) t := rfl
theorem run_nil (s : Scan) : run s [] = s := rfl

/-! ## Numbers and strings -/

theorem mem_takeWhile_digit {x : UInt8} : ∀ {l : Bytes}, x ∈ l.takeWhile isDigit → isDigit x = true
  | c :: t, h => by
    rw [List.takeWhile_cons] at h
    split at h
    · rcases List.mem_cons.mp h with rfl | h
      · assumption
      · exact mem_takeWhile_digit h
    · cases h

/-- the states in which a number text may end: after `0`, after further integer digits, after fraction digits, after
exponent digits -/
def NumEnd (st : St) : Prop := st = .n0 ∨ st = .n1 ∨ st = .dot0 ∨ st = .e0

theorem digits1_all : ∀ l, digits1 l = true → l ≠ [] ∧ ∀ c ∈ l, isDigit c = true
  | [c], h => by simpa [digits1] using h
  | c :: d :: t, h => by
    simp only [digits1, Bool.and_eq_true] at h
    exact ⟨List.cons_ne_nil _ _, List.forall_mem_cons.mpr ⟨h.1, (digits1_all (d :: t) h.2).2⟩⟩

theorem run_stay (s : Scan) (l : Bytes) (h : ∀ c ∈ l, step s c = s) : run s l = s := by
  induction l with
  | nil => rfl
  | cons c t ih =>
    rw [run_cons, h c (List.mem_cons_self ..)]
    exact ih fun x hx => h x (List.mem_cons_of_mem _ hx)

section digit
variable (σ : List PS) {c : UInt8} (h : isDigit c = true)
include h
theorem step_n1_digit : step ⟨.n1, σ⟩ c = ⟨.n1, σ⟩ := by simp [step, h]
theorem step_dot_digit : step ⟨.dot, σ⟩ c = ⟨.dot0, σ⟩ := by simp [step, h]
theorem step_dot0_digit : step ⟨.dot0, σ⟩ c = ⟨.dot0, σ⟩ := by simp [step, h]
theorem step_e_digit : step ⟨.e, σ⟩ c = ⟨.e0, σ⟩ := by simp [step, stepESign, h, beq_outside (isDigit_iff.mp h)]
theorem step_eSign_digit : step ⟨.eSign, σ⟩ c = ⟨.e0, σ⟩ := by simp [step, stepESign, h]
theorem step_e0_digit : step ⟨.e0, σ⟩ c = ⟨.e0, σ⟩ := by simp [step, h]
end digit

theorem step_digit19 (σ : List PS) {c : UInt8} (h : 49 ≤ c ∧ c ≤ 57) :
    step ⟨.beginValue, σ⟩ c = ⟨.n1, σ⟩ ∧ step ⟨.neg, σ⟩ c = ⟨.n1, σ⟩ := by
  simp [step, stepBeginValue, isSpace, beq_outside h, h.1, h.2]

theorem run_digits1 (σ : List PS) (a b : St)
    (hab : ∀ c, isDigit c = true → step ⟨a, σ⟩ c = ⟨b, σ⟩) (hbb : ∀ c, isDigit c = true → step ⟨b, σ⟩ c = ⟨b, σ⟩)
    (l : Bytes) (hne : l ≠ []) (hl : ∀ c ∈ l, isDigit c = true) : run ⟨a, σ⟩ l = ⟨b, σ⟩ := by
  cases l with
  | nil => exact absurd rfl hne
  | cons c t =>
    rw [run_cons, hab c (hl c (List.mem_cons_self ..))]
    exact run_stay _ _ fun x hx => hbb x (hl x (List.mem_cons_of_mem _ hx))

theorem run_expOpt (σ : List PS) (st : St) (hst : st = .n0 ∨ st = .n1 ∨ st = .dot0) (l : Bytes)
    (h : isExpOpt l = true) : ∃ st', NumEnd st' ∧ run ⟨st, σ⟩ l = ⟨st', σ⟩ := by
  cases l with
  | nil => exact ⟨st, by rcases hst with r|r|r <;> simp [NumEnd, r], rfl⟩
  | cons c t =>
    simp only [isExpOpt, Bool.and_eq_true, Bool.or_eq_true, beq_iff_eq] at h
    obtain ⟨hc, ht⟩ := h
    have e1 : step ⟨st, σ⟩ c = ⟨.e, σ⟩ := by
      rcases hst with rfl|rfl|rfl <;> rcases hc with rfl|rfl <;> rfl
    refine ⟨.e0, Or.inr (Or.inr (Or.inr rfl)), ?_⟩
    rw [run_cons, e1]
    split at ht
    · rename_i s t'
      split at ht
      · rename_i hs
        have e2 : step ⟨.e, σ⟩ s = ⟨.eSign, σ⟩ := by
          rcases hs with rfl|rfl <;> rfl
        rw [run_cons, e2]
        have := digits1_all _ ht
        exact run_digits1 σ .eSign .e0 (fun c => step_eSign_digit σ) (fun c => step_e0_digit σ) _ this.1 this.2
      · have := digits1_all _ ht
        exact run_digits1 σ .e .e0 (fun c => step_e_digit σ) (fun c => step_e0_digit σ) _ this.1 this.2
    · cases ht

theorem run_fracExpOpt (σ : List PS) (st : St) (hst : st = .n0 ∨ st = .n1) (l : Bytes)
    (h : isFracExpOpt l = true) : ∃ st', NumEnd st' ∧ run ⟨st, σ⟩ l = ⟨st', σ⟩ := by
  unfold isFracExpOpt at h
  split at h
  · rename_i t
    simp only [Bool.and_eq_true, Bool.not_eq_true', List.isEmpty_eq_false_iff] at h
    have e1 : step ⟨st, σ⟩ 46 = ⟨.dot, σ⟩ := by rcases hst with rfl|rfl <;> rfl
    have e2 := run_digits1 σ .dot .dot0 (fun c => step_dot_digit σ) (fun c => step_dot0_digit σ) _ h.1
      fun c => mem_takeWhile_digit
    obtain ⟨st', hn, hr⟩ := run_expOpt σ .dot0 (Or.inr (Or.inr rfl)) _ h.2
    refine ⟨st', hn, ?_⟩
    rw [run_cons, e1, ← List.takeWhile_append_dropWhile (p := isDigit) (l := t), run_append, e2, hr]
  · exact run_expOpt σ st (by rcases hst with r|r <;> simp [r]) _ h

theorem run_unsigned (σ : List PS) (st : St) (hst : st = .beginValue ∨ st = .neg) (l : Bytes)
    (h : isUnsignedNumber l = true) : ∃ st', NumEnd st' ∧ run ⟨st, σ⟩ l = ⟨st', σ⟩ := by
  unfold isUnsignedNumber at h
  split at h
  · have e1 : step ⟨st, σ⟩ 48 = ⟨.n0, σ⟩ := by rcases hst with rfl|rfl <;> rfl
    rw [run_cons, e1]
    exact run_fracExpOpt σ .n0 (Or.inl rfl) _ h
  · rename_i c t _
    simp only [Bool.and_eq_true, decide_eq_true_eq] at h
    have e1 : step ⟨st, σ⟩ c = ⟨.n1, σ⟩ := by
      rcases hst with rfl|rfl
      · exact (step_digit19 σ h.1).1
      · exact (step_digit19 σ h.1).2
    have e2 : run ⟨.n1, σ⟩ (t.takeWhile isDigit) = ⟨.n1, σ⟩ :=
      run_stay _ _ fun x hx => step_n1_digit σ (mem_takeWhile_digit hx)
    obtain ⟨st', hn, hr⟩ := run_fracExpOpt σ .n1 (Or.inr rfl) _ h.2
    refine ⟨st', hn, ?_⟩
    rw [run_cons, e1, ← List.takeWhile_append_dropWhile (p := isDigit) (l := t), run_append, e2, hr]
  · cases h

theorem run_number (σ : List PS) (d : Bytes) (h : isNumber d = true) :
    ∃ st', NumEnd st' ∧ run ⟨.beginValue, σ⟩ d = ⟨st', σ⟩ := by
  unfold isNumber at h
  split at h
  · exact run_unsigned σ .neg (Or.inr rfl) _ h
  · exact run_unsigned σ .beginValue (Or.inl rfl) _ h

theorem step_hex {c : UInt8} (h : isHexDigit c = true) (σ : List PS) :
    step ⟨.escU, σ⟩ c = ⟨.escU1, σ⟩ ∧ step ⟨.escU1, σ⟩ c = ⟨.escU12, σ⟩ ∧
    step ⟨.escU12, σ⟩ c = ⟨.escU123, σ⟩ ∧ step ⟨.escU123, σ⟩ c = ⟨.inString, σ⟩ := by
  simp [step, h]

theorem run_strBody (σ : List PS) : ∀ s, isStrBody s = true → run ⟨.inString, σ⟩ s = ⟨.inString, σ⟩ := by
  intro s
  fun_induction isStrBody s with
  | case1 => intro; rfl
  | case2 a b c d t ih =>
    intro h
    simp only [Bool.and_eq_true] at h
    obtain ⟨⟨⟨⟨ha, hb⟩, hc⟩, hd⟩, ht⟩ := h
    have e1 : step ⟨.inString, σ⟩ 92 = ⟨.inStringEsc, σ⟩ := rfl
    have e2 : step ⟨.inStringEsc, σ⟩ 117 = ⟨.escU, σ⟩ := rfl
    rw [run_cons, e1, run_cons, e2, run_cons, (step_hex ha σ).1, run_cons, (step_hex hb σ).2.1,
      run_cons, (step_hex hc σ).2.2.1, run_cons, (step_hex hd σ).2.2.2]
    exact ih ht
  | case3 e t hne ih =>
    intro h
    simp only [Bool.and_eq_true] at h
    obtain ⟨he, ht⟩ := h
    have e1 : step ⟨.inString, σ⟩ 92 = ⟨.inStringEsc, σ⟩ := rfl
    have e2 : step ⟨.inStringEsc, σ⟩ e = ⟨.inString, σ⟩ := by
      simp only [Bool.or_eq_true, beq_iff_eq] at he
      rcases he with ((((((rfl|rfl)|rfl)|rfl)|rfl)|rfl)|rfl)|rfl <;> rfl
    rw [run_cons, e1, run_cons, e2]
    exact ih ht
  | case4 c t h1 h2 ih =>
    intro h
    simp only [Bool.and_eq_true, bne_iff_ne, ne_eq, decide_eq_true_eq] at h
    obtain ⟨⟨⟨h34, h92⟩, h32⟩, ht⟩ := h
    have e1 : step ⟨.inString, σ⟩ c = ⟨.inString, σ⟩ := by simp [step, h34, h92, UInt8.not_lt.mpr h32]
    rw [run_cons, e1]
    exact ih ht

theorem run_string (σ : List PS) (s : Bytes) (h : isStrBody s = true) :
    run ⟨.inString, σ⟩ (s ++ [q]) = ⟨.endValue, σ⟩ := by
  rw [run_append, run_strBody σ s h]; rfl


/-! ## Trees (`q` is `Spec.q`, the octet of `"`) -/

mutual
def depth : Json → Nat
  | .arr xs => depthL xs + 1
  | .obj ms => depthM ms + 1
  | _ => 0
def depthL : JList → Nat
  | .nil => 0
  | .cons x xs => max (depth x) (depthL xs)
def depthM : JMembers → Nat
  | .nil => 0
  | .cons _ v ms => max (depth v) (depthM ms)
end

def commaList : JList → Bytes
  | .nil => []
  | .cons x xs => [44] ++ render x ++ commaList xs

def commaMembers : JMembers → Bytes
  | .nil => []
  | .cons k v ms => [44] ++ (q :: k ++ [q]) ++ [58] ++ render v ++ commaMembers ms

theorem renderList_cons : ∀ (x : Json) (xs : JList), renderList (.cons x xs) = render x ++ commaList xs
  | x, .nil => by simp [renderList, commaList]
  | x, .cons y ys => by simp only [renderList, commaList, renderList_cons y ys, List.append_assoc]

theorem renderMembers_cons : ∀ (k : Bytes) (v : Json) (ms : JMembers),
    renderMembers (.cons k v ms) = (q :: k ++ [q]) ++ [58] ++ render v ++ commaMembers ms
  | k, v, .nil => by simp [renderMembers, commaMembers]
  | k, v, .cons k' v' ms => by
    simp only [renderMembers, commaMembers, renderMembers_cons k' v' ms, List.append_assoc, List.cons_append]

/-- states in which a value has just ended (`endValue`, or a number that the next octet may end) -/
def EndLike (st : St) : Prop := st = .endValue ∨ NumEnd st

/-- a complete value has been read: `EndLike`, or — at top level only — `endTop` after a closing bracket -/
def Done (st : St) (σ : List PS) : Prop := EndLike st ∨ (st = .endTop ∧ σ = [])

/-- state after `popParseState` -/
def afterPop (σ : List PS) : St := match σ with | [] => .endTop | _ => .endValue

theorem pop_cons (st : St) (p : PS) (σ : List PS) : pop ⟨st, p :: σ⟩ = ⟨afterPop σ, σ⟩ := by
  cases σ <;> rfl

theorem done_afterPop (σ : List PS) : Done (afterPop σ) σ := by
  cases σ with
  | nil => exact Or.inr ⟨rfl, rfl⟩
  | cons p r => exact Or.inl (Or.inl rfl)

theorem Done.endLike {st : St} {p : PS} {σ : List PS} (h : Done st (p :: σ)) : EndLike st :=
  h.resolve_right fun h => List.cons_ne_nil _ _ h.2

theorem EndLike.cases {st : St} (h : EndLike st) :
    st = .endValue ∨ st = .n0 ∨ st = .n1 ∨ st = .dot0 ∨ st = .e0 := h

theorem step_comma_arr {st : St} (h : EndLike st) (σ : List PS) :
    step ⟨st, .arr :: σ⟩ 44 = ⟨.beginValue, .arr :: σ⟩ := by
  rcases h.cases with rfl|rfl|rfl|rfl|rfl <;> rfl
theorem step_close_arr {st : St} (h : EndLike st) (σ : List PS) :
    step ⟨st, .arr :: σ⟩ 93 = ⟨afterPop σ, σ⟩ := by
  rw [← pop_cons st .arr σ]
  rcases h.cases with rfl|rfl|rfl|rfl|rfl <;> rfl
theorem step_comma_obj {st : St} (h : EndLike st) (σ : List PS) :
    step ⟨st, .val :: σ⟩ 44 = ⟨.beginString, .key :: σ⟩ := by
  rcases h.cases with rfl|rfl|rfl|rfl|rfl <;> rfl
theorem step_close_obj {st : St} (h : EndLike st) (σ : List PS) :
    step ⟨st, .val :: σ⟩ 125 = ⟨afterPop σ, σ⟩ := by
  rw [← pop_cons st .val σ]
  rcases h.cases with rfl|rfl|rfl|rfl|rfl <;> rfl

theorem run_key (σ : List PS) (st : St) (hst : st = .beginString ∨ st = .beginStringOrEmpty) (k : Bytes)
    (hk : isStrBody k = true) (rest : Bytes) :
    run ⟨st, .key :: σ⟩ (q :: (k ++ q :: 58 :: rest)) = run ⟨.beginValue, .val :: σ⟩ rest := by
  have e1 : step ⟨st, .key :: σ⟩ q = ⟨.inString, .key :: σ⟩ := by rcases hst with rfl|rfl <;> rfl
  rw [run_cons, e1, ← List.singleton_append (l := 58 :: rest), ← List.append_assoc, run_append, run_string _ k hk]
  rfl

theorem push_ok (st : St) (σ : List PS) (p : PS) (succ : St) (h : σ.length + 1 ≤ maxNestingDepth) :
    push ⟨st, σ⟩ p succ = ⟨succ, p :: σ⟩ := if_pos h

/-- apart from skipping whitespace, `stateBeginValue` looks at the parse stack only -/
theorem stepBeginValue_congr (st st' : St) (σ : List PS) {c : UInt8} (h : isSpace c = false) :
    stepBeginValue ⟨st, σ⟩ c = stepBeginValue ⟨st', σ⟩ c := by
  dsimp only [stepBeginValue, push, Scan.err]
  rw [h]
  rfl

theorem number_head {d : Bytes} (h : isNumber d = true) : ∃ c t, d = c :: t ∧ (c = 45 ∨ isDigit c = true) := by
  unfold isNumber at h
  split at h
  · exact ⟨45, _, rfl, Or.inl rfl⟩
  · unfold isUnsignedNumber at h
    split at h
    · exact ⟨48, _, rfl, Or.inr rfl⟩
    · rename_i c t _ _
      simp only [Bool.and_eq_true, decide_eq_true_eq] at h
      exact ⟨c, t, rfl, Or.inr (isDigit_iff.mpr ⟨UInt8.le_trans (by decide) h.1.1, h.1.2⟩)⟩
    · cases h

theorem render_head : ∀ (j : Json), WF j → ∃ c t, render j = c :: t ∧ isSpace c = false ∧ c ≠ 93
  | .null, _ | .bool true, _ | .bool false, _ | .str _, _ | .arr _, _ | .obj _, _ => ⟨_, _, rfl, rfl, by decide⟩
  | .num d, h => by
    obtain ⟨c, t, rfl, hc⟩ := number_head h
    refine ⟨c, t, rfl, ?_⟩
    rcases hc with rfl | hc
    · exact ⟨rfl, by decide⟩
    · have hk := fun k => beq_outside (k := k) (isDigit_iff.mp hc)
      exact ⟨by simp [isSpace, hk], by simpa using hk 93⟩

/-- the text of a value begins with an octet that is neither whitespace nor `]`, so `beginValueOrEmpty` treats it as
`beginValue` does -/
theorem run_bvoe (j : Json) (hwf : WF j) (σ : List PS) :
    run ⟨.beginValueOrEmpty, σ⟩ (render j) = run ⟨.beginValue, σ⟩ (render j) := by
  obtain ⟨c, t, e, hs, h93⟩ := render_head j hwf
  rw [e, run_cons, run_cons]
  congr 1
  simp only [step, hs, Bool.false_eq_true, if_false, beq_eq_false_iff_ne.mpr h93]
  exact stepBeginValue_congr _ _ σ hs

theorem depthL_cons {n : Nat} {σ : List PS} {x : Json} {xs : JList} (p : PS) (h : σ.length + 1 + depthL (.cons x xs) ≤ n) :
    (p :: σ).length + depth x ≤ n ∧ σ.length + 1 + depthL xs ≤ n := by
  simp only [depthL, List.length_cons] at *; omega

theorem depthM_cons {n : Nat} {σ : List PS} {k : Bytes} {v : Json} {ms : JMembers} (p : PS)
    (h : σ.length + 1 + depthM (.cons k v ms) ≤ n) : (p :: σ).length + depth v ≤ n ∧ σ.length + 1 + depthM ms ≤ n := by
  simp only [depthM, List.length_cons] at *; omega

mutual
theorem run_value : ∀ (j : Json), WF j → ∀ (σ : List PS), σ.length + depth j ≤ maxNestingDepth →
    ∃ st, Done st σ ∧ run ⟨.beginValue, σ⟩ (render j) = ⟨st, σ⟩
  | .null, _, σ, _ => ⟨.endValue, Or.inl (Or.inl rfl), rfl⟩
  | .bool true, _, σ, _ => ⟨.endValue, Or.inl (Or.inl rfl), rfl⟩
  | .bool false, _, σ, _ => ⟨.endValue, Or.inl (Or.inl rfl), rfl⟩
  | .num d, h, σ, _ => by
    obtain ⟨st, hn, hr⟩ := run_number σ d h
    exact ⟨st, Or.inl (Or.inr hn), hr⟩
  | .str s, h, σ, _ => ⟨.endValue, Or.inl (Or.inl rfl), run_string σ s h⟩
  | .arr xs, h, σ, hd => by
    have hd' : σ.length + 1 + depthL xs ≤ maxNestingDepth := by simp only [depth] at hd; omega
    have e1 : step ⟨.beginValue, σ⟩ 91 = ⟨.beginValueOrEmpty, .arr :: σ⟩ :=
      push_ok _ σ _ _ (Nat.le_of_add_right_le hd')
    exact ⟨afterPop σ, done_afterPop σ, (congrArg (run · _) e1).trans (run_elems xs h σ hd')⟩
  | .obj ms, h, σ, hd => by
    have hd' : σ.length + 1 + depthM ms ≤ maxNestingDepth := by simp only [depth] at hd; omega
    have e1 : step ⟨.beginValue, σ⟩ 123 = ⟨.beginStringOrEmpty, .key :: σ⟩ :=
      push_ok _ σ _ _ (Nat.le_of_add_right_le hd')
    exact ⟨afterPop σ, done_afterPop σ, (congrArg (run · _) e1).trans (run_members ms h σ hd')⟩
theorem run_elems : ∀ (xs : JList), WFL xs → ∀ (σ : List PS), σ.length + 1 + depthL xs ≤ maxNestingDepth →
    run ⟨.beginValueOrEmpty, .arr :: σ⟩ (renderList xs ++ [93]) = ⟨afterPop σ, σ⟩
  | .nil, _, σ, _ => by
    rw [← pop_cons .beginValueOrEmpty .arr σ]; rfl
  | .cons x xs, h, σ, hd => by
    obtain ⟨st1, hd1, hr1⟩ := run_value x h.1 (.arr :: σ) (depthL_cons .arr hd).1
    obtain ⟨st2, hd2, hr2⟩ := run_commaList xs h.2 σ st1 hd1.endLike (depthL_cons .arr hd).2
    rw [renderList_cons, List.append_assoc, run_append, run_bvoe x h.1, hr1, run_append, hr2]
    exact step_close_arr hd2 σ
theorem run_commaList : ∀ (xs : JList), WFL xs → ∀ (σ : List PS) (st : St), EndLike st →
    σ.length + 1 + depthL xs ≤ maxNestingDepth →
    ∃ st', EndLike st' ∧ run ⟨st, .arr :: σ⟩ (commaList xs) = ⟨st', .arr :: σ⟩
  | .nil, _, σ, st, he, _ => ⟨st, he, rfl⟩
  | .cons x xs, h, σ, st, he, hd => by
    obtain ⟨st1, hd1, hr1⟩ := run_value x h.1 (.arr :: σ) (depthL_cons .arr hd).1
    obtain ⟨st2, hd2, hr2⟩ := run_commaList xs h.2 σ st1 hd1.endLike (depthL_cons .arr hd).2
    refine ⟨st2, hd2, ?_⟩
    rw [commaList, List.append_assoc, List.singleton_append, run_cons, step_comma_arr he, run_append, hr1, hr2]
theorem run_members : ∀ (ms : JMembers), WFM ms → ∀ (σ : List PS), σ.length + 1 + depthM ms ≤ maxNestingDepth →
    run ⟨.beginStringOrEmpty, .key :: σ⟩ (renderMembers ms ++ [125]) = ⟨afterPop σ, σ⟩
  | .nil, _, σ, _ => by
    rw [← pop_cons .beginStringOrEmpty .val σ]; rfl
  | .cons k v ms, h, σ, hd => by
    obtain ⟨st1, hd1, hr1⟩ := run_value v h.2.1 (.val :: σ) (depthM_cons .val hd).1
    obtain ⟨st2, hd2, hr2⟩ := run_commaMembers ms h.2.2 σ st1 hd1.endLike (depthM_cons .val hd).2
    simp only [renderMembers_cons, List.append_assoc, List.cons_append, List.nil_append]
    rw [run_key σ _ (Or.inr rfl) k h.1, run_append, hr1, run_append, hr2]
    exact step_close_obj hd2 σ
theorem run_commaMembers : ∀ (ms : JMembers), WFM ms → ∀ (σ : List PS) (st : St), EndLike st →
    σ.length + 1 + depthM ms ≤ maxNestingDepth →
    ∃ st', EndLike st' ∧ run ⟨st, .val :: σ⟩ (commaMembers ms) = ⟨st', .val :: σ⟩
  | .nil, _, σ, st, he, _ => ⟨st, he, rfl⟩
  | .cons k v ms, h, σ, st, he, hd => by
    obtain ⟨st1, hd1, hr1⟩ := run_value v h.2.1 (.val :: σ) (depthM_cons .val hd).1
    obtain ⟨st2, hd2, hr2⟩ := run_commaMembers ms h.2.2 σ st1 hd1.endLike (depthM_cons .val hd).2
    refine ⟨st2, hd2, ?_⟩
    simp only [commaMembers, List.append_assoc, List.cons_append, List.nil_append]
    rw [run_cons, step_comma_obj he, run_key σ _ (Or.inl rfl) k h.1, run_append, hr1, hr2]
end

/-! ## Every rendered tree is accepted -/

theorem accept_done {st : St} (h : Done st []) : accept ⟨st, []⟩ = true := by
  rcases h with h | ⟨rfl, _⟩
  · rcases h.cases with rfl|rfl|rfl|rfl|rfl <;> rfl
  · rfl

/-- **every well-formed tree renders to a text the scanner accepts** (nesting within Go's limit) -/
theorem render_valid (j : Json) (hwf : WF j) (hd : depth j ≤ maxNestingDepth) : jsonValid (render j) = true := by
  obtain ⟨st, hdone, hr⟩ := run_value j hwf [] (by simpa using hd)
  simp only [jsonValid, Scan.init, hr]
  exact accept_done hdone

/-! ## No proper prefix of an accepted bracketed text is accepted -/

/-- after the opening bracket: the parse stack is non-empty, or the top-level value is complete, or the scan has failed -/
def Open (s : Scan) : Prop := s.stack ≠ [] ∨ s.st = .endTop ∨ s.st = .error

theorem open_cons (st : St) (p : PS) (σ : List PS) : Open ⟨st, p :: σ⟩ := Or.inl (List.cons_ne_nil _ _)
theorem open_endTop (σ : List PS) : Open ⟨.endTop, σ⟩ := Or.inr (Or.inl rfl)
theorem open_error (σ : List PS) : Open ⟨.error, σ⟩ := Or.inr (Or.inr rfl)

theorem open_ite {c : Prop} [Decidable c] {a b : Scan} : Open (if c then a else b) ↔ (c → Open a) ∧ (¬ c → Open b) := by
  split <;> simp [*]

theorem open_push (s : Scan) (p : PS) (st : St) : Open (push s p st) := by
  simp only [push, open_ite, open_cons, implies_true, and_self]

theorem open_pop : ∀ (s : Scan), Open (pop s)
  | ⟨_, []⟩ => open_error _
  | ⟨_, [_]⟩ => open_endTop _
  | ⟨_, _ :: p :: r⟩ => open_cons _ p r

theorem open_stepEndTop (s : Scan) (c : UInt8) : Open (stepEndTop s c) := by
  simp only [stepEndTop, Scan.err, open_ite, open_endTop, open_error, implies_true, and_self]

theorem open_stepEndValue : ∀ (s : Scan) (c : UInt8), Open (stepEndValue s c)
  | ⟨_, []⟩, c => open_stepEndTop _ c
  | ⟨_, p :: r⟩, c => by
    cases p <;> simp only [stepEndValue, Scan.err, open_ite, open_cons, open_pop, implies_true, and_self]

/-- with a non-empty parse stack: every branch of `step` leaves the stack as it is, pushes, or goes through
`stateEndValue`, whose only way to an empty stack is `popParseState` -/
theorem open_step_cons (st : St) (p : PS) (r : List PS) (c : UInt8) : Open (step ⟨st, p :: r⟩ c) := by
  cases st <;> dsimp only [step, stepBeginValue, stepBeginString, step0, stepESign, expect, Scan.err] <;>
    simp only [open_ite, open_cons, open_push, open_stepEndValue, open_stepEndTop, implies_true, and_self]

theorem open_step : ∀ {s : Scan}, Open s → ∀ (c : UInt8), Open (step s c)
  | ⟨_, []⟩, .inl hne, _ => absurd rfl hne
  | ⟨_, _ :: _⟩, .inl _, _ => open_step_cons ..
  | ⟨_, _⟩, .inr (.inl rfl), c => open_stepEndTop _ c
  | ⟨_, _⟩, .inr (.inr rfl), _ => open_error _

theorem open_run : ∀ (l : Bytes) {s : Scan}, Open s → Open (run s l)
  | [], _, h => h
  | c :: t, _, h => open_run t (open_step h c)

/-- at the end of input `accept` feeds one space, as `scanner.eof` does; with a non-empty parse stack that never
reaches `endTop` -/
theorem step_space_not_endTop (st : St) (p : PS) (r : List PS) (hst : st ≠ .endTop) :
    (step ⟨st, p :: r⟩ 32).st ≠ .endTop := by
  cases st with
  | endTop => exact absurd rfl hst
  | _ => intro h; cases h

theorem run_endTop_nonspace (σ : List PS) : ∀ (l : Bytes), (∃ x ∈ l, isSpace x = false) →
    run ⟨.endTop, σ⟩ l = ⟨.error, σ⟩
  | c :: t, h => by
    rw [run_cons]
    cases hc : isSpace c with
    | true =>
      have e : step ⟨.endTop, σ⟩ c = ⟨.endTop, σ⟩ := by simp [step, stepEndTop, hc]
      rw [e]
      obtain ⟨x, hx, hs⟩ := h
      rcases List.mem_cons.mp hx with rfl | hx
      · rw [hc] at hs; cases hs
      · exact run_endTop_nonspace σ t ⟨x, hx, hs⟩
    | false =>
      have e : step ⟨.endTop, σ⟩ c = ⟨.error, σ⟩ := by simp [step, stepEndTop, hc, Scan.err]
      rw [e]
      exact run_stay _ _ fun _ _ => rfl

theorem Open.st_of_accept : ∀ {s : Scan}, Open s → accept s = true → s.st = .endTop
  | ⟨st, []⟩, .inl hne, _ => absurd rfl hne
  | ⟨st, p :: r⟩, .inl _, ha => by
    by_cases hst : st = .endTop
    · exact hst
    · simp only [accept, Bool.or_eq_true, beq_iff_eq] at ha
      exact ha.elim id fun h => absurd h (step_space_not_endTop st p r hst)
  | ⟨_, _⟩, .inr (.inl rfl), _ => rfl
  | ⟨_, _⟩, .inr (.inr rfl), ha => nomatch ha

theorem open_prefix_rejected (p r : Bytes) (hopen : Open (run .init p)) {z : UInt8} (hz : z ∈ r) (hs : isSpace z = false)
    (hv : jsonValid (p ++ r) = true) : jsonValid p = false := by
  rw [jsonValid, run_append] at hv
  rw [jsonValid, Bool.eq_false_iff]
  intro ha
  generalize run .init p = s at hopen hv ha
  obtain ⟨st, σ⟩ := s
  cases hopen.st_of_accept ha
  rw [run_endTop_nonspace σ r ⟨z, hz, hs⟩] at hv
  cases hv

/-- **no proper prefix of an accepted bracketed text is accepted**: `d` begins with `{` or `[`, does not end in
whitespace, and is accepted; then every proper prefix of `d` is rejected -/
theorem valid_prefix_rejected (d : Bytes) (c0 : UInt8) (t : Bytes) (hd : d = c0 :: t) (hc0 : c0 = 123 ∨ c0 = 91)
    (l : Bytes) (z : UInt8) (hlast : d = l ++ [z]) (hz : isSpace z = false) (hv : jsonValid d = true)
    (n : Nat) (hn : n < d.length) : jsonValid (d.take n) = false := by
  cases n with
  | zero => rfl
  | succ m =>
    have hzr : z ∈ d.drop (m + 1) := by
      apply List.mem_of_getLast?
      rw [List.getLast?_drop, if_neg (by omega), hlast, List.getLast?_concat]
    have hopen : Open (run .init (d.take (m + 1))) := by
      rw [hd, List.take_succ_cons, run_cons]
      apply open_run
      rcases hc0 with rfl | rfl
      · exact open_push .init .key .beginStringOrEmpty
      · exact open_push .init .arr .beginValueOrEmpty
    exact open_prefix_rejected _ _ hopen hzr hz (by rwa [List.take_append_drop])

def isContainer : Json → Bool
  | .arr _ => true
  | .obj _ => true
  | _ => false

/-- **no proper prefix of a rendered object or array is accepted** -/
theorem render_prefix_rejected (j : Json) (hwf : WF j) (hdep : depth j ≤ maxNestingDepth)
    (hc : isContainer j = true) (n : Nat) (hn : n < (render j).length) :
    jsonValid ((render j).take n) = false := by
  have hv := render_valid j hwf hdep
  cases j with
  | arr xs => exact valid_prefix_rejected _ 91 _ rfl (Or.inr rfl) ([91] ++ renderList xs) 93 rfl rfl hv n hn
  | obj ms => exact valid_prefix_rejected _ 123 _ rfl (Or.inl rfl) ([123] ++ renderMembers ms) 125 rfl rfl hv n hn
  | _ => cases hc

/-! ## Non-vacuity -/

example : jsonValid [123, 34, 97, 34, 58, 91, 49, 44, 116, 114, 117, 101, 93, 125] = true := by decide +kernel   -- {"a":[1,true]}
example : jsonValid [123, 34, 97, 34, 58, 91, 49, 44, 116, 114, 117, 101, 93] = false := by decide +kernel       -- {"a":[1,true]
example : jsonValid [49, 50] = true ∧ jsonValid [49] = true := by decide +kernel   -- a top-level number has accepted proper prefixes
example : jsonValid [91, 48, 49, 93] = false := by decide +kernel                  -- [01]
example : jsonValid [34, 92, 117, 100, 56, 48, 48, 34] = true := by decide +kernel  -- "\ud800": a lone surrogate is accepted

end Vflow.JsonScan
