import Vflow.Model.SflowCost
import Vflow.Proofs.SflowSafe
/-!
# The allocation count is linear in the datagram length

Every step is *paid for* (`Paid`) at 64 units per octet: a successful step costs at most 64 times what it consumed,
a failing one at most 1505 units more than 64 times what is left.  A step that allocates nothing of wire-derived
size is paid by the eight octets of its two words (`paid_of_good`); the one request that is not, the buffer of a
sampled header, is capped at 1503 octets (`hdrCost_ok`).
-/
namespace Vflow.Sflow
open Vflow Vflow.Packet

/-- the result `x` of a step on the octets `bs`, charged `c` units, is paid for at `K` units per octet: a success
pays with the octets it consumed, a failure costs at most `B` more than the octets that are left -/
def Paid {α : Type} (K B : Nat) (x : Res (α × Bytes)) (c : Nat) (bs : Bytes) : Prop :=
  (∀ a r, x = .ok (a, r) → c + K * r.length ≤ K * bs.length) ∧ c ≤ K * bs.length + B

/-- every result of `step` is paid for by what `stepCost` charges on the same octets -/
def CostOK {α : Type} (K B : Nat) (stepCost : Bytes → Nat) (step : Bytes → Res (α × Bytes)) : Prop :=
  ∀ bs, Paid K B (step bs) (stepCost bs) bs

theorem paid_of_good {α : Type} {K B k c : Nat} {x : Res (α × Bytes)} {bs : Bytes} (hg : Good x bs k)
    (hc : c ≤ K * k) (hB : c ≤ B) : Paid K B x c bs := by
  refine ⟨fun a r hx => ?_, by omega⟩
  have := Nat.mul_le_mul_left K (hg.2 a r hx)
  rw [Nat.mul_add] at this
  omega

theorem loopCost_le {α : Type} {K B : Nat} {stepCost : Bytes → Nat} {step : Bytes → Res (α × Bytes)}
    (h : CostOK K B stepCost step) (fuel n : Nat) (bs : Bytes) :
    Paid K B (loopN step fuel n bs) (loopCost stepCost step fuel n bs) bs := by
  induction fuel generalizing n bs with
  | zero => cases n <;> exact ⟨by rintro _ _ ⟨⟩ <;> simp [loopCost], by simp [loopCost]⟩
  | succ fuel ih =>
    cases n with
    | zero => exact ⟨by rintro _ _ ⟨⟩; simp [loopCost], by simp [loopCost]⟩
    | succ n =>
      obtain ⟨hok, hany⟩ := h bs
      rw [loopN, loopCost]
      cases hs : step bs with
      | ok p =>
        obtain ⟨a, r⟩ := p
        have := hok a r hs
        obtain ⟨i1, i2⟩ := ih n r
        refine ⟨fun as r' hl => ?_, by simp only; omega⟩
        simp only at hl ⊢
        split at hl
        · cases hl; have := i1 _ _ ‹_›; omega
        all_goals cases hl
      | _ => exact ⟨by rintro _ _ ⟨⟩, by simp only; omega⟩

theorem paid_after {α β : Type} {K B c c0 d : Nat} {x : Res (α × Bytes)} {r bs : Bytes} (h : Paid K B x c r)
    (hl : r.length + d ≤ bs.length) (hc : c0 ≤ K * d) (g : α → β) : Paid K B (x.mapFst g) (c0 + c) bs := by
  have := Nat.mul_le_mul_left K hl
  rw [Nat.mul_add] at this
  refine ⟨fun b r' hx => ?_, by have := h.2; omega⟩
  obtain ⟨a, hx, _⟩ := mapFst_ok hx
  have := h.1 a r' hx
  omega

theorem hdrCost_le (bs : Bytes) : hdrCost bs ≤ 1503 := by
  unfold hdrCost
  split
  · rename_i hl _ _
    by_cases h : hl > 1500
    · rw [if_pos h]; decide
    · rw [if_neg h]; omega
  · decide

/-- the buffer of a sampled header is paid by the octets read into it, or, when the datagram ends before it is full,
by the 24 octets of the record's six words; stated as `flowRecord_cost` needs it: `+ 2` are the fixed units of the
record, `+ 8` the format and length words read before `bs` -/
theorem hdrCost_ok (bs r : Bytes) (p : RawHeader) (h : decodeSampledHeader bs = .ok (p, r)) :
    hdrCost bs + 64 * r.length + 2 ≤ 64 * (bs.length + 8) := by
  unfold decodeSampledHeader at h
  unfold hdrCost
  split at h
  · rename_i proto fl st hl r3 hrf
    have hlen : r3.length + 16 = bs.length := (readFields_some hrf).2.1
    by_cases h1500 : hl > 1500
    · rw [if_pos h1500] at h; cases h
    rw [if_neg h1500] at h
    simp only [hrf, if_neg h1500]
    split at h
    · cases h
    · rename_i buf r' hrr
      obtain ⟨_, rfl⟩ := readHdr_some hrr
      obtain rfl : r3.drop (hl + (4 - hl % 4) % 4) = r := by
        split at h
        · split at h <;> cases h <;> rfl
        all_goals cases h
      rw [List.length_drop]
      omega
  · cases h

theorem flowRecordCost_cases (bs : Bytes) : flowRecordCost bs ≤ 22 ∨
    ∃ r1 len r2, u32 bs = some (1, r1) ∧ u32 r1 = some (len, r2) ∧ flowRecordCost bs = 2 + hdrCost r2 := by
  unfold flowRecordCost
  split
  · exact .inl (by decide)
  · split
    · exact .inl (by decide)
    · rename_i fmt r1 h1 _ len r2 h2
      by_cases f1 : fmt = 1
      · subst f1; exact .inr ⟨r1, len, r2, h1, h2, rfl⟩
      rw [if_neg f1]
      by_cases f2 : fmt = 1001
      · rw [if_pos f2]; exact .inl (by decide)
      rw [if_neg f2]
      by_cases f3 : fmt = 1002
      · rw [if_pos f3]
        by_cases hl : len ≠ 16 ∧ len ≠ 28
        · rw [if_pos hl]; exact .inl (by decide)
        · rw [if_neg hl]; exact .inl (by omega)
      · rw [if_neg f3]; exact .inl (by decide)

theorem flowRecord_cost : CostOK 64 1505 flowRecordCost flowRecord := by
  intro bs
  obtain h | ⟨r1, len, r2, h1, h2, h⟩ := flowRecordCost_cases bs
  · exact paid_of_good (flowRecord_good bs) (Nat.le_trans h (by decide)) (Nat.le_trans h (by decide))
  · have := u32_u32_length h1 h2
    simp only [h, flowRecord, h1, h2, if_true]
    refine ⟨fun a r hx => ?_, by have := hdrCost_le r2; omega⟩
    obtain ⟨p, hp, _⟩ := mapFst_ok hx
    have := hdrCost_ok r2 r p hp
    omega

theorem counterRecord_cost : CostOK 64 1505 counterRecordCost counterRecord :=
  fun bs => paid_of_good (counterRecord_good bs) (by simp [counterRecordCost]) (by simp [counterRecordCost])

theorem flowSample_cost : CostOK 64 1505 flowSampleCost decodeFlowSample := by
  intro bs
  unfold flowSampleCost
  split
  · rename_i h1
    simp only [decodeFlowSample_eq, h1]
    exact paid_after (loopCost_le flowRecord_cost _ _ _) (Nat.le_of_eq (readFields_some h1).2.1) (by decide) _
  · exact paid_of_good (decodeFlowSample_good bs) (by decide) (by decide)

theorem counterSample_cost : CostOK 64 1505 counterSampleCost decodeCounterSample := by
  intro bs
  unfold counterSampleCost
  split
  · rename_i h1
    simp only [decodeCounterSample_eq, h1]
    exact paid_after (loopCost_le counterRecord_cost _ _ _) (Nat.le_of_eq (readFields_some h1).2.1) (by decide) _
  · exact paid_of_good (decodeCounterSample_good bs) (by decide) (by decide)

theorem sampleStepCost_cases (f : List Nat) (bs : Bytes) : sampleStepCost f bs = 1 ∨
    ∃ fmt len r, sampleInfo bs = .ok ((0, fmt, len), r) ∧ fmt ∉ f ∧
      (fmt = 1 ∧ sampleStepCost f bs = 1 + flowSampleCost r ∨
       fmt = 2 ∧ sampleStepCost f bs = 1 + counterSampleCost r) := by
  unfold sampleStepCost
  split
  · rename_i ent fmt len r hx
    by_cases he : ent = 0
    · subst he
      rw [if_neg (by simp)]
      by_cases hf : fmt ∈ f
      · rw [if_pos hf]; exact .inl rfl
      rw [if_neg hf]
      by_cases f1 : fmt = 1
      · rw [if_pos f1]; exact .inr ⟨fmt, len, r, hx, hf, .inl ⟨f1, rfl⟩⟩
      rw [if_neg f1]
      by_cases f2 : fmt = 2
      · rw [if_pos f2]; exact .inr ⟨fmt, len, r, hx, hf, .inr ⟨f2, rfl⟩⟩
      · rw [if_neg f2]; exact .inl rfl
    · rw [if_pos he]; exact .inl rfl
  · exact .inl rfl

theorem sampleStep_cost (f : List Nat) : CostOK 64 1505 (sampleStepCost f) (sampleStep f) := by
  intro bs
  obtain h | ⟨fmt, len, r, hx, hf, ⟨rfl, h⟩ | ⟨rfl, h⟩⟩ := sampleStepCost_cases f bs
  · exact paid_of_good (sampleStep_good f bs) (h ▸ by decide) (h ▸ by decide)
  · simp only [h, sampleStep, hx, hf, ne_eq, not_true_eq_false, if_false, if_true]
    exact paid_after (flowSample_cost r) ((sampleInfo_good bs).2 _ _ hx) (by decide) _
  · simp only [h, sampleStep, hx, hf, ne_eq, not_true_eq_false, if_false, if_true, show ¬ (2 = 1) by decide]
    exact paid_after (counterSample_cost r) ((sampleInfo_good bs).2 _ _ hx) (by decide) _

/-- the allocation count of one decode call: the 17 units of the datagram itself are paid by the 28 octets of its
header, so the constant is that of a single step -/
theorem decodeCost_le (f : List Nat) (bs : Bytes) : decodeCost f bs ≤ 64 * bs.length + 1505 := by
  unfold decodeCost
  split
  · rename_i h r hx
    have := (decodeHeader_good bs).2 _ _ hx
    have := (loopCost_le (sampleStep_cost f) (bs.length + 1) h.samplesNo r).2
    omega
  · omega

end Vflow.Sflow
