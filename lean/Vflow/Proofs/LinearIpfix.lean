import Vflow.Proofs.FuelIpfix
/-!
# C02 (model part), linear allocation bound for the IPFIX model

The product bound of `AllocIpfix` is real (finding K4: a specifier of length 0 is decoded without consuming an octet), but
that is the only source of super-linearity: every other specifier costs a record at least one octet (a fixed length `n ≥ 1` reads `n` octets, the variable-length marker 65535 at least its one-octet length prefix;
`decodeData_reads` in `FuelIpfix`).  Hence `fields ≤ bs.length + records × Z`, `Z` a bound on `zeroSpecs` of every
template in force during the decode: those of the cache (`CacheZ`) and every template record that parses at some
offset of the datagram (`TplZ`) — the invariant keeps the reader a suffix of the datagram (`Sfx`), so a template
record parsed in the middle of the decode is one of those.
-/
namespace Vflow.Ipfix
open Vflow

def TplZ (bs : Bytes) (Z : Nat) : Prop :=
  ∀ k t r', k ≤ bs.length → Parses ⟨bs.drop k, k⟩ t r' → zeroSpecs t ≤ Z

def LInv (bs : Bytes) (Z : Nat) (st : St) : Prop :=
  Sfx bs st.r ∧ CacheZ Z st.cache ∧ fieldSum st.recs ≤ st.r.cnt + st.recs.length * Z

theorem LInv.invariant {bs : Bytes} {Z : Nat} (hP : TplZ bs Z) (addr : Bytes) :
    Invariant addr (LInv bs Z) (zeroSpecs · ≤ Z) where
  move h d := ⟨h.1.drops d, h.2.1, Nat.le_trans h.2.2 (Nat.add_le_add_right d.cnt_le _)⟩
  install h hp := by
    have d := hp.reads.1
    rw [h.1.eq] at hp
    exact ⟨h.1.drops d, h.2.1.insert _ _ _ (hP _ _ _ h.1.1 hp), Nat.le_trans h.2.2 (Nat.add_le_add_right d.cnt_le _)⟩
  keep h hG hd _ := by
    have d := (decodeData_reads _ _).drops_of hd
    have c := ((decodeData_reads _ _).ok_of hd).2
    refine ⟨h.1.drops d, h.2.1, ?_⟩
    have := d.cnt_le
    have := h.2.2
    simp only [fieldSum_snoc, List.length_append, List.length_singleton, Nat.add_mul, Nat.one_mul]
    omega
  cached h hl := h.2.1.lookup hl
  empty := Nat.zero_le Z

theorem decode_linear (c : Cache) (addr bs : Bytes) (Z : Nat) (hc : CacheZ Z c) (hP : TplZ bs Z) :
    CacheZ Z (decode c addr bs).2 ∧
    fieldSum (recordsOf (decode c addr bs).1) ≤ bs.length + (recordsOf (decode c addr bs).1).length * Z := by
  obtain ⟨st, hs, h1, h2 | h2⟩ :=
    decode_preserves (LInv.invariant hP addr) c bs ⟨Sfx.init bs, hc, Nat.zero_le _⟩ <;> rw [h1, h2]
  · exact ⟨hs.2.1, Nat.le_trans hs.2.2 (Nat.add_le_add_right hs.1.1 _)⟩
  · exact ⟨hs.2.1, Nat.zero_le _⟩

/-- for the non-vacuity examples of `Props/C02Flow` -/
theorem TplZ.of_check {bs : Bytes} {Z : Nat}
    (h : ∀ k, k ≤ bs.length →
      (tplZok Z (parseTpl ⟨bs.drop k, k⟩) && tplZok Z (parseOptTpl ⟨bs.drop k, k⟩)) = true) : TplZ bs Z := by
  intro k t r' hk hp
  have := h k hk
  rw [Bool.and_eq_true] at this
  exact hp.elim (tplZok_ok this.1) (tplZok_ok this.2)

end Vflow.Ipfix
