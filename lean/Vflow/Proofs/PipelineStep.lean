import Vflow.Model.Pipeline
/-!
# The pipeline's steps as a relation, and the checker's verdicts as facts

`step` and `wstep` are executable.  `Move` lists, branch by branch, the successor states they produce, so that a
proof about all steps is one `cases` with the state already in hand.  `check_*` do the same for `check`: what
accepting a program point says about the abstract state there and about the rest of the program.
-/
namespace Vflow.Pipeline
open Vflow
variable {K : Codec} {cfg : Cfg}

/-- the non-blocking send `select { case ch <- x: default: }` on a bounded channel -/
def offer {α} (cap : Nat) (q : List α) (x : α) : List α := if q.length < cap then q ++ [x] else q

theorem offer_room {α} {cap : Nat} {q : List α} (h : q.length < cap) (x : α) : offer cap q x = q ++ [x] := if_pos h
theorem offer_full {α} {cap : Nat} {q : List α} (h : ¬ q.length < cap) (x : α) : offer cap q x = q := if_neg h

theorem mem_offer {α} {cap : Nat} {q : List α} {x y : α} (h : y ∈ offer cap q x) : y ∈ q ∨ y = x := by
  unfold offer at h
  split at h
  · simpa using h
  · exact .inl h

def Worker.restart (w : Worker K) (loop : List Instr) : Worker K :=
  { w with pc := loop, cur := none, dec := none, mar := .none, nDec := 0, nCnt := 0, nPub := 0 }

def Worker.take (w : Worker K) (rest : List Instr) (b : BufId) (d : Dgram) : Worker K :=
  { w with pc := rest, msg := some b, owns := true, cur := some d, dec := none, mar := .none, nDec := 0, nCnt := 0, nPub := 0 }

/-- one instruction of worker `i`, whose state is `w`: the branches of `wstep` -/
inductive WorkStep (cfg : Cfg) (s : State K) (i : Nat) (w : Worker K) : State K → Prop
  | finish (hpc : w.pc = []) :
      WorkStep cfg s i w { s.setW i (w.restart cfg.prog.loop) with fin := w.cur.toList ++ s.fin }
  | putBack {rest b} (hpc : w.pc = .putBack :: rest) (hb : w.msg = some b) :
      WorkStep cfg s i w { s.setW i { w with pc := rest, owns := false } with pool := b :: s.pool }
  | resetEnc {rest} (hpc : w.pc = .resetEnc :: rest) : WorkStep cfg s i w (s.setW i { w with pc := rest, enc := [] })
  | quit {rest} (hpc : w.pc = .recvOrQuit :: rest) : WorkStep cfg s i w (s.setW i { w with halted := true })
  | recv {rest b d q} (hpc : w.pc = .recvOrQuit :: rest) (hq : s.udpq = (b, d) :: q) :
      WorkStep cfg s i w { s.setW i (w.take rest b d) with udpq := q }
  /-- logging, or the mirror statement with the mirror disabled -/
  | skip {ins rest} (hpc : w.pc = ins :: rest) (hins : ins = .log ∨ ins = .mirrorCopy) :
      WorkStep cfg s i w (s.setW i { w with pc := rest })
  /-- the mirror copy, into a buffer `b'` the worker `Get`s: a pooled one, or a fresh one; `p`, `n` are the pool and
  the allocation mark afterwards -/
  | mirrorCopy {rest b d b' p n} (hpc : w.pc = .mirrorCopy :: rest) (hb : w.msg = some b) (hd : w.cur = some d)
      (hget : b' ∈ s.pool ∧ p = s.pool.erase b' ∧ n = s.next ∨ b' = s.next ∧ p = s.pool ∧ n = s.next + 1) :
      WorkStep cfg s i w
        { s.setW i { w with pc := rest } with
          pool := p, next := n, mem := fun x => if x = b' then s.mem b else s.mem x,
          mirq := offer cfg.mirCap s.mirq (b', d) }
  | mirrorAlias {rest b d} (hpc : w.pc = .mirrorAlias :: rest) (hb : w.msg = some b) (hd : w.cur = some d) :
      WorkStep cfg s i w { s.setW i { w with pc := rest } with mirq := offer cfg.mirCap s.mirq (b, d) }
  | decode {rest b d} (hpc : w.pc = .decode :: rest) (hb : w.msg = some b) (hd : w.cur = some d) :
      WorkStep cfg s i w
        { s.setW i { w with pc := rest, dec := some (s.cache, (K.decode s.cache d.addr (s.mem b)).1), nDec := w.nDec + 1 } with
          cache := (K.decode s.cache d.addr (s.mem b)).2,
          log := .decoded d.id s.cache (K.decode s.cache d.addr (s.mem b)).1 :: s.log }
  | contFalse {c put rest} (hpc : w.pc = .contIf c put :: rest) (hv : w.cond c = some false) :
      WorkStep cfg s i w (s.setW i { w with pc := rest })
  | contTrue {c rest} (hpc : w.pc = .contIf c false :: rest) (hv : w.cond c = some true) :
      WorkStep cfg s i w (s.setW i { w with pc := [] })
  | contPut {c rest b} (hpc : w.pc = .contIf c true :: rest) (hv : w.cond c = some true) (hb : w.msg = some b) :
      WorkStep cfg s i w { s.setW i { w with pc := [], owns := false } with pool := b :: s.pool }
  | countDecoded {rest d} (hpc : w.pc = .countDecoded :: rest) (hd : w.cur = some d) :
      WorkStep cfg s i w
        { s.setW i { w with pc := rest, nCnt := w.nCnt + 1 } with
          decCount := s.decCount + 1, log := .countDecoded d.id :: s.log }
  /-- the marshal statement re-reads the message from the receive buffer; the result goes to `mar`, and into the
  encode buffer if that is the statement's target -/
  | marshal {own rest b d c m enc' mar'} (hpc : w.pc = .marshal own :: rest) (hb : w.msg = some b) (hd : w.cur = some d)
      (hdec : w.dec = some (c, some m))
      (hres : match (K.decode c d.addr (s.mem b)).1.bind K.marshal with
        | none => enc' = w.enc ∧ mar' = .err
        | some p => if own = true then enc' = w.enc ++ p ∧ mar' = .okEnc else enc' = w.enc ∧ mar' = .okVal p) :
      WorkStep cfg s i w (s.setW i { w with pc := rest, enc := enc', mar := mar' })
  /-- the publish statement finds room: the copying one enqueues a value, the aliasing one a reference to the
  encode buffer when that is where `b` lives -/
  | publish {ins rest d p item} (hpc : w.pc = ins :: rest)
      (hins : ins = .publishCopy ∧ item = .val d.id p ∨
        ins = .publishAlias ∧ item = (match w.mar with | .okEnc => MQItem.ref d.id i | _ => MQItem.val d.id p))
      (hd : w.cur = some d) (hp : w.payload = some p) (room : s.mq.length < cfg.mqCap) :
      WorkStep cfg s i w
        { s.setW i { w with pc := rest, nPub := w.nPub + 1 } with
          mq := s.mq ++ [item], log := .published d.id p :: s.log }
  | drop {ins rest d p} (hpc : w.pc = ins :: rest) (hins : ins = .publishCopy ∨ ins = .publishAlias)
      (hd : w.cur = some d) (hp : w.payload = some p) (full : cfg.mqCap ≤ s.mq.length) :
      WorkStep cfg s i w { s.setW i { w with pc := rest, nPub := w.nPub + 1 } with log := .dropped d.id p :: s.log }

/-- the branches of `step` -/
inductive Move (cfg : Cfg) (s : State K) : Action → State K → Prop
  | spawnPool {b} (hg : cfg.prog.initGet = true) (hb : b ∈ s.pool) :
      Move cfg s (.spawn (some b))
        { s with pool := s.pool.erase b,
                 workers := s.workers ++ [{ pc := cfg.prog.loop, msg := some b, owns := true }] }
  | spawnNew (hg : cfg.prog.initGet = true) :
      Move cfg s (.spawn none)
        { s with next := s.next + 1,
                 workers := s.workers ++ [{ pc := cfg.prog.loop, msg := some s.next, owns := true }] }
  | spawnBare {g} (hg : cfg.prog.initGet = false) :
      Move cfg s (.spawn g) { s with workers := s.workers ++ [{ pc := cfg.prog.loop }] }
  | rxGetPool {b} (hrx : s.rx = .idle) (hb : b ∈ s.pool) :
      Move cfg s (.rxGetPool b) { s with pool := s.pool.erase b, rx := .got b }
  | rxGetNew (hrx : s.rx = .idle) : Move cfg s .rxGetNew { s with next := s.next + 1, rx := .got s.next }
  /-- `ReadFromUDP` fails: `continue`, the buffer is dropped -/
  | rxReadErr {b} (hrx : s.rx = .got b) : Move cfg s (.rxRead none) { s with rx := .idle }
  | rxRead {b addr bytes} (hrx : s.rx = .got b) :
      Move cfg s (.rxRead (some (addr, bytes)))
        { s with mem := fun x => if x = b then bytes else s.mem x,
                 rx := .read b ⟨s.nextId, addr, bytes⟩, nextId := s.nextId + 1,
                 log := .received ⟨s.nextId, addr, bytes⟩ :: s.log }
  | rxCount {b d} (hrx : s.rx = .read b d) :
      Move cfg s .rxCount { s with rx := .counted b d, udpCount := s.udpCount + 1, log := .countUDP d.id :: s.log }
  | rxEnqueue {b d} (hrx : s.rx = .counted b d) (room : s.udpq.length < cfg.udpCap) :
      Move cfg s .rxEnqueue { s with rx := .idle, udpq := s.udpq ++ [(b, d)] }
  | mirConsume {b d q} (hq : s.mirq = (b, d) :: q) :
      Move cfg s .mirConsume { s with mirq := q, pool := b :: s.pool, log := .mirrored d.id (s.mem b) :: s.log }
  | mqConsume {it q} (hq : s.mq = it :: q) :
      Move cfg s .mqConsume { s with mq := q, delivered := resolve s it :: s.delivered }
  | work {i quit mb w s'} (hi : s.workers[i]? = some w) (hh : w.halted = false) (hw : WorkStep cfg s i w s') :
      Move cfg s (.work i quit mb) s'

theorem wstep_sound {s s' : State K} {i : Nat} {w : Worker K} {quit : Bool} {mb : Option (Option BufId)}
    (hs : wstep cfg s i w quit mb = some s') : WorkStep cfg s i w s' := by
  unfold wstep at hs
  split at hs
  next hpc => cases hs; exact .finish hpc
  next rest hpc =>
    split at hs
    next b hb => cases hs; exact .putBack hpc hb
    next => cases hs
  next rest hpc => cases hs; exact .resetEnc hpc
  next rest hpc =>
    cases quit
    · rw [if_neg nofun] at hs
      split at hs
      next b d q hq => cases hs; exact .recv hpc hq
      next => cases hs
    · cases hs; exact .quit hpc
  next rest hpc => cases hs; exact .skip hpc (.inl rfl)
  next rest hpc =>
    split at hs
    next => cases hs; exact .skip hpc (.inr rfl)
    next g =>
      split at hs
      next b d hb hd =>
        split at hs
        next b' =>
          by_cases hb' : b' ∈ s.pool
          · have h := WorkStep.mirrorCopy (cfg := cfg) (s := s) (i := i) hpc hb hd (.inl ⟨hb', rfl, rfl⟩)
            rw [if_pos hb'] at hs
            cases hs
            by_cases hr : s.mirq.length < cfg.mirCap
            · rw [offer_room hr] at h; rw [if_pos hr]; exact h
            · rw [offer_full hr] at h; rw [if_neg hr]; exact h
          · rw [if_neg hb'] at hs; cases hs
        next =>
          have h := WorkStep.mirrorCopy (cfg := cfg) (s := s) (i := i) hpc hb hd (.inr ⟨rfl, rfl, rfl⟩)
          cases hs
          by_cases hr : s.mirq.length < cfg.mirCap
          · rw [offer_room hr] at h; rw [if_pos hr]; exact h
          · rw [offer_full hr] at h; rw [if_neg hr]; exact h
      next => cases hs
  next rest hpc =>
    split at hs
    next b d hb hd =>
      have h := WorkStep.mirrorAlias (cfg := cfg) (s := s) (i := i) hpc hb hd
      cases hs
      by_cases hr : s.mirq.length < cfg.mirCap
      · rw [offer_room hr] at h; rw [if_pos hr]; exact h
      · rw [offer_full hr] at h; rw [if_neg hr]; exact h
    next => cases hs
  next rest hpc =>
    split at hs
    next b d hb hd => cases hs; exact .decode hpc hb hd
    next => cases hs
  next c put rest hpc =>
    split at hs
    next => cases hs
    next hv => cases hs; exact .contFalse hpc hv
    next hv =>
      cases put
      · cases hs; exact .contTrue hpc hv
      · rw [if_pos rfl] at hs
        split at hs
        next b hb => cases hs; exact .contPut hpc hv hb
        next => cases hs
  next rest hpc =>
    split at hs
    next d hd => cases hs; exact .countDecoded hpc hd
    next => cases hs
  next own rest hpc =>
    split at hs
    next b d c m hb hd hdec =>
      split at hs
      next hm => cases hs; exact .marshal hpc hb hd hdec (by rw [hm]; exact ⟨rfl, rfl⟩)
      next p hm => cases own <;> cases hs <;> exact .marshal hpc hb hd hdec (by rw [hm]; exact ⟨rfl, rfl⟩)
    next => cases hs
  next rest hpc =>
    split at hs
    next d p hd hp =>
      cases hs
      by_cases hr : s.mq.length < cfg.mqCap
      · rw [if_pos hr]; exact .publish hpc (.inl ⟨rfl, rfl⟩) hd hp hr
      · rw [if_neg hr]; exact .drop hpc (.inl rfl) hd hp (Nat.le_of_not_lt hr)
    next => cases hs
  next rest hpc =>
    split at hs
    next d p hd hp =>
      cases hs
      by_cases hr : s.mq.length < cfg.mqCap
      · rw [if_pos hr]; exact .publish hpc (.inr ⟨rfl, rfl⟩) hd hp hr
      · rw [if_neg hr]; exact .drop hpc (.inr rfl) hd hp (Nat.le_of_not_lt hr)
    next => cases hs
  next => cases hs

theorem step_move {s s' : State K} {a : Action} (ha : step cfg s a = some s') : Move cfg s a s' := by
  cases a <;> simp only [step] at ha
  case spawn g =>
    cases hg : cfg.prog.initGet
    · rw [hg] at ha; cases ha; exact .spawnBare hg
    · rw [hg, if_pos rfl] at ha
      cases g with
      | none => cases ha; exact .spawnNew hg
      | some b =>
        dsimp only at ha
        by_cases hb : b ∈ s.pool
        · rw [if_pos hb] at ha; cases ha; exact .spawnPool hg hb
        · rw [if_neg hb] at ha; cases ha
  case rxGetPool b =>
    split at ha
    next hrx =>
      by_cases hb : b ∈ s.pool
      · rw [if_pos hb] at ha; cases ha; exact .rxGetPool hrx hb
      · rw [if_neg hb] at ha; cases ha
    next => cases ha
  case rxGetNew =>
    split at ha
    next hrx => cases ha; exact .rxGetNew hrx
    next => cases ha
  case rxRead dg =>
    split at ha
    next b hrx =>
      split at ha
      next => cases ha; exact .rxReadErr hrx
      next addr bytes => cases ha; exact .rxRead hrx
    next => cases ha
  case rxCount =>
    split at ha
    next b d hrx => cases ha; exact .rxCount hrx
    next => cases ha
  case rxEnqueue =>
    split at ha
    next b d hrx =>
      by_cases room : s.udpq.length < cfg.udpCap
      · rw [if_pos room] at ha; cases ha; exact .rxEnqueue hrx room
      · rw [if_neg room] at ha; cases ha
    next => cases ha
  case work i quit mb =>
    split at ha
    next w hi =>
      cases hh : w.halted
      · rw [hh] at ha; exact .work hi hh (wstep_sound ha)
      · rw [hh] at ha; cases ha
    next => cases ha
  case mirConsume =>
    split at ha
    next b d q hq => cases ha; exact .mirConsume hq
    next => cases ha
  case mqConsume =>
    split at ha
    next it q hq => cases ha; exact .mqConsume hq
    next => cases ha

theorem Step.move {s s' : State K} : Step cfg s s' → ∃ a, Move cfg s a s'
  | ⟨a, ha⟩ => ⟨a, step_move ha⟩

theorem WorkStep.workers {s s' : State K} {i : Nat} {w : Worker K} (hw : WorkStep cfg s i w s') :
    ∃ w', s'.workers = s.workers.set i w' := by
  cases hw <;> exact ⟨_, rfl⟩

section
variable {spec : CountSpec} {h a : Abs} {rest : List Instr}

theorem check_nil : check spec h [] a = atEnd spec h a := rfl

theorem atEnd_iff : atEnd spec h a = true ↔
    a.owns = h.owns ∧ a.cur = true ∧ ∃ y, a.kYield = some y ∧ a.pubd = y ∧
      match spec with
      | .onMsg => a.kMsg = some a.counted
      | .onYield => a.counted = y := by
  simp only [atEnd, Bool.and_eq_true, beq_iff_eq]
  cases a.kYield <;> cases spec <;> simp [and_assoc]

theorem check_cons {ins : Instr} (hi : ∀ c put, ins ≠ .contIf c put) :
    check spec h (ins :: rest) a = true ↔ ∃ a', trans ins a = some a' ∧ check spec h rest a' = true := by
  cases ins with
  | contIf c put => exact absurd rfl (hi c put)
  | _ => simp only [check]; cases trans _ a <;> simp

theorem check_guard {ins : Instr} {g : Bool} {a' : Abs} (hi : ∀ c put, ins ≠ .contIf c put)
    (ht : trans ins a = if g = true then some a' else none) :
    check spec h (ins :: rest) a = true ↔ g = true ∧ check spec h rest a' = true := by
  rw [check_cons hi, ht]
  cases g <;> simp

theorem check_putBack : check spec h (.putBack :: rest) a = true ↔
    a.owns = true ∧ check spec h rest { a with owns := false } = true := check_guard nofun rfl

theorem check_resetEnc : check spec h (.resetEnc :: rest) a = true ↔
    a.marshalled = false ∧ check spec h rest { a with clean := true } = true := by
  simp [check_cons, trans, and_assoc]

theorem check_recvOrQuit : check spec h (.recvOrQuit :: rest) a = true ↔
    a.cur = false ∧ check spec h rest { owns := true, cur := true, clean := a.clean } = true := by
  simp [check_cons, trans, and_assoc]

theorem check_log : check spec h (.log :: rest) a = true ↔ check spec h rest a = true := by
  simp [check_cons, trans]

theorem check_mirrorCopy : check spec h (.mirrorCopy :: rest) a = true ↔
    (a.owns = true ∧ a.cur = true) ∧ check spec h rest a = true := by
  rw [check_guard (ins := .mirrorCopy) nofun rfl, Bool.and_eq_true]

theorem check_mirrorAlias : ¬ check spec h (.mirrorAlias :: rest) a = true := by
  simp [check_cons, trans]

theorem check_decode : check spec h (.decode :: rest) a = true ↔
    (a.owns = true ∧ a.cur = true ∧ a.decoded = false) ∧ check spec h rest { a with decoded := true } = true := by
  rw [check_guard (ins := .decode) nofun rfl]; simp [and_assoc]

theorem check_countDecoded : check spec h (.countDecoded :: rest) a = true ↔
    (a.cur = true ∧ a.counted = false) ∧ check spec h rest { a with counted := true } = true := by
  rw [check_guard (ins := .countDecoded) nofun rfl]; simp

theorem check_marshal {own : Bool} : check spec h (.marshal own :: rest) a = true ↔
    (a.owns = true ∧ a.cur = true ∧ a.kMsg = some true ∧ a.marshalled = false ∧ (own = true → a.clean = true)) ∧
      check spec h rest { a with marshalled := true, benc := own, clean := a.clean && !own } = true := by
  rw [check_guard (ins := .marshal own) nofun rfl]; cases own <;> simp [and_assoc]

theorem check_publishCopy : check spec h (.publishCopy :: rest) a = true ↔
    (a.cur = true ∧ a.kYield = some true ∧ a.kMar = some true ∧ a.pubd = false) ∧
      check spec h rest { a with pubd := true } = true := by
  rw [check_guard (ins := .publishCopy) nofun rfl]; simp [and_assoc]

theorem check_publishAlias : check spec h (.publishAlias :: rest) a = true ↔
    (a.cur = true ∧ a.kYield = some true ∧ a.kMar = some true ∧ a.pubd = false ∧ a.benc = false) ∧
      check spec h rest { a with pubd := true } = true := by
  rw [check_guard (ins := .publishAlias) nofun rfl]; simp [and_assoc]

theorem check_contIf {c : Cond} {put : Bool} : check spec h (.contIf c put :: rest) a = true ↔
    (∃ aT, assume c true a = some aT ∧
      if put = true then aT.owns = true ∧ atEnd spec h { aT with owns := false } = true else atEnd spec h aT = true) ∧
    ∃ aF, assume c false a = some aF ∧ check spec h rest aF = true := by
  simp only [check]
  cases assume c true a <;> cases assume c false a <;> cases put <;> simp

end
end Vflow.Pipeline
