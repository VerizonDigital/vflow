import Vflow.Proofs.V9IRTpl
import Vflow.Proofs.AllocV9
/-!
# The translated `Decoder.decodeSet` of `netflow/v9/decoder.go` is `V9.decodeSet`

Same method as `Proofs/IpfixIRSet.lean`, with lemmas of its own.  Differences of the v9 decoder: template flowset ids
0 and 1 and no padding test, no `return` inside the record loop (every error ends the loop and is followed by the skip
of the rest of the flowset), and what is left of the flowset is a difference of `int`s that may be negative (`leftInt`).
-/
namespace Vflow.V9IR
open Vflow Vflow.IpfixIR
attribute [local irreducible] Vflow.lookupElem

/-! ## `decodeSet` -/

def ds (i : Nat) : Stmt := Gen.V9IR.decodeSet.body.nth i
theorem ds_body : Gen.V9IR.decodeSet.body =
    blk [ds 0, ds 1, ds 2, ds 3, ds 4, ds 5, ds 6, ds 7, ds 8, ds 9, ds 10, ds 11, ds 12] := rfl
theorem ds9_shape : ds 9 = .loop (ds 9).loopCond (ds 9).loopBody .skip := rfl

/-- the one statement of the loop body, `if setId := setHeader.FlowSetID; setId == 0 || setId == 1 { … } else { … }` -/
def dsb : Stmt := (ds 9).loopBody.nth 0
theorem ds9_loopBody : (ds 9).loopBody = blk [dsb] := rfl
theorem dsb_shape : dsb = .ite dsb.init dsb.cond dsb.thn dsb.els := rfl
/-- its `else` branch, `if setId >= 4 && setId <= 255 { break } else { … }` -/
def dsc : Stmt := dsb.els.nth 0
theorem dsb_els : dsb.els = blk [dsc] := rfl
theorem dsc_shape : dsc = .ite .skip dsc.cond dsc.thn dsc.els := rfl

/-- how one round of the record loop ends: the next round, or the end of the loop with `err` -/
inductive IterOut where
  | cont (st : V9.St)
  | stop (st : V9.St) (e : Option Err)

def tplIter (ctx : V9.Ctx) (st : V9.St) : IterOut :=
  match (if ctx.setId = 0 then V9.parseTpl st.r else V9.parseOptTpl st.r) with
  | (.ok t, r') => .cont { st with r := r', cache := st.cache.insert ctx.addr t.tid t }
  | (.error e, r') => .stop { st with r := r' } (some e)

def dataIter (ctx : V9.Ctx) (st : V9.St) : IterOut :=
  match V9.decodeData ctx.tr st.r with
  | (.ok fs, r') =>
    if r'.cnt = st.r.cnt then .stop { st with r := r' } (some .zeroRec)
    else .cont { st with r := r', recs := st.recs ++ [fs] }
  | (.error e, r') => .stop { st with r := r' } (some e)

/-- one round of `V9.setLoop` (after the loop condition) -/
def setIter (ctx : V9.Ctx) (st : V9.St) : IterOut :=
  if ctx.setId = 0 ∨ ctx.setId = 1 then tplIter ctx st
  else if 4 ≤ ctx.setId ∧ ctx.setId ≤ 255 then .stop st none
  else dataIter ctx st

theorem setLoop_succ (ctx : V9.Ctx) (k : Nat) (st : V9.St) :
    V9.setLoop ctx (k + 1) st =
      if V9.contCond ctx st.r then
        match setIter ctx st with
        | .cont st' => V9.setLoop ctx k st'
        | .stop st' e => (st', e)
      else (st, none) := by
  rw [V9.setLoop]
  unfold setIter tplIter dataIter
  by_cases hc : V9.contCond ctx st.r = true
  · rw [if_pos hc, if_pos hc]
    by_cases h01 : ctx.setId = 0 ∨ ctx.setId = 1
    · rw [if_pos h01, if_pos h01]
      rcases (if ctx.setId = 0 then V9.parseTpl st.r else V9.parseOptTpl st.r) with ⟨e | t, r'⟩ <;> rfl
    · rw [if_neg h01, if_neg h01]
      by_cases h4 : 4 ≤ ctx.setId ∧ ctx.setId ≤ 255
      · rw [if_pos h4, if_pos h4]
      · rw [if_neg h4, if_neg h4]
        rcases V9.decodeData ctx.tr st.r with ⟨e | fs, r'⟩
        · rfl
        · by_cases hz : r'.cnt = st.r.cnt <;> simp only [hz, if_true, if_false]
  · rw [if_neg hc, if_neg hc]

section
variable (addr : Bytes) (fuel : Nat)

abbrev dsLink : Linkage :=
  [("setHeaderUnmarshal", V9Prog.setHeaderUnmarshal addr fuel), ("minRecordLen", V9Prog.minRecordLen addr fuel),
   ("tplRecordUnmarshal", V9Prog.tplRecordUnmarshal addr fuel), ("tplRecordUnmarshalOpts", V9Prog.tplRecordUnmarshalOpts addr fuel),
   ("decodeData", V9Prog.decodeData addr fuel)]

abbrev stOf (st : V9.St) : St := ⟨st.r, st.cache⟩

variable (agent : Bytes) (hdr : PHdr) (ctx : V9.Ctx) (ok : V)

/-- the locals of `decodeSet` from the record loop on: `msg`, `startCount`, `setHeader`, the header `err` (nil), `tr`, `err`,
`ok`, `minLen`, then `setId`, the inner `tr`, `data`, `recordStart` (`j`: dead between rounds), `leftoverBytes` and
`skipErr` (`x`: declared after the loop) -/
def dsEnv (recs : List Record) (err : V) (j : V × V × V × V) (x : V × V) : Env :=
  [.msg9 agent hdr recs, .int ctx.start, .shdr ctx.setId ctx.len, .nil, .tpl ctx.tr, err, ok, .int (V9.minLeft ctx),
   j.1, j.2.1, j.2.2.1, j.2.2.2, x.1, x.2]

/-- outcome of the translated loop body for one round of the model.  A round that sets `err` either breaks or ends
normally; in the second case the loop condition (`err == nil && …`) fails at its next test. -/
def DsBodyOut (it : IterOut) (out : Res) : Prop :=
  match it with
  | .cont st' => ∃ j, out = some (.norm, stOf st', dsEnv agent hdr ctx ok st'.recs .nil j (.unset, .unset))
  | .stop st' none => ∃ j, out = some (.brk, stOf st', dsEnv agent hdr ctx ok st'.recs .nil j (.unset, .unset))
  | .stop st' (some e) => ∃ j,
      out = some (.brk, stOf st', dsEnv agent hdr ctx ok st'.recs (V9Prog.errV (some e)) j (.unset, .unset)) ∨
      out = some (.norm, stOf st', dsEnv agent hdr ctx ok st'.recs (V9Prog.errV (some e)) j (.unset, .unset))

theorem dsb_init (st : St) (recs : List Record) (j : V × V × V × V) :
    exec addr (dsLink addr fuel) fuel dsb.init st (dsEnv agent hdr ctx ok recs .nil j (.unset, .unset)) =
      some (.norm, st, dsEnv agent hdr ctx ok recs .nil (.int ctx.setId, j.2) (.unset, .unset)) := by
  ir_simp [dsb, ds, dsEnv, Gen.V9IR.decodeSet]

theorem dsb_cond (st : St) (recs : List Record) (j : V × V × V) :
    eval addr st (dsEnv agent hdr ctx ok recs .nil (.int ctx.setId, j) (.unset, .unset)) dsb.cond =
      some (.bool (decide (ctx.setId = 0 ∨ ctx.setId = 1))) := by
  ir_simp [dsb, ds, dsEnv, Gen.V9IR.decodeSet, Bool.decide_or]

theorem dsc_cond (st : St) (recs : List Record) (j : V × V × V) :
    eval addr st (dsEnv agent hdr ctx ok recs .nil (.int ctx.setId, j) (.unset, .unset)) dsc.cond =
      some (.bool (decide (4 ≤ ctx.setId ∧ ctx.setId ≤ 255))) := by
  ir_simp [dsc, dsb, ds, dsEnv, Gen.V9IR.decodeSet, Bool.decide_and]

theorem ds_tpl (st : V9.St) (j : V × V × V) (h : ctx.setId = 0 ∨ ctx.setId = 1) (haddr : ctx.addr = addr)
    (hfuel : st.r.rem.length < fuel) :
    DsBodyOut agent hdr ctx ok (tplIter ctx st)
      (exec addr (dsLink addr fuel) fuel dsb.thn (stOf st) (dsEnv agent hdr ctx ok st.recs .nil (.int ctx.setId, j) (.unset, .unset))) := by
  unfold tplIter
  rcases h with h | h
  · have ht := tplRecordUnmarshal_sem addr fuel st.r st.cache hfuel
    rw [if_pos h]
    rcases hpt : V9.parseTpl st.r with ⟨e | t, r'⟩ <;> simp only [hpt, TplOut, DsBodyOut, V9.emptyTpl] at ht ⊢
    · obtain ⟨t', ht⟩ := ht
      have he := V9.parseTpl_err hpt; subst he
      exact ⟨(.int ctx.setId, .tpl t', j.2), Or.inr (by
        ir_simp [dsb, ds, dsEnv, stOf, Gen.V9IR.decodeSet, h, ht])⟩
    · exact ⟨(.int ctx.setId, .tpl t, j.2), by ir_simp [dsb, ds, dsEnv, stOf, Gen.V9IR.decodeSet, h, ht, haddr]⟩
  · have ht := tplRecordUnmarshalOpts_sem addr fuel st.r st.cache hfuel
    rw [if_neg (by omega)]
    rcases hpt : V9.parseOptTpl st.r with ⟨e | t, r'⟩ <;> simp only [hpt, TplOut, DsBodyOut, V9.emptyTpl] at ht ⊢
    · obtain ⟨t', ht⟩ := ht
      have he := V9.parseOptTpl_err hpt; subst he
      exact ⟨(.int ctx.setId, .tpl t', j.2), Or.inr (by
        ir_simp [dsb, ds, dsEnv, stOf, Gen.V9IR.decodeSet, h, ht])⟩
    · exact ⟨(.int ctx.setId, .tpl t, j.2), by ir_simp [dsb, ds, dsEnv, stOf, Gen.V9IR.decodeSet, h, ht, haddr]⟩

theorem ds_data (st : V9.St) (j : V × V × V × V) (hs : ctx.tr.scope.length < fuel) (hf : ctx.tr.fields.length < fuel) :
    DsBodyOut agent hdr ctx ok (dataIter ctx st)
      (exec addr (dsLink addr fuel) fuel dsc.els (stOf st) (dsEnv agent hdr ctx ok st.recs .nil j (.unset, .unset))) := by
  have hdd := decodeData_sem addr fuel st.r st.cache ctx.tr hs hf
  unfold dataIter
  rcases hd : V9.decodeData ctx.tr st.r with ⟨e | fs, r'⟩ <;> simp only [hd, recResult_ok, recResult_error] at hdd ⊢
  · exact ⟨(j.1, j.2.1, .nil, .int st.r.cnt), Or.inr (by ir_simp [dsc, dsb, ds, dsEnv, stOf, Gen.V9IR.decodeSet, hdd])⟩
  · by_cases hz : r'.cnt = st.r.cnt
    · rw [if_pos hz]
      exact ⟨(j.1, j.2.1, .drec fs, .int st.r.cnt), Or.inl (by
        ir_simp [dsc, dsb, ds, dsEnv, stOf, Gen.V9IR.decodeSet, hdd, hz])⟩
    · rw [if_neg hz]
      exact ⟨(j.1, j.2.1, .drec fs, .int st.r.cnt), by ir_simp [dsc, dsb, ds, dsEnv, stOf, Gen.V9IR.decodeSet, hdd, hz]⟩

theorem ds_body9 (st : V9.St) (j : V × V × V × V) (haddr : ctx.addr = addr) (hfuel : st.r.rem.length < fuel)
    (hs : ctx.tr.scope.length < fuel) (hf : ctx.tr.fields.length < fuel) :
    DsBodyOut agent hdr ctx ok (setIter ctx st)
      (exec addr (dsLink addr fuel) fuel (ds 9).loopBody (stOf st) (dsEnv agent hdr ctx ok st.recs .nil j (.unset, .unset))) := by
  rw [ds9_loopBody, exec_blk_one, dsb_shape, exec_ite_of (dsb_init addr fuel agent hdr ctx ok _ _ _) (dsb_cond addr agent hdr ctx ok _ _ _)]
  unfold setIter
  by_cases h01 : ctx.setId = 0 ∨ ctx.setId = 1
  · rw [if_pos h01, decide_eq_true h01, cond_true]
    exact ds_tpl addr fuel agent hdr ctx ok st j.2 h01 haddr hfuel
  · rw [if_neg h01, decide_eq_false h01, cond_false, dsb_els, exec_blk_one, dsc_shape,
      exec_ite_of exec_skip (dsc_cond addr agent hdr ctx ok _ _ _)]
    by_cases h4 : 4 ≤ ctx.setId ∧ ctx.setId ≤ 255
    · rw [if_pos h4, decide_eq_true h4, cond_true]
      exact ⟨_, rfl⟩
    · rw [if_neg h4, decide_eq_false h4, cond_false]
      exact ds_data addr fuel agent hdr ctx ok st _ hs hf

/-- the loop condition: `int(Length) - (ReadCount() - startCount) >= minLen` is a comparison of a possibly negative
difference, as `V9.leftInt` -/
theorem ds9_cond_nil (recs : List Record) (r : Rd) (c : Cache) (j : V × V × V × V) (hstart : ctx.start ≤ r.cnt) :
    eval addr ⟨r, c⟩ (dsEnv agent hdr ctx ok recs .nil j (.unset, .unset)) (ds 9).loopCond =
      some (.bool (V9.contCond ctx r)) := by
  unfold V9.contCond V9.leftInt
  by_cases hle : r.cnt - ctx.start ≤ ctx.len
  · have hi : decide ((ctx.len : Int) - ((r.cnt : Int) - (ctx.start : Int)) ≥ (V9.minLeft ctx : Int)) =
        decide (V9.minLeft ctx ≤ ctx.len - (r.cnt - ctx.start)) := decide_eq_decide.mpr (by omega)
    rw [hi]
    ir_simp [ds, dsEnv, Gen.V9IR.decodeSet, subV, hstart, hle]
  · have hi : decide ((ctx.len : Int) - ((r.cnt : Int) - (ctx.start : Int)) ≥ (V9.minLeft ctx : Int)) = false :=
      decide_eq_false (by omega)
    rw [hi]
    ir_simp [ds, dsEnv, Gen.V9IR.decodeSet, subV, hstart, hle]

theorem ds9_cond_err (recs : List Record) (st : St) (g : GErr) (j : V × V × V × V) :
    eval addr st (dsEnv agent hdr ctx ok recs (.err g) j (.unset, .unset)) (ds 9).loopCond = some (.bool false) := by
  ir_simp [ds, dsEnv, Gen.V9IR.decodeSet]
end

theorem setIter_cont {ctx : V9.Ctx} {st st' : V9.St} (h : setIter ctx st = .cont st') :
    Adv st.r st'.r ∧ st.r.cnt < st'.r.cnt := by
  unfold setIter at h
  by_cases h01 : ctx.setId = 0 ∨ ctx.setId = 1
  · rw [if_pos h01, tplIter] at h
    have ht : ∀ res r', (if ctx.setId = 0 then V9.parseTpl st.r else V9.parseOptTpl st.r) = (res, r') →
        Adv st.r r' ∧ ∀ t, res = .ok t → st.r.cnt + 4 + 4 * V9.nfields t ≤ r'.cnt := by
      intro res r' hp
      by_cases h0 : ctx.setId = 0
      · rw [if_pos h0] at hp; exact V9.parseTpl_adv hp
      · rw [if_neg h0] at hp; exact V9.parseOptTpl_adv hp
    rcases hp : (if ctx.setId = 0 then V9.parseTpl st.r else V9.parseOptTpl st.r) with ⟨e | t, r'⟩ <;>
      simp only [hp] at h <;> cases h
    have := ht _ _ hp
    exact ⟨this.1, Nat.lt_of_lt_of_le (Nat.lt_of_lt_of_le (Nat.lt_add_of_pos_right (by decide)) (Nat.le_add_right _ _))
      (this.2 t rfl)⟩
  · rw [if_neg h01] at h
    by_cases h4 : 4 ≤ ctx.setId ∧ ctx.setId ≤ 255
    · rw [if_pos h4] at h; cases h
    · rw [if_neg h4, dataIter] at h
      rcases hd : V9.decodeData ctx.tr st.r with ⟨e | fs, r'⟩ <;> simp only [hd] at h
      · cases h
      · have ha := (V9.decodeData_adv hd).1
        by_cases hz : r'.cnt = st.r.cnt
        · rw [if_pos hz] at h; cases h
        · rw [if_neg hz] at h; cases h
          exact ⟨ha, Nat.lt_of_le_of_ne ha.2 (Ne.symm hz)⟩

section
variable (addr : Bytes) (fuel : Nat) (agent : Bytes) (hdr : PHdr) (ctx : V9.Ctx) (ok : V)

/-- outcome of the record loop (it never returns) -/
def DsLoopOut (res : V9.St × Option Err) (out : Res) : Prop :=
  ∃ j, out = some (.norm, stOf res.1, dsEnv agent hdr ctx ok res.1.recs (V9Prog.errV res.2) j (.unset, .unset))

theorem ds_loop9 (haddr : ctx.addr = addr) (hs : ctx.tr.scope.length < fuel) (hf : ctx.tr.fields.length < fuel) :
    ∀ (k k' : Nat) (st : V9.St) (j : V × V × V × V),
    st.r.rem.length < k → st.r.rem.length < k' → st.r.rem.length < fuel → ctx.start ≤ st.r.cnt →
    DsLoopOut agent hdr ctx ok (V9.setLoop ctx k' st)
      (loopF (fun st env => eval addr st env (ds 9).loopCond) (exec addr (dsLink addr fuel) fuel (ds 9).loopBody)
        (exec addr (dsLink addr fuel) fuel .skip) k (stOf st) (dsEnv agent hdr ctx ok st.recs .nil j (.unset, .unset))) := by
  intro k
  induction k with
  | zero => intro k' st _ hk; exact absurd hk (Nat.not_lt_zero _)
  | succ k ih =>
    intro k' st j hk hk' hfuel hstart
    cases k' with
    | zero => exact absurd hk' (Nat.not_lt_zero _)
    | succ k' =>
    rw [setLoop_succ]
    simp only [loopF, ds9_cond_nil addr agent hdr ctx ok st.recs st.r st.cache j hstart]
    by_cases hc : V9.contCond ctx st.r = true
    · simp only [hc, if_true]
      have hb := ds_body9 addr fuel agent hdr ctx ok st j haddr hfuel hs hf
      rcases hit : setIter ctx st with st' | ⟨st', _ | e⟩ <;> simp only [hit, DsBodyOut] at hb ⊢
      · obtain ⟨i, hb⟩ := hb
        have hp := setIter_cont hit
        have hlt := hp.1.rem_lt (Nat.ne_of_gt hp.2)
        simp only [hb, exec_skip]
        exact ih k' st' i (Nat.lt_of_lt_of_le hlt (Nat.le_of_lt_succ hk)) (Nat.lt_of_lt_of_le hlt (Nat.le_of_lt_succ hk'))
          (Nat.lt_trans hlt hfuel) (Nat.le_trans hstart (Nat.le_of_lt hp.2))
      · obtain ⟨i, hb⟩ := hb
        exact ⟨i, by simp only [hb, errV_none]⟩
      · obtain ⟨i, hb | hb⟩ := hb
        · exact ⟨i, by simp only [hb]⟩
        · -- the round went on with `err` set: one more test of the condition ends the loop
          have hlen : V9.minLeft ctx ≤ st.r.rem.length := by
            simp only [V9.contCond, Bool.and_eq_true, decide_eq_true_eq] at hc; exact hc.2
          cases k with
          | zero =>
            exact absurd (Nat.lt_of_lt_of_le (V9.minLeft_pos ctx) hlen) (Nat.not_lt.mpr (Nat.le_of_lt_succ hk))
          | succ k => exact ⟨i, by simp only [hb, exec_skip, loopF, errV_some, ds9_cond_err]⟩
    · simp only [hc, Bool.false_eq_true, if_false]
      exact ⟨j, rfl⟩

theorem ds_pre2 (recs : List Record) (r2 : Rd) (c : Cache) (sid len start : Nat) :
    ∃ ok, exec addr (dsLink addr fuel) fuel (blk [ds 4, ds 5, ds 6, ds 7, ds 8]) ⟨r2, c⟩
        (.msg9 agent hdr recs :: .int start :: .shdr sid len :: .nil :: List.replicate 10 .unset) =
      some (.norm, ⟨r2, c⟩, dsEnv agent hdr ⟨addr, sid, len, start, (V9.lookupTpl c addr sid).1.getD V9.emptyTpl⟩ ok recs
        (V9Prog.errV (V9.lookupTpl c addr sid).2) (.unset, .unset, .unset, .unset) (.unset, .unset)) := by
  unfold V9.lookupTpl
  by_cases hs : sid > 255
  · rw [if_pos hs]
    rcases hl : c.lookup addr sid with _ | t
    · exact ⟨.bool false, by
        ir_simp [ds, dsEnv, Gen.V9IR.decodeSet, hs, hl, minRecordLen_sem, V9.minLeft, V9.emptyTpl]⟩
    · exact ⟨.bool true, by
        ir_simp [ds, dsEnv, Gen.V9IR.decodeSet, hs, hl, minRecordLen_sem, V9.minLeft]⟩
  · rw [if_neg hs]
    exact ⟨.unset, by ir_simp [ds, dsEnv, Gen.V9IR.decodeSet, hs, V9.minLeft, V9.emptyTpl]⟩

/-! ### the leftover skip and the `return err` at the end of `decodeSet` -/

/-- what is left of the flowset as the value of `leftoverBytes` -/
def leftV (r : Rd) : V :=
  if r.cnt - ctx.start ≤ ctx.len then .int (ctx.len - (r.cnt - ctx.start)) else .neg (r.cnt - ctx.start - ctx.len)

theorem ds10 (recs : List Record) (r : Rd) (c : Cache) (err : V) (j : V × V × V × V) (hstart : ctx.start ≤ r.cnt) :
    exec addr (dsLink addr fuel) fuel (ds 10) ⟨r, c⟩ (dsEnv agent hdr ctx ok recs err j (.unset, .unset)) =
      some (.norm, ⟨r, c⟩, dsEnv agent hdr ctx ok recs err j (leftV ctx r, .unset)) := by
  ir_simp [ds, dsEnv, leftV, Gen.V9IR.decodeSet, subV, hstart]

theorem ds11_skip (recs : List Record) (st : St) (err v : V) (j : V × V × V × V) (hv : v = .int 0 ∨ ∃ k, v = .neg k) :
    exec addr (dsLink addr fuel) fuel (ds 11) st (dsEnv agent hdr ctx ok recs err j (v, .unset)) =
      some (.norm, st, dsEnv agent hdr ctx ok recs err j (v, .unset)) := by
  rcases hv with rfl | ⟨k, rfl⟩ <;> ir_simp [ds, dsEnv, Gen.V9IR.decodeSet, gt_iff_lt, Nat.lt_irrefl]

/-- the skip of `n` octets: a failed read replaces `err` -/
theorem ds11_read (recs : List Record) (r : Rd) (c : Cache) (err : V) (j : V × V × V × V) (n : Nat) (hn : n > 0) :
    exec addr (dsLink addr fuel) fuel (ds 11) ⟨r, c⟩ (dsEnv agent hdr ctx ok recs err j (.int n, .unset)) =
      match r.readN n with
      | some (_, r') => some (.norm, ⟨r', c⟩, dsEnv agent hdr ctx ok recs err j (.int n, .nil))
      | none => some (.norm, ⟨r, c⟩, dsEnv agent hdr ctx ok recs errReader j (.int n, errReader)) := by
  rcases hr : r.readN n with _ | ⟨b, r'⟩ <;> ir_simp [ds, dsEnv, Gen.V9IR.decodeSet, hn, hr]

theorem ds12 (recs : List Record) (st : St) (e : Option Err) (j : V × V × V × V) (x : V × V) :
    exec addr (dsLink addr fuel) fuel (ds 12) st (dsEnv agent hdr ctx ok recs (V9Prog.errV e) j x) =
      some (.ret [V9Prog.errV e], st, dsEnv agent hdr ctx ok recs (V9Prog.errV e) j x) := by
  cases e <;> ir_simp [ds, dsEnv, Gen.V9IR.decodeSet]

theorem ds_tail (st1 : V9.St) (e1 : Option Err) (j : V × V × V × V) (hstart : ctx.start ≤ st1.r.cnt) (hfu : e1 ≠ some .fuel) :
    ∃ rest, exec addr (dsLink addr fuel) fuel (blk [ds 10, ds 11, ds 12]) (stOf st1)
        (dsEnv agent hdr ctx ok st1.recs (V9Prog.errV e1) j (.unset, .unset)) =
      some (.ret [V9Prog.errV (V9.skipRest ctx st1 e1).2], stOf (V9.skipRest ctx st1 e1).1,
        .msg9 agent hdr (V9.skipRest ctx st1 e1).1.recs :: rest) := by
  rw [exec_blk_cons_norm _ (ds10 addr fuel agent hdr ctx ok _ _ _ _ _ hstart), V9.skipRest, if_neg hfu]
  unfold V9.leftInt
  by_cases hl : st1.r.cnt - ctx.start < ctx.len
  · obtain ⟨n, hn⟩ : ∃ n, ctx.len - (st1.r.cnt - ctx.start) = n := ⟨_, rfl⟩
    have hi : (ctx.len : Int) - ((st1.r.cnt : Int) - (ctx.start : Int)) = (n : Int) := by omega
    have hv : leftV ctx st1.r = .int n := by rw [leftV, if_pos (Nat.le_of_lt hl), hn]
    have h11 := ds11_read addr fuel agent hdr ctx ok st1.recs st1.r st1.cache (V9Prog.errV e1) j n (by omega)
    rw [hi, if_pos (by omega), Int.toNat_natCast, hv]
    rcases hr : st1.r.readN n with _ | ⟨b, r'⟩ <;> rw [hr] at h11 <;> rw [exec_blk_cons_norm _ h11, exec_blk_one]
    · exact ⟨_, ds12 addr fuel agent hdr ctx ok _ _ (some .short) _ _⟩
    · exact ⟨_, ds12 addr fuel agent hdr ctx ok _ _ e1 _ _⟩
  · have hi : ¬ (ctx.len : Int) - ((st1.r.cnt : Int) - (ctx.start : Int)) > 0 := by omega
    have hv : leftV ctx st1.r = .int 0 ∨ ∃ k, leftV ctx st1.r = .neg k := by
      unfold leftV
      by_cases hle : st1.r.cnt - ctx.start ≤ ctx.len
      · rw [if_pos hle]; exact Or.inl (by congr 1; omega)
      · rw [if_neg hle]; exact Or.inr ⟨_, rfl⟩
    rw [if_neg hi, exec_blk_cons_norm _ (ds11_skip addr fuel agent hdr ctx ok _ _ _ _ _ hv), exec_blk_one]
    exact ⟨_, ds12 addr fuel agent hdr ctx ok _ _ e1 _ _⟩
end

theorem ds_split : Gen.V9IR.decodeSet.body =
    blk ([ds 0, ds 1, ds 2, ds 3] ++ ([ds 4, ds 5, ds 6, ds 7, ds 8] ++ ds 9 :: [ds 10, ds 11, ds 12])) := ds_body

theorem decodeSet_sem (addr : Bytes) (fuel f' K : Nat) (st : V9.St) (agent : Bytes) (hdr : PHdr)
    (hfuel : st.r.rem.length < fuel) (hf' : st.r.rem.length < f') (hc : V9.CacheB K st.cache) (hK : K < fuel) :
    V9Prog.decodeSet addr fuel [.msg9 agent hdr st.recs] ⟨st.r, st.cache⟩ =
      some (⟨(V9.decodeSet addr f' st).1.r, (V9.decodeSet addr f' st).1.cache⟩,
        [.msg9 agent hdr (V9.decodeSet addr f' st).1.recs], [V9Prog.errV (V9.decodeSet addr f' st).2]) := by
  have herr : ∀ r' sh', V9Prog.setHeaderUnmarshal addr fuel [.shdr 0 0] ⟨st.r, st.cache⟩ = some (⟨r', st.cache⟩, [sh'], [errReader]) →
      V9Prog.decodeSet addr fuel [.msg9 agent hdr st.recs] ⟨st.r, st.cache⟩ =
        some (⟨r', st.cache⟩, [.msg9 agent hdr st.recs], [errReader]) := by
    intro r' sh' h
    rw [V9Prog.decodeSet, Func.sem_eq rfl rfl]
    ir_simp [Gen.V9IR.decodeSet, h]
  have hh := setHeaderUnmarshal_sem addr fuel st.r st.cache 0 0
  rw [V9.decodeSet]
  rcases h1 : st.r.rU16 with _ | ⟨sid, r1⟩ <;> simp only [h1] at hh ⊢
  · exact herr _ _ hh
  rcases h2 : r1.rU16 with _ | ⟨len, r2⟩ <;> simp only [h2] at hh ⊢
  · exact herr _ _ hh
  rw [V9Prog.decodeSet, Func.sem_eq (env0 := .msg9 agent hdr st.recs :: List.replicate 13 .unset) rfl rfl, ds_split]
  by_cases hl : len < 4
  · rw [if_pos hl]
    ir_simp [ds, Gen.V9IR.decodeSet, hh, hl]
  rw [if_neg hl, V9.setBody]
  have pre : exec addr (dsLink addr fuel) fuel (blk [ds 0, ds 1, ds 2, ds 3]) ⟨st.r, st.cache⟩
      (.msg9 agent hdr st.recs :: List.replicate 13 .unset) =
      some (.norm, ⟨r2, st.cache⟩, .msg9 agent hdr st.recs :: .int st.r.cnt :: .shdr sid len :: .nil :: List.replicate 10 .unset) := by
    ir_simp [ds, Gen.V9IR.decodeSet, hh, hl]
  obtain ⟨ok, pre2⟩ := ds_pre2 addr fuel agent hdr st.recs r2 st.cache sid len st.r.cnt
  rw [exec_blk_append_norm _ pre, exec_blk_append_norm _ pre2, exec_blk_cons, ds9_shape, exec_loop]
  have ha := (adv_rU16 h1).1.trans (adv_rU16 h2).1
  obtain ⟨ctx, hctx⟩ : ∃ ctx : V9.Ctx, ctx = ⟨addr, sid, len, st.r.cnt, (V9.lookupTpl st.cache addr sid).1.getD V9.emptyTpl⟩ := ⟨_, rfl⟩
  rw [← hctx]
  have hstart : ctx.start ≤ r2.cnt := by rw [hctx]; exact ha.2
  have hr2 : r2.rem.length ≤ st.r.rem.length := ha.rem_le
  rcases hlook : (V9.lookupTpl st.cache addr sid).2 with _ | e <;> simp only []
  · -- the record loop runs
    have htr : ctx.tr.scope.length < fuel ∧ ctx.tr.fields.length < fuel := by
      rw [hctx]; simp only
      unfold V9.lookupTpl
      by_cases hs : sid > 255
      · rw [if_pos hs]
        rcases hlk : st.cache.lookup addr sid with _ | t
        · exact ⟨Nat.zero_lt_of_lt hK, Nat.zero_lt_of_lt hK⟩
        · have := hc.lookup hlk
          exact ⟨Nat.lt_of_le_of_lt (Nat.le_trans (Nat.le_add_right _ _) this) hK,
            Nat.lt_of_le_of_lt (Nat.le_trans (Nat.le_add_left _ _) this) hK⟩
      · rw [if_neg hs]; exact ⟨Nat.zero_lt_of_lt hK, Nat.zero_lt_of_lt hK⟩
    have hloop := ds_loop9 addr fuel agent hdr ctx ok (by rw [hctx]) htr.1 htr.2 fuel f' { st with r := r2 }
      (.unset, .unset, .unset, .unset) (Nat.lt_of_le_of_lt hr2 hfuel) (Nat.lt_of_le_of_lt hr2 hf') (Nat.lt_of_le_of_lt hr2 hfuel)
      hstart
    rcases hres : V9.setLoop ctx f' { st with r := r2 } with ⟨st1, e1⟩
    have hfl := V9.setLoop_fuel ctx f' _ _ _ (Nat.lt_of_le_of_lt hr2 hf') hres
    have hs1 : ctx.start ≤ st1.r.cnt := Nat.le_trans hstart hfl.2.1.2
    simp only [hres, DsLoopOut] at hloop
    obtain ⟨j, hloop⟩ := hloop
    obtain ⟨rest, htail⟩ := ds_tail addr fuel agent hdr ctx ok st1 e1 j hs1 hfl.1
    simp only [errV_none, hloop, htail]
    ir_simp [Gen.V9IR.decodeSet]
  · -- unknown template: the loop condition fails at once, the flowset is skipped
    obtain ⟨k, rfl⟩ : ∃ n, fuel = n + 1 := ⟨fuel - 1, (Nat.succ_pred_eq_of_pos (Nat.zero_lt_of_lt hK)).symm⟩
    have hne : some e ≠ some Err.fuel := by
      intro h; cases h; rw [V9.lookupTpl] at hlook
      by_cases hs : sid > 255
      · rw [if_pos hs] at hlook
        rcases hlk : st.cache.lookup addr sid with _ | t <;> rw [hlk] at hlook <;> cases hlook
      · rw [if_neg hs] at hlook; cases hlook
    obtain ⟨rest, htail⟩ := ds_tail addr (k + 1) agent hdr ctx ok { st with r := r2 } (some e) (.unset, .unset, .unset, .unset)
      hstart hne
    rw [errV_some] at htail
    dsimp only [stOf] at htail
    simp only [errV_some, loopF, ds9_cond_err, htail]
    ir_simp [Gen.V9IR.decodeSet]

end Vflow.V9IR
