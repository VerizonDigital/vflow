import Vflow.Spec.Wire
import Vflow.Proofs.RdLemmas
/-!
# Reading back what the spec encoders wrote: integers, octet strings, cache lookups

What the IPFIX and the NetFlow v9 round trips share.
-/
namespace Vflow.Wire
open Vflow

/-- The decoders return `Except` values, for which core Lean has no decidable equality; with it, what a decoder
returns on a concrete datagram can be settled by evaluation (`decide`). -/
instance decEqExcept {ε α : Type} [DecidableEq ε] [DecidableEq α] : DecidableEq (Except ε α)
  | .ok a, .ok b => decidable_of_iff (a = b) ⟨congrArg _, Except.ok.inj⟩
  | .error a, .error b => decidable_of_iff (a = b) ⟨congrArg _, Except.error.inj⟩
  | .ok _, .error _ => isFalse nofun
  | .error _, .ok _ => isFalse nofun

theorem be16_length (n : Nat) : (be16 n).length = 2 := encBE_length 2 n
theorem be32_length (n : Nat) : (be32 n).length = 4 := encBE_length 4 n

theorem rU16_be16 (n : Nat) (h : n < 65536) (rest : Bytes) (c : Nat) :
    Rd.rU16 ⟨be16 n ++ rest, c⟩ = some (n, ⟨rest, c + 2⟩) := readN_encBE 2 n h rest c

theorem rU32_be32 (n : Nat) (h : n < 4294967296) (rest : Bytes) (c : Nat) :
    Rd.rU32 ⟨be32 n ++ rest, c⟩ = some (n, ⟨rest, c + 4⟩) := readN_encBE 4 n h rest c

theorem peek16_be16 (n : Nat) (h : n < 65536) (rest : Bytes) (c : Nat) :
    Rd.peek16 ⟨be16 n ++ rest, c⟩ = some n := by
  simp only [Rd.peek16, be16, readN_append' _ rest c 2 (encBE_length 2 n), Option.map_some, beN_encBE 2 n h]

theorem rU8_byte (n : Nat) (h : n < 256) (rest : Bytes) (c : Nat) :
    Rd.rU8 ⟨UInt8.ofNat n :: rest, c⟩ = some (n, ⟨rest, c + 1⟩) := by
  have := readN_append' [UInt8.ofNat n] rest c 1 rfl
  simp only [List.singleton_append] at this
  simp only [Rd.rU8, this, Option.map_some]
  simp [beN, UInt8.toNat_ofNat']
  omega

/-- so fuel above the octets left is fuel above the items left -/
theorem length_le_flatten_map {α : Type} (enc : α → Bytes) :
    ∀ (xs : List α), (∀ x ∈ xs, 0 < (enc x).length) → xs.length ≤ (xs.map enc).flatten.length
  | [], _ => Nat.le_refl 0
  | x :: xs, h => by
    have := length_le_flatten_map enc xs (fun y hy => h y (List.mem_cons_of_mem x hy))
    have := h x List.mem_cons_self
    simp only [List.map_cons, List.flatten_cons, List.length_append, List.length_cons]
    omega

theorem flatMap_nil' {α β : Type} (xs : List α) : xs.flatMap (fun _ => ([] : List β)) = [] :=
  List.flatMap_eq_nil_iff.2 fun _ _ => rfl

theorem lookup_insert (c : Cache) (addr : Bytes) (id : Nat) (t : Template) :
    Cache.lookup (c.insert addr id t) addr id = some t := by
  simp [Cache.lookup, Cache.insert]

attribute [local irreducible] Vflow.lookupElem

theorem expectedField_of_lookup {s : Spec} {v : Bytes} {fid ty : Nat}
    (h : lookupElem s.ent s.id = some (fid, ty)) :
    expectedField s v = ⟨fid, s.ent, interpret v ty⟩ := by
  unfold expectedField
  rw [h]

end Vflow.Wire
