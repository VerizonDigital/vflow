import Vflow.Proofs.SflowFilter
/-!
# The sFlow v5 wire encoder (specification side) and the round trip, from the leaves upward

`encodeSflow : ADatagram → Bytes` follows the sFlow v5 XDR layout: datagram header with a 4- or 16-octet agent
address; samples and records as `(type, length, body)`; raw packet headers padded to a multiple of 4; counter
records laid out by `counterLayout`; unknown samples / records as opaque bodies.  The abstract datagram covers
every sampled header (any octets, 0 … 1500 of them, under any header protocol: F19), reported with its four
words and with the packet iff the dissector can break it down (`dissected`: F33), and extended-router records
of any length (only the two lengths of an IPv4 / IPv6 next hop are decoded, the others skipped).
-/
namespace Vflow.Sflow
open Vflow Vflow.Packet

def be32 (v : Nat) : Bytes := encBE 4 v

/-- XDR padding to a multiple of four -/
def pad (n : Nat) : Nat := (4 - n % 4) % 4

def encList {A : Type} (enc : A → Bytes) : List A → Bytes
  | [] => []
  | a :: as => enc a ++ encList enc as

inductive AFlowRec where
  /-- raw packet header: header protocol, frame length, stripped, and the sampled octets — any octets -/
  | raw (proto frameLen stripped : Nat) (hdr : Bytes)
  | sw (s : ExtSwitch)
  /-- extended router with an IPv4 or IPv6 next hop (address type 1 / 2: record length 16 / 28) -/
  | rtr (r : ExtRouter)
  /-- a record this decoder skips by its declared length: a format it does not know, or an extended-router
  record (format 1002) of any other length (address type 0 = unknown has no address octets: 12) -/
  | unknown (fmt : Nat) (body : Bytes)

inductive ACounterRec where
  | known (fmt : Nat) (vals : List Nat)
  | unknown (fmt : Nat) (body : Bytes)

inductive ASample where
  | flow (seq srcType srcIdx rate pool drops inp out : Nat) (recs : List AFlowRec)
  | counter (seq srcType srcIdx : Nat) (recs : List ACounterRec)
  /-- any other type: expanded samples, unknown formats, enterprise-specific samples -/
  | unknown (type : Nat) (body : Bytes)

structure ADatagram where
  agent : Bytes
  subID : Nat
  seqNo : Nat
  upTime : Nat
  samples : List ASample

def encFlowRec : AFlowRec → Bytes
  | .raw proto fl st hdr =>
    be32 1 ++ be32 (16 + hdr.length + pad hdr.length) ++
      (encFields [4, 4, 4, 4] [proto, fl, st, hdr.length] ++ ((hdr ++ List.replicate (pad hdr.length) 0)))
  | .sw s => be32 1001 ++ be32 16 ++ encFields [4, 4, 4, 4] [s.srcVlan, s.srcPriority, s.dstVlan, s.dstPriority]
  | .rtr r => be32 1002 ++ be32 (r.nextHop.length + 12) ++
      ((be32 (if r.nextHop.length = 4 then 1 else 2) ++ r.nextHop) ++ encFields [4, 4] [r.srcMask, r.dstMask])
  | .unknown fmt body => be32 fmt ++ be32 body.length ++ body

def encCounterRec : ACounterRec → Bytes
  | .known fmt vals =>
    match counterLayout fmt with
    | some l => be32 fmt ++ be32 (widths l).sum ++ encFields (widths l) vals
    | none => []
  | .unknown fmt body => be32 fmt ++ be32 body.length ++ body

def encSampleBody : ASample → Bytes
  | .flow seq ty idx rate pool drops inp out recs =>
    encFields [4, 1] [seq, ty] ++ (encBE 3 idx ++
      (encFields [4, 4, 4, 4, 4, 4] [rate, pool, drops, inp, out, recs.length] ++ encList encFlowRec recs))
  | .counter seq ty idx recs =>
    encFields [4, 1, 3, 4] [seq, ty, idx, recs.length] ++ encList encCounterRec recs
  | .unknown _ body => body

def ASample.type : ASample → Nat
  | .flow .. => 1
  | .counter .. => 2
  | .unknown t _ => t

def encSample (s : ASample) : Bytes :=
  be32 s.type ++ be32 (encSampleBody s).length ++ encSampleBody s

def encodeSflow (d : ADatagram) : Bytes :=
  be32 5 ++ be32 (if d.agent.length = 16 then 2 else 1) ++
    (d.agent ++ (encFields [4, 4, 4, 4] [d.subID, d.seqNo, d.upTime, d.samples.length] ++ encList encSample d.samples))

/-! ## well-formedness: values fit their fields, lengths fit 32 bits, header ≤ 1500 octets -/

/-- a raw-header record is well-formed when its four words fit and the sampled header has at most 1500 octets:
nothing is asked of the octets themselves or of the header protocol (F19a), and the header may be empty -/
def AFlowRec.WF : AFlowRec → Prop
  | .raw proto fl st hdr => Fits [4, 4, 4, 4] [proto, fl, st, hdr.length] ∧ hdr.length ≤ 1500
  | .sw s => Fits [4, 4, 4, 4] [s.srcVlan, s.srcPriority, s.dstVlan, s.dstPriority]
  | .rtr r => (r.nextHop.length = 4 ∨ r.nextHop.length = 16) ∧ Fits [4, 4] [r.srcMask, r.dstMask]
  | .unknown fmt body => fmt ≠ 1 ∧ fmt ≠ 1001 ∧ (fmt = 1002 → body.length ≠ 16 ∧ body.length ≠ 28) ∧
      fmt < 256 ^ 4 ∧ body.length < 256 ^ 4

def ACounterRec.WF : ACounterRec → Prop
  | .known fmt vals => ∃ l, counterLayout fmt = some l ∧ Fits (widths l) vals
  | .unknown fmt body => counterLayout fmt = none ∧ fmt < 256 ^ 4 ∧ body.length < 256 ^ 4

/-- a sample's type word is enterprise (upper 20 bits, `t / 4096`) and format (lower 12, `t % 4096`): `unknown` is
any type of another enterprise, or a format of the standard one (0) other than flow (1) and counter (2) -/
def ASample.WF : ASample → Prop
  | .flow seq ty idx rate pool drops inp out recs =>
    Fits [4, 1] [seq, ty] ∧ idx < 256 ^ 3 ∧ Fits [4, 4, 4, 4, 4, 4] [rate, pool, drops, inp, out, recs.length] ∧
      (∀ r ∈ recs, r.WF) ∧ (encSampleBody (.flow seq ty idx rate pool drops inp out recs)).length < 256 ^ 4
  | .counter seq ty idx recs =>
    Fits [4, 1, 3, 4] [seq, ty, idx, recs.length] ∧ (∀ r ∈ recs, r.WF) ∧
      (encSampleBody (.counter seq ty idx recs)).length < 256 ^ 4
  | .unknown t body => (t / 4096 ≠ 0 ∨ (t % 4096 ≠ 1 ∧ t % 4096 ≠ 2)) ∧ t < 256 ^ 4 ∧ body.length < 256 ^ 4

def ADatagram.WF (d : ADatagram) : Prop :=
  (d.agent.length = 4 ∨ d.agent.length = 16) ∧ Fits [4, 4, 4, 4] [d.subID, d.seqNo, d.upTime, d.samples.length] ∧
    ∀ s ∈ d.samples, s.WF

/-- what a sampled header contributes: the packet it dissects to, nothing when the dissector rejects it
(`dissect` never panics: `Packet.dissect_safe`) -/
def dissected (hdr : Bytes) (proto : Nat) : Option Pkt :=
  match dissect hdr proto with
  | .ok p => some p
  | _ => none

theorem dissected_ok {hdr : Bytes} {proto : Nat} {p : Pkt} (h : dissect hdr proto = .ok p) :
    dissected hdr proto = some p := by simp [dissected, h]

theorem dissected_err {hdr : Bytes} {proto : Nat} {e : Err} (h : dissect hdr proto = .err e) :
    dissected hdr proto = none := by simp [dissected, h]

/-- F33: a raw-header record is reported whatever its octets are — header protocol, frame length, stripped and
the number of sampled octets as they are on the wire, and the packet the octets dissect to, if any -/
def expFlowRec : AFlowRec → Option FlowRec
  | .raw proto fl st hdr => some (.raw ⟨proto, fl, st, hdr.length, dissected hdr proto⟩)
  | .sw s => some (.sw s)
  | .rtr r => some (.rtr r)
  | .unknown _ _ => none

def expCounterRec : ACounterRec → Option (Nat × List Nat)
  | .known fmt vals => some (fmt, vals)
  | .unknown _ _ => none

def expSample : ASample → Option Sample
  | .flow seq ty idx rate pool drops inp out recs =>
    some (.flow ⟨seq, ty, idx, rate, pool, drops, inp, out, recs.length, FlowRecs.ofList (recs.map expFlowRec)⟩)
  | .counter seq ty idx recs =>
    some (.counter ⟨seq, ty, idx, recs.length, CounterRecs.ofList (recs.map expCounterRec)⟩)
  | .unknown _ _ => none

/-- the decoded datagram the abstract datagram stands for: header fields, agent address, and in wire
order every flow sample and every counter sample with all its fields -/
def expected (d : ADatagram) : Datagram :=
  mkDatagram ⟨5, if d.agent.length = 16 then 2 else 1, d.agent, d.subID, d.seqNo, d.upTime, d.samples.length⟩
    (d.samples.map expSample)

/-- a loop over the encodings of a list, started with more fuel than octets, decodes the list: each step consumes
at least eight octets, so the fuel lasts -/
theorem loopN_encList {α A : Type} {step : Bytes → Res (α × Bytes)} (hg : ∀ bs, Good (step bs) bs 8)
    (enc : A → Bytes) (exp : A → α) (WF : A → Prop) (hstep : ∀ a t, WF a → step (enc a ++ t) = .ok (exp a, t))
    (as : List A) (fuel : Nat) (t : Bytes) (hwf : ∀ a ∈ as, WF a) (hf : (encList enc as ++ t).length < fuel) :
    loopN step fuel as.length (encList enc as ++ t) = .ok (as.map exp, t) := by
  induction as generalizing fuel with
  | nil => exact loopN_zero step fuel t
  | cons a as ih =>
    have ha := hstep a (encList enc as ++ t) (hwf a List.mem_cons_self)
    have := (hg _).2 _ _ ha
    cases fuel with
    | zero => omega
    | succ fuel =>
      simp only [List.length_cons, loopN, encList, List.append_assoc, ha] at hf ⊢
      rw [ih fuel (fun x hx => hwf x (List.mem_cons_of_mem _ hx)) (by omega)]
      rfl

theorem be32_length (v : Nat) : (be32 v).length = 4 := encBE_length 4 v

theorem u32_be32 (v : Nat) (t : Bytes) (h : v < 256 ^ 4) : u32 (be32 v ++ t) = some (v, t) := by
  rw [be32, u32_append _ _ (encBE_length 4 v), beN_encBE 4 v h]

theorem decodeSampledHeader_enc (proto fl st : Nat) (hdr : Bytes) (t : Bytes)
    (hwf : (AFlowRec.raw proto fl st hdr).WF) :
    decodeSampledHeader (encFields [4, 4, 4, 4] [proto, fl, st, hdr.length] ++
      ((hdr ++ List.replicate (pad hdr.length) 0) ++ t)) =
      .ok (⟨proto, fl, st, hdr.length, dissected hdr proto⟩, t) := by
  obtain ⟨hfit, hle⟩ := hwf
  unfold decodeSampledHeader
  rw [readFields_enc _ _ _ hfit]
  simp only
  rw [if_neg (Nat.not_lt.mpr hle), show (4 - hdr.length % 4) % 4 = pad hdr.length from rfl,
    readHdr_append _ t (hdr.length + pad hdr.length) (by simp)]
  simp only
  rw [slice?_le (Nat.zero_le _) (by simp)]
  simp only [List.drop_zero, Nat.sub_zero, List.take_left' rfl]
  have hs := dissect_safe hdr proto
  split
  · rw [dissected_ok ‹_›]
  · rw [dissected_err ‹_›]
  · exact absurd ‹_› hs.1
  · exact absurd ‹_› hs.2

theorem decodeExtSwitch_enc (s : ExtSwitch) (t : Bytes) (hwf : (AFlowRec.sw s).WF) :
    decodeExtSwitch (encFields [4, 4, 4, 4] [s.srcVlan, s.srcPriority, s.dstVlan, s.dstPriority] ++ t) = .ok (s, t) := by
  unfold decodeExtSwitch
  rw [readFields_enc _ _ _ hwf]

theorem decodeExtRouter_enc (r : ExtRouter) (t : Bytes) (hwf : (AFlowRec.rtr r).WF) :
    decodeExtRouter (r.nextHop.length + 12)
      ((be32 (if r.nextHop.length = 4 then 1 else 2) ++ r.nextHop) ++ (encFields [4, 4] [r.srcMask, r.dstMask] ++ t)) =
      .ok (r, t) := by
  obtain ⟨hl, hfit⟩ := hwf
  have hbuf : (be32 (if r.nextHop.length = 4 then 1 else 2) ++ r.nextHop).length = r.nextHop.length + 12 - 8 := by
    rw [List.length_append, be32_length, Nat.add_comm]; rfl
  unfold decodeExtRouter
  rw [if_neg (by omega), full_append _ _ _ hbuf]
  simp only
  rw [from?_le (by rw [List.length_append, be32_length]; exact Nat.le_add_right 4 _)]
  simp only [List.drop_left' (be32_length _), readFields_enc _ _ _ hfit]

theorem flowRecord_words (fmt len : Nat) (t : Bytes) (hf : fmt < 256 ^ 4) (hl : len < 256 ^ 4) :
    flowRecord (be32 fmt ++ (be32 len ++ t)) =
      if fmt = 1 then (decodeSampledHeader t).mapFst (fun h => some (.raw h))
      else if fmt = 1001 then (decodeExtSwitch t).mapFst (fun s => some (.sw s))
      else if fmt = 1002 then
        if len ≠ 16 ∧ len ≠ 28 then .ok (none, t.drop len) else (decodeExtRouter len t).mapFst (fun x => some (.rtr x))
      else .ok (none, t.drop len) := by
  simp only [flowRecord, u32_be32 _ _ hf, u32_be32 _ _ hl]

theorem flowRecord_enc (a : AFlowRec) (t : Bytes) (hwf : a.WF) :
    flowRecord (encFlowRec a ++ t) = .ok (expFlowRec a, t) := by
  cases a with
  | raw proto fl st hdr =>
    have hlen : 16 + hdr.length + pad hdr.length < 256 ^ 4 := by
      have := hwf.2; have : pad hdr.length < 4 := Nat.mod_lt _ (by decide); omega
    rw [encFlowRec, List.append_assoc, List.append_assoc, flowRecord_words _ _ _ (by decide) hlen, if_pos rfl,
      List.append_assoc, decodeSampledHeader_enc proto fl st hdr t hwf]
    rfl
  | sw s =>
    rw [encFlowRec, List.append_assoc, List.append_assoc, flowRecord_words _ _ _ (by decide) (by decide),
      if_neg (by decide), if_pos rfl, decodeExtSwitch_enc s t hwf]
    rfl
  | rtr r =>
    have hl : r.nextHop.length + 12 = 16 ∨ r.nextHop.length + 12 = 28 := by have := hwf.1; omega
    rw [encFlowRec, List.append_assoc, List.append_assoc, flowRecord_words _ _ _ (by decide) (by omega),
      if_neg (by decide), if_neg (by decide), if_pos rfl, if_neg (by omega), List.append_assoc,
      decodeExtRouter_enc r t hwf]
    rfl
  | unknown fmt body =>
    obtain ⟨h1, h2, h3, hf, hb⟩ := hwf
    rw [encFlowRec, List.append_assoc, List.append_assoc, flowRecord_words _ _ _ hf hb, if_neg h1, if_neg h2,
      List.drop_left' rfl]
    by_cases h1002 : fmt = 1002
    · rw [if_pos h1002, if_pos (h3 h1002)]; rfl
    · rw [if_neg h1002]; rfl

/-- the formats `counterLayout` knows and the sizes of their records (both have to fit a 32-bit word) -/
theorem counterLayout_le {fmt : Nat} {l : Layout} (h : counterLayout fmt = some l) :
    fmt ≤ 1001 ∧ (widths l).sum ≤ 88 := by
  have hf : fmt = 1 ∨ fmt = 2 ∨ fmt = 3 ∨ fmt = 4 ∨ fmt = 5 ∨ fmt = 1001 := by
    refine Decidable.by_contra fun hn => ?_
    simp only [not_or] at hn
    simp [counterLayout, hn] at h
  rcases hf with rfl | rfl | rfl | rfl | rfl | rfl <;> cases h <;> decide

theorem counterRecord_enc (a : ACounterRec) (t : Bytes) (hwf : a.WF) :
    counterRecord (encCounterRec a ++ t) = .ok (expCounterRec a, t) := by
  cases a with
  | known fmt vals =>
    obtain ⟨l, hl, hfit⟩ := hwf
    obtain ⟨hf, hs⟩ := counterLayout_le hl
    simp only [encCounterRec, hl, counterRecord, List.append_assoc, u32_be32 fmt _ (by omega),
      u32_be32 _ _ (show (widths l).sum < 256 ^ 4 by omega), readFields_enc _ _ _ hfit]
    rfl
  | unknown fmt body =>
    obtain ⟨hl, hf, hb⟩ := hwf
    simp only [encCounterRec, counterRecord, List.append_assoc, u32_be32 fmt _ hf, u32_be32 _ _ hb, hl,
      List.drop_left' rfl]
    rfl

theorem decodeFlowSample_enc (seq ty idx rate pool drops inp out : Nat) (recs : List AFlowRec) (t : Bytes)
    (hwf : (ASample.flow seq ty idx rate pool drops inp out recs).WF) :
    decodeFlowSample (encSampleBody (.flow seq ty idx rate pool drops inp out recs) ++ t) =
      .ok (⟨seq, ty, idx, rate, pool, drops, inp, out, recs.length, FlowRecs.ofList (recs.map expFlowRec)⟩, t) := by
  obtain ⟨h1, hidx, h2, hr, _⟩ := hwf
  have hfit : Fits [4, 1, 3, 4, 4, 4, 4, 4, 4] [seq, ty, idx, rate, pool, drops, inp, out, recs.length] :=
    ⟨h1.1, h1.2.1, hidx, h2⟩
  have henc : encFields [4, 1] [seq, ty] ++ (encBE 3 idx ++
      (encFields [4, 4, 4, 4, 4, 4] [rate, pool, drops, inp, out, recs.length] ++ (encList encFlowRec recs ++ t))) =
      encFields [4, 1, 3, 4, 4, 4, 4, 4, 4] [seq, ty, idx, rate, pool, drops, inp, out, recs.length] ++
        (encList encFlowRec recs ++ t) := by
    simp [encFields, List.append_assoc]
  simp only [encSampleBody, List.append_assoc]
  simp only [henc, decodeFlowSample_eq, readFields_enc _ _ _ hfit,
    loopN_encList flowRecord_good encFlowRec expFlowRec AFlowRec.WF flowRecord_enc recs _ t hr (Nat.lt_succ_self _)]
  rfl

theorem decodeCounterSample_enc (seq ty idx : Nat) (recs : List ACounterRec) (t : Bytes)
    (hwf : (ASample.counter seq ty idx recs).WF) :
    decodeCounterSample (encSampleBody (.counter seq ty idx recs) ++ t) =
      .ok (⟨seq, ty, idx, recs.length, CounterRecs.ofList (recs.map expCounterRec)⟩, t) := by
  obtain ⟨h1, hr, _⟩ := hwf
  simp only [encSampleBody, List.append_assoc, decodeCounterSample_eq, readFields_enc _ _ _ h1,
    loopN_encList counterRecord_good encCounterRec expCounterRec ACounterRec.WF counterRecord_enc recs _ t hr
      (Nat.lt_succ_self _)]
  rfl

theorem sampleInfo_enc (ty len : Nat) (t : Bytes) (ht : ty < 256 ^ 4) (hl : len < 256 ^ 4) :
    sampleInfo (be32 ty ++ (be32 len ++ t)) = .ok ((ty / 4096, ty % 4096, len), t) := by
  simp only [sampleInfo, u32_be32 _ _ ht, u32_be32 _ _ hl]

theorem sampleInfo_std (fmt len : Nat) (t : Bytes) (hf : fmt < 4096) (hl : len < 256 ^ 4) :
    sampleInfo (be32 fmt ++ (be32 len ++ t)) = .ok ((0, fmt, len), t) := by
  rw [sampleInfo_enc _ _ _ (by omega) hl, Nat.div_eq_of_lt hf, Nat.mod_eq_of_lt hf]

theorem sampleStep_enc (f : List Nat) (s : ASample) (t : Bytes) (hwf : s.WF) :
    sampleStep f (encSample s ++ t) = .ok (keep f (expSample s), t) := by
  cases s with
  | flow seq ty idx rate pool drops inp out recs =>
    -- the type and length words (`sampleInfo_std`), then either the skip by the body's length or the body's round
    -- trip: both end at `t`, and `if 1 ∈ f` is left on both sides
    simp only [sampleStep, encSample, ASample.type, List.append_assoc, sampleInfo_std 1 _ _ (by decide) hwf.2.2.2.2,
      decodeFlowSample_enc seq ty idx rate pool drops inp out recs t hwf, List.drop_left' rfl, expSample, keep_flow,
      ne_eq, not_true_eq_false, if_false, if_true]
    split <;> rfl
  | counter seq ty idx recs =>
    simp only [sampleStep, encSample, ASample.type, List.append_assoc, sampleInfo_std 2 _ _ (by decide) hwf.2.2,
      decodeCounterSample_enc seq ty idx recs t hwf, List.drop_left' rfl, expSample, keep_counter,
      ne_eq, not_true_eq_false, if_false, if_true, show ¬ (2 = 1) by decide]
    split <;> rfl
  | unknown ty body =>
    obtain ⟨hty, ht, hb⟩ := hwf
    simp only [sampleStep, encSample, ASample.type, encSampleBody, List.append_assoc, sampleInfo_enc ty _ _ ht hb,
      List.drop_left' rfl, expSample, keep_none]
    by_cases he : ty / 4096 ≠ 0
    · rw [if_pos he]
    · rw [if_neg he, if_neg (hty.resolve_left he).1, if_neg (hty.resolve_left he).2, ite_self]

theorem decodeHeader_enc (d : ADatagram) (hwf : d.WF) :
    decodeHeader (encodeSflow d) =
      .ok (⟨5, if d.agent.length = 16 then 2 else 1, d.agent, d.subID, d.seqNo, d.upTime, d.samples.length⟩,
        encList encSample d.samples) := by
  obtain ⟨ha, hfit, _⟩ := hwf
  -- the address type announces the length of the address: 1 for four octets, 2 for sixteen
  have hv : (if d.agent.length = 16 then 2 else 1) < 256 ^ 4 ∧
      d.agent.length = (if (if d.agent.length = 16 then 2 else 1) = 2 then 16 else 4) := by
    rcases ha with h | h <;> simp [h]
  simp only [decodeHeader, encodeSflow, List.append_assoc, u32_be32 5 _ (by decide), u32_be32 _ _ hv.1,
    ne_eq, not_true_eq_false, if_false, rawRead_append _ _ _ hv.2 (by split <;> decide), readFields_enc _ _ _ hfit]

theorem decode_enc (f : List Nat) (d : ADatagram) (hwf : d.WF) :
    decode f (encodeSflow d) = .ok (dropTypes f (expected d)) := by
  have hloop := loopN_encList (sampleStep_good f) encSample (fun s => keep f (expSample s)) ASample.WF
    (sampleStep_enc f) d.samples ((encodeSflow d).length + 1) [] hwf.2.2 (by simp [encodeSflow]; omega)
  rw [List.append_nil] at hloop
  simp only [decode, decodeHeader_enc d hwf, hloop, expected, ← mkDatagram_keep, List.map_map]
  rfl

end Vflow.Sflow
