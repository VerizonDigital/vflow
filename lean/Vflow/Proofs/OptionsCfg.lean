import Vflow.Model.Options
/-!
# Locating the configuration file (`loadCfg`) against package `flag` (helper lemmas for C17)

* `wordOf_eq_flag`, `wordOf_name`, `flagCfgWord_eq_some`: which words package `flag` reads as a flag, as the flag of
  a given name, as the flag `config` — in terms of the characters of the word.
* `cfgWord_eq_flagCfgWord`: the test `loadCfg` applies to a word of `os.Args` (two equalities, two prefix
  tests) accepts exactly the words package `flag` reads as the flag `config`, with the same inline value.
* `parseArgs_step`: one step of `FlagSet.Parse`, inverted.
* `findConfig_parse`: every assignment package `flag` makes to `config`
  comes from a word that spells the config flag; when there is no other such word, the scan of `loadCfg`
  finds the value of the first assignment.
-/
namespace Vflow.Options
open Vflow

/-- how package `flag` reads one word, restricted to the flag `config`: `some none` = the flag without an
inline value, `some (some v)` = `config=v`, `none` = any other word -/
def flagCfgWord (s : String) : Option (Option String) :=
  match wordOf s with
  | .flag n v => if n = "config" then some v else none
  | _ => none

theorem dropPrefix?_eq_some {p cs v : List Char} : dropPrefix? p cs = some v ↔ cs = p ++ v := by
  induction p generalizing cs with
  | nil => simp [dropPrefix?, eq_comm]
  | cons a p ih =>
    cases cs with
    | nil => simp [dropPrefix?]
    | cons c cs =>
      by_cases h : a = c
      · subst h; simp [dropPrefix?, ih]
      · simp [dropPrefix?, h, Ne.symm h]

theorem dropPrefix?_append (p v : List Char) : dropPrefix? p (p ++ v) = some v :=
  dropPrefix?_eq_some.mpr rfl

/-- what follows the name in a flag word: nothing, or `=` and the value -/
def eqTail : Option (List Char) → List Char
  | none => []
  | some v => '=' :: v

theorem splitEq_spec (body : List Char) :
    '=' ∉ (splitEq body).1 ∧ body = (splitEq body).1 ++ eqTail (splitEq body).2 := by
  induction body with
  | nil => simp [splitEq, eqTail]
  | cons c cs ih =>
    by_cases h : c = '='
    · subst h; simp [splitEq, eqTail]
    · simp only [splitEq, h, ↓reduceIte, List.mem_cons, not_or, List.cons_append]
      exact ⟨⟨fun e => h e.symm, ih.1⟩, congrArg (c :: ·) ih.2⟩

theorem splitEq_append {n : List Char} (hn : '=' ∉ n) (v : Option (List Char)) :
    splitEq (n ++ eqTail v) = (n, v) := by
  induction n with
  | nil => cases v <;> simp [splitEq, eqTail]
  | cons c cs ih =>
    have hc : c ≠ '=' := fun e => hn (by simp [e])
    simp [splitEq, hc, ih fun m => hn (List.mem_cons_of_mem _ m)]

theorem wordOfBody_eq_flag {body : List Char} {n : String} {v : Option String} :
    wordOfBody body = .flag n v ↔
      (∀ t, body ≠ '-' :: t) ∧ (∀ t, body ≠ '=' :: t) ∧
      n = String.ofList (splitEq body).1 ∧ v = (splitEq body).2.map String.ofList := by
  unfold wordOfBody
  split <;> simp_all [eq_comm]

theorem wordOf_eq_flag {s n : String} {v : Option String} :
    wordOf s = .flag n v ↔ ∃ body, body ≠ [] ∧ (s.toList = '-' :: body ∨ s.toList = '-' :: '-' :: body) ∧
      wordOfBody body = .flag n v := by
  have hbad : ∀ t, wordOfBody ('-' :: t) ≠ .flag n v := fun t h => by simp [wordOfBody] at h
  unfold wordOf
  split
  · rename_i c1 more hs
    rw [hs]
    constructor
    · intro h
      by_cases hc : c1 = '-'
      · subst hc
        cases more with
        | nil => simp at h
        | cons c r => exact ⟨c :: r, by simp, Or.inr rfl, by simpa using h⟩
      · exact ⟨c1 :: more, by simp, Or.inl rfl, by simpa [hc] using h⟩
    · rintro ⟨body, hb, h | h, hw⟩
      · obtain rfl : c1 :: more = body := by simpa using h
        have hc : c1 ≠ '-' := fun e => hbad more (e ▸ hw)
        simpa [hc] using hw
      · obtain ⟨rfl, rfl⟩ : c1 = '-' ∧ more = body := by simpa using h
        cases more with
        | nil => exact absurd rfl hb
        | cons c r => simpa using hw
  · rename_i hs
    simp only [reduceCtorEq, false_iff, not_exists, not_and]
    intro body hb h
    cases body with
    | nil => exact absurd rfl hb
    | cons c r => rcases h with h | h <;> exact absurd h (hs _ _)

theorem wordOf_name {s : String} {name : List Char} (v : Option (List Char)) (h0 : name ≠ [])
    (h1 : ∀ t, name ≠ '-' :: t) (h2 : '=' ∉ name)
    (hs : s.toList = '-' :: (name ++ eqTail v) ∨ s.toList = '-' :: '-' :: (name ++ eqTail v)) :
    wordOf s = .flag (String.ofList name) (v.map String.ofList) := by
  refine wordOf_eq_flag.2 ⟨_, by simp [h0], hs, wordOfBody_eq_flag.2 ?_⟩
  rw [splitEq_append h2]
  cases name with
  | nil => exact absurd rfl h0
  | cons c r =>
    refine ⟨fun t e => h1 r ?_, fun t e => h2 ?_, rfl, rfl⟩
    · rw [(List.cons.inj e).1]
    · rw [(List.cons.inj e).1]; exact List.mem_cons_self

def cfgName : List Char := ['c', 'o', 'n', 'f', 'i', 'g']

/-- the words package `flag` reads as the flag `config`: one or two dashes, `config`, and nothing more or `=value` -/
theorem flagCfgWord_eq_some {s : String} {x : Option String} :
    flagCfgWord s = some x ↔ ∃ v, x = v.map String.ofList ∧
      (s.toList = '-' :: (cfgName ++ eqTail v) ∨ s.toList = '-' :: '-' :: (cfgName ++ eqTail v)) := by
  have hw : flagCfgWord s = some x ↔ wordOf s = .flag "config" x := by
    unfold flagCfgWord
    cases wordOf s with
    | flag n v => by_cases hn : n = "config" <;> simp [hn]
    | _ => simp
  rw [hw]
  constructor
  · intro h
    obtain ⟨body, -, hs, hb⟩ := wordOf_eq_flag.1 h
    obtain ⟨-, -, hn, hv⟩ := wordOfBody_eq_flag.1 hb
    have hname : (splitEq body).1 = cfgName := (String.ofList_inj.1 hn).symm
    have hsp := (splitEq_spec body).2
    rw [hname] at hsp
    exact ⟨_, hv, hsp ▸ hs⟩
  · rintro ⟨v, rfl, hs⟩
    exact wordOf_name v (by decide) (by simp) (by decide) hs

/-- **the spelling test of `loadCfg` is package `flag`'s**: a word of `os.Args` is taken for the config
flag by `loadCfg` exactly when package `flag` reads it as the flag `config`, with the same inline value -/
theorem cfgWord_eq_flagCfgWord (s : String) : cfgWord s = flagCfgWord s := by
  have e1 : "-config".toList = '-' :: (cfgName ++ eqTail none) := rfl
  have e2 : "--config".toList = '-' :: '-' :: (cfgName ++ eqTail none) := rfl
  have e3 : ∀ v, "-config=".toList ++ v = '-' :: (cfgName ++ eqTail (some v)) := fun _ => rfl
  have e4 : ∀ v, "--config=".toList ++ v = '-' :: '-' :: (cfgName ++ eqTail (some v)) := fun _ => rfl
  unfold cfgWord
  simp only []
  split
  · rename_i h
    rw [e1, e2] at h
    exact (flagCfgWord_eq_some.2 ⟨none, rfl, h⟩).symm
  · rename_i hbare
    rw [e1, e2] at hbare
    split
    · rename_i v hv
      rw [dropPrefix?_eq_some, e3] at hv
      exact (flagCfgWord_eq_some.2 ⟨some v, rfl, Or.inl hv⟩).symm
    · rename_i h1
      split
      · rename_i v hv
        rw [dropPrefix?_eq_some, e4] at hv
        exact (flagCfgWord_eq_some.2 ⟨some v, rfl, Or.inr hv⟩).symm
      · rename_i h2
        cases hx : flagCfgWord s with
        | none => rfl
        | some x =>
          obtain ⟨v, -, hs⟩ := flagCfgWord_eq_some.1 hx
          cases v with
          | none => exact absurd hs hbare
          | some v =>
            rw [← e4, ← e3, ← dropPrefix?_eq_some, ← dropPrefix?_eq_some, h1, h2] at hs
            simp at hs

theorem continueWith_ok {regs : List FlagReg} {fuel : Nat} {rest' : List String} {t : Option String} {val : Val}
    {l : List (Option String × Val)}
    (h : (match parseArgs regs fuel rest' with
          | .ok l => Outcome.ok ((t, val) :: l)
          | o => o) = .ok l) :
    ∃ l', parseArgs regs fuel rest' = .ok l' ∧ l = (t, val) :: l' := by
  split at h
  · rename_i l' hp
    injection h with h
    exact ⟨l', hp, h.symm⟩
  · rename_i hne
    exact absurd h (fun e => hne l e)

/-- a successful parse of a non-empty command line: the first word ended the flags, or it was a registered
flag with a well-formed value (inline, implied `true`, or the next word) and the parse went on behind it -/
theorem parseArgs_step {regs : List FlagReg} {fuel : Nat} {s : String} {rest : List String}
    {l : List (Option String × Val)} (h : parseArgs regs (fuel + 1) (s :: rest) = .ok l) :
    ((wordOf s = .nonflag ∨ wordOf s = .terminator) ∧ l = []) ∨
    ∃ name v? reg val rest' l', wordOf s = .flag name v? ∧ regs.find? (fun r => r.name = name) = some reg ∧
      parseArgs regs fuel rest' = .ok l' ∧ l = (reg.target, val) :: l' ∧
      ((rest' = rest ∧ ((v? = none ∧ reg.kind = .bool ∧ val = .bool true) ∨
                        ∃ v, v? = some v ∧ flagValue reg.kind v = some val)) ∨
       (v? = none ∧ reg.kind ≠ .bool ∧ ∃ v, rest = v :: rest' ∧ flagValue reg.kind v = some val)) := by
  simp only [parseArgs] at h
  split at h
  · injection h with h; exact Or.inl ⟨Or.inl ‹_›, h.symm⟩
  · injection h with h; exact Or.inl ⟨Or.inr ‹_›, h.symm⟩
  · cases h
  · rename_i name v? hw
    right
    split at h
    · split at h <;> cases h
    · rename_i reg hreg
      split at h
      · -- bool flag without a value
        rename_i hk
        obtain ⟨l', hp, hl⟩ := continueWith_ok h
        exact ⟨name, none, reg, .bool true, rest, l', hw, hreg, hp, hl, Or.inl ⟨rfl, Or.inl ⟨rfl, hk, rfl⟩⟩⟩
      · -- inline value
        rename_i k v
        split at h
        · rename_i val hval
          obtain ⟨l', hp, hl⟩ := continueWith_ok h
          exact ⟨name, some v, reg, val, rest, l', hw, hreg, hp, hl, Or.inl ⟨rfl, Or.inr ⟨v, rfl, hval⟩⟩⟩
        · cases h
      · -- the value is the next word
        rename_i k hnb
        split at h
        · cases h
        · rename_i v rest'
          split at h
          · rename_i val hval
            obtain ⟨l', hp, hl⟩ := continueWith_ok h
            refine ⟨name, none, reg, val, rest', l', hw, hreg, hp, hl, Or.inr ⟨rfl, ?_, v, rfl, hval⟩⟩
            intro hk
            exact hnb hk
          · cases h

/-- the word spells the config flag (for `loadCfg` and, by `cfgWord_eq_flagCfgWord`, for package `flag`) -/
def isCfgWord (w : String) : Bool := (cfgWord w).isSome

/-- how many words spell the config flag -/
def cfgWords (ws : List String) : Nat := ws.countP isCfgWord

/-- the flag `config` is the local string of `flagSet`, and it is the only flag without a target field -/
structure CfgRegs (regs : List FlagReg) : Prop where
  config : ∀ reg, regs.find? (fun r => r.name = "config") = some reg → reg = configReg
  others : ∀ name reg, regs.find? (fun r => r.name = name) = some reg → name ≠ "config" → reg.target ≠ none

theorem cfgRegs_table (tbl : List Row) : CfgRegs (configReg :: regsOf tbl) := by
  constructor
  · intro reg h
    simp [configReg] at h
    exact h.symm
  · intro name reg h hn
    have hne : ¬ (configReg.name = name) := fun e => hn (by rw [← e]; rfl)
    simp only [List.find?_cons, hne, decide_false] at h
    have hm := List.mem_of_find?_eq_some h
    simp only [regsOf, List.mem_map, List.mem_filter] at hm
    obtain ⟨r, _, hr⟩ := hm
    rw [← hr]; simp

theorem cfgWord_of_flag {s name : String} {v? : Option String} (hw : wordOf s = .flag name v?) :
    cfgWord s = if name = "config" then some v? else none := by
  rw [cfgWord_eq_flagCfgWord, flagCfgWord, hw]

theorem cfgWord_of_nonflag {s : String} (hw : wordOf s = .nonflag ∨ wordOf s = .terminator) : cfgWord s = none := by
  rw [cfgWord_eq_flagCfgWord, flagCfgWord]
  rcases hw with hw | hw <;> rw [hw]

theorem findConfig_cons_none {s : String} {rest : List String} (h : cfgWord s = none) :
    findConfig (s :: rest) = findConfig rest := by
  simp [findConfig, h]

theorem cfgWords_cons (s : String) (rest : List String) :
    cfgWords (s :: rest) = cfgWords rest + (if isCfgWord s then 1 else 0) := by
  simp [cfgWords, List.countP_cons]

theorem cfgWords_cons_none {s : String} {rest : List String} (h : cfgWord s = none) :
    cfgWords (s :: rest) = cfgWords rest := by
  simp [cfgWords_cons, isCfgWord, h]

theorem cfgWords_cons_some {s : String} {rest : List String} {x : Option String} (h : cfgWord s = some x) :
    cfgWords (s :: rest) = cfgWords rest + 1 := by
  simp [cfgWords_cons, isCfgWord, h]

theorem cfgWords_tail_le (s : String) (rest : List String) : cfgWords rest ≤ cfgWords (s :: rest) := by
  rw [cfgWords_cons]; exact Nat.le_add_right _ _

theorem findConfig_none_of_cfgWords {ws : List String} (h : cfgWords ws = 0) : findConfig ws = none := by
  induction ws with
  | nil => rfl
  | cons w ws ih =>
    cases hw : cfgWord w with
    | none =>
      rw [cfgWords_cons_none hw] at h
      rw [findConfig_cons_none hw]; exact ih h
    | some x =>
      rw [cfgWords_cons_some hw] at h
      exact absurd h (Nat.succ_ne_zero _)

theorem cfgAssigns_cons_str {v : String} {l : List (Option String × Val)} :
    cfgAssigns ((none, .str v) :: l) = v :: cfgAssigns l := by
  simp [cfgAssigns]

theorem cfgAssigns_cons_other {regs : List FlagReg} (hregs : CfgRegs regs) {name : String} {reg : FlagReg}
    (hreg : regs.find? (fun r => r.name = name) = some reg) (hn : name ≠ "config") {val : Val}
    {l : List (Option String × Val)} : cfgAssigns ((reg.target, val) :: l) = cfgAssigns l := by
  cases ht : reg.target with
  | none => exact absurd ht (hregs.others name reg hreg hn)
  | some f => simp [cfgAssigns]

/-- **the scan of `loadCfg` against a successful parse**: every assignment package `flag` makes to `config` comes
from its own word spelling the config flag; and when there is no other such word (none is the value of another flag
or behind the end of the flags), the scan finds the value of the first assignment -/
theorem findConfig_parse {regs : List FlagReg} (hregs : CfgRegs regs) :
    ∀ (fuel : Nat) (args : List String) (l : List (Option String × Val)), parseArgs regs fuel args = .ok l →
      (cfgAssigns l).length ≤ cfgWords args ∧
      (cfgWords args = (cfgAssigns l).length → findConfig args = (cfgAssigns l).head?.map some) := by
  have stop : ∀ args : List String, (cfgAssigns []).length ≤ cfgWords args ∧
      (cfgWords args = (cfgAssigns []).length → findConfig args = (cfgAssigns []).head?.map some) :=
    fun _ => ⟨Nat.zero_le _, findConfig_none_of_cfgWords⟩
  intro fuel
  induction fuel with
  | zero => intro args l h; cases h; exact stop args
  | succ fuel ih =>
    intro args l h
    cases args with
    | nil => cases h; exact stop []
    | cons s rest =>
      rcases parseArgs_step h with ⟨_, rfl⟩ | ⟨name, v?, reg, val, rest', l', hw, hreg, hp, rfl, hshape⟩
      · exact stop _
      · obtain ⟨ihle, iheq⟩ := ih rest' l' hp
        have hcw := cfgWord_of_flag hw
        by_cases hn : name = "config"
        · -- the config flag itself: its value is the first assignment, and what the scan finds
          simp only [hn, ↓reduceIte] at hcw
          obtain rfl : reg = configReg := hregs.config reg (hn ▸ hreg)
          have hrest : cfgWords rest' ≤ cfgWords rest := by
            rcases hshape with ⟨rfl, _⟩ | ⟨_, _, v, rfl, _⟩
            · exact Nat.le_refl _
            · exact cfgWords_tail_le _ _
          obtain ⟨v, rfl, hfind⟩ : ∃ v, val = .str v ∧ findConfig (s :: rest) = some (some v) := by
            rcases hshape with ⟨_, ⟨_, hk, _⟩ | ⟨v, rfl, hval⟩⟩ | ⟨rfl, _, v, rfl, hval⟩
            · cases hk
            · exact ⟨v, by simpa [configReg, flagValue] using hval.symm, by simp [findConfig, hcw]⟩
            · exact ⟨v, by simpa [configReg, flagValue] using hval.symm, by simp [findConfig, hcw]⟩
          rw [cfgWords_cons_some hcw]
          simp only [configReg, cfgAssigns_cons_str, List.length_cons, List.head?_cons, Option.map_some]
          exact ⟨by omega, fun _ => hfind⟩
        · -- any other flag: nothing is assigned to `config`, and neither the word nor its value may spell the flag
          simp only [hn, ↓reduceIte] at hcw
          rw [cfgWords_cons_none hcw, cfgAssigns_cons_other hregs hreg hn, findConfig_cons_none hcw]
          rcases hshape with ⟨rfl, _⟩ | ⟨_, _, v, rfl, _⟩
          · exact ⟨ihle, iheq⟩
          · cases hv : cfgWord v with
            | none => rw [cfgWords_cons_none hv, findConfig_cons_none hv]; exact ⟨ihle, iheq⟩
            | some x => rw [cfgWords_cons_some hv]; exact ⟨by omega, fun hc => by omega⟩
end Vflow.Options
