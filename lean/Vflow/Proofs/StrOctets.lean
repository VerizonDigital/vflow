import Vflow.Model.Base
/-!
# The octets of a string literal, in a form the kernel evaluates cheaply

`str s` is `s.toUTF8.toList`, and `ByteArray.toList` walks the array by index in a loop defined by well-founded
recursion: evaluated by the kernel it costs time quadratic in the length of the literal.  The list under the array
(`s.toUTF8.data.toList`) is the same list and is reached by projections.  A test vector stated with `str "…"` is
rewritten with `str_eq` before it is evaluated.
-/
namespace Vflow

theorem byteArray_toList_loop (bs : ByteArray) : ∀ (n i : Nat) (r : List UInt8), bs.size - i = n →
    ByteArray.toList.loop bs i r = r.reverse ++ bs.data.toList.drop i := by
  have hlen : bs.data.toList.length = bs.size := Array.length_toList
  intro n
  induction n with
  | zero =>
    intro i r h
    have hi : ¬ i < bs.size := by omega
    rw [ByteArray.toList.loop, if_neg hi, List.drop_of_length_le (by omega), List.append_nil]
  | succ n ih =>
    intro i r h
    have hi : i < bs.size := by omega
    rw [ByteArray.toList.loop, if_pos hi, ih _ _ (by omega), List.reverse_cons, List.append_assoc,
      List.drop_eq_getElem_cons (i := i) (by omega)]
    simp [ByteArray.get!, getElem!_pos, hi]

theorem byteArray_toList (bs : ByteArray) : bs.toList = bs.data.toList := by
  rw [ByteArray.toList, byteArray_toList_loop bs _ 0 [] rfl]; rfl

theorem str_eq (s : String) : str s = s.toUTF8.data.toList := byteArray_toList _

end Vflow
