/-!
# Judging a list element by element, each in the state its predecessors leave

The wire specifications judge the sets of a message against the cache as the earlier sets leave it, and the messages of a
history against the cache as the earlier messages leave it; the cache-free premises of C04 do the same with a list of
announcements as state.  All of them are recursive functions of one shape, which `Threaded` names, so that what holds
of the shape is proved once.  After it, a few facts about `List` (`foldl`, `getElem?`, `set`, sums) that proofs in several
clusters share and core does not have.
-/
namespace Vflow

/-- `P s xs`: `p` accepts every element of `xs`, the first in state `s`, each further one in the state `step` makes of
its predecessor's -/
structure Threaded {σ α : Type} (step : σ → α → σ) (p : σ → α → Bool) (P : σ → List α → Bool) : Prop where
  nil : ∀ s, P s [] = true
  cons : ∀ s x xs, P s (x :: xs) = (p s x && P (step s x) xs)

namespace Threaded
variable {σ α : Type} {step : σ → α → σ} {p : σ → α → Bool} {P : σ → List α → Bool}

theorem append (T : Threaded step p P) (xs ys : List α) (s : σ) :
    P s (xs ++ ys) = (P s xs && P (xs.foldl step s) ys) := by
  induction xs generalizing s with
  | nil => simp [T.nil]
  | cons x xs ih => simp [T.cons, ih, Bool.and_assoc]

theorem index (T : Threaded step p P) {xs : List α} {s : σ} {k : Nat} {x : α} (h : P s xs = true)
    (hk : xs[k]? = some x) : P s (xs.take k) = true ∧ p ((xs.take k).foldl step s) x = true := by
  obtain ⟨hlt, rfl⟩ := List.getElem?_eq_some_iff.mp hk
  rw [← List.take_append_drop k xs, List.drop_eq_getElem_cons hlt, T.append, T.cons] at h
  simp only [Bool.and_eq_true] at h
  exact ⟨h.1, h.2.1⟩

end Threaded

theorem foldl_append_flatMap {α β : Type} (f : α → List β) (xs : List α) (init : List β) :
    xs.foldl (fun acc x => acc ++ f x) init = init ++ xs.flatMap f := by
  induction xs generalizing init with
  | nil => simp
  | cons x xs ih => simp [ih, List.append_assoc]

theorem exists_getElem?_of_map_eq {α β γ : Type} {f : α → γ} {g : β → γ} {xs : List α} {ys : List β}
    (h : xs.map f = ys.map g) {k : Nat} {x : α} (hx : xs[k]? = some x) : ∃ y, ys[k]? = some y := by
  have hl : xs.length = ys.length := by simpa using congrArg List.length h
  exact ⟨ys[k]'(hl ▸ (List.getElem?_eq_some_iff.mp hx).1), List.getElem?_eq_getElem _⟩

theorem sum_map_set {α} (f : α → Nat) : ∀ (l : List α) (i : Nat) (t x : α), l[i]? = some t →
    ((l.set i x).map f).sum + f t = (l.map f).sum + f x
  | [], i, t, x, h => by simp at h
  | a :: l, 0, t, x, h => by
      obtain rfl : a = t := by simpa using h
      simp only [List.set_cons_zero, List.map_cons, List.sum_cons]; omega
  | a :: l, i+1, t, x, h => by
      have := sum_map_set f l i t x (by simpa using h)
      simp only [List.set_cons_succ, List.map_cons, List.sum_cons]; omega

theorem getElem?_set_cases {α} {l : List α} {i j : Nat} {a b : α} (h : (l.set i a)[j]? = some b) :
    (j = i ∧ b = a ∧ i < l.length) ∨ (j ≠ i ∧ l[j]? = some b) := by
  rw [List.getElem?_set] at h
  split at h
  next hj =>
    split at h
    next hlt => exact .inl ⟨hj.symm, (Option.some.inj h).symm, hlt⟩
    next => cases h
  next hj => exact .inr ⟨fun e => hj e.symm, h⟩

end Vflow
