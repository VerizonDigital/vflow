import Vflow.Model.Producer
/-!
# The raw-socket retry loop: what it consumes, counts and delivers (C14)

Core Lean only.  `write1` is one write attempt of the retry loop with whatever its outcome triggers; `sendOne`
repeats it while it fails and retries are left (`sendOne_retry`, `sendOne_last`).  The four-outcome case analysis
is made once, on `write1`; `sendOne_spec` and `sendAll_spec` say everything C14 uses about a message's loop and the channel loop:
the counters stay those of the consumed script (`Acct`), how many writes are consumed, and which chunks arrive.
-/
namespace Vflow
namespace Producer

/-- number of `j < n` whose write outcome satisfies `p` -/
def countTo (p : WOut → Bool) (wo : Nat → WOut) : Nat → Nat
  | 0 => 0
  | n+1 => countTo p wo n + (if p (wo n) then 1 else 0)

/-- number of successful dials among the first `n` -/
def dialsOk (dl : Nat → DOut) : Nat → Nat
  | 0 => 0
  | n+1 => dialsOk dl n + (if dl n = .ok then 1 else 0)

def isOk : WOut → Bool | .ok => true | _ => false
def isErr : WOut → Bool | .errPipe => true | .errOther => true | _ => false
def isPipe : WOut → Bool | .errPipe => true | _ => false
/-- outcomes after which the sink does not have the message -/
def notDelivered : WOut → Bool | .ok => false | _ => true

/-- the counters of the state are exactly the counts over the consumed part of the script -/
structure Acct (wo : Nat → WOut) (dl : Nat → DOut) (s : PS) : Prop where
  ec : s.ec = countTo isErr wo s.wi
  di : s.di = countTo isPipe wo s.wi
  conn : s.conn = dialsOk dl s.di
  dlv : s.delivered.length = countTo isOk wo s.wi

theorem acct_init (wo : Nat → WOut) (dl : Nat → DOut) : Acct wo dl {} :=
  ⟨rfl, rfl, rfl, rfl⟩

theorem countTo_split (wo : Nat → WOut) (n : Nat) :
    countTo isOk wo n + countTo notDelivered wo n = n := by
  induction n with
  | zero => rfl
  | succ n ih =>
    simp only [countTo]
    cases wo n <;> simp [isOk, notDelivered] <;> omega

theorem countTo_err_le (wo : Nat → WOut) (n : Nat) :
    countTo isErr wo n ≤ countTo notDelivered wo n := by
  induction n with
  | zero => exact Nat.le_refl _
  | succ n ih =>
    simp only [countTo]
    cases wo n <;> simp [isErr, notDelivered] <;> omega

/-- state after a failed write that is not a broken pipe -/
def afterErr (s : PS) : PS := { s with wi := s.wi + 1, ec := s.ec + 1 }
/-- state after a broken-pipe write and the redial it triggers -/
def afterPipe (dl : Nat → DOut) (s : PS) : PS :=
  if dl s.di = .ok then { s with wi := s.wi + 1, ec := s.ec + 1, di := s.di + 1, conn := s.conn + 1 }
  else { s with wi := s.wi + 1, ec := s.ec + 1, di := s.di + 1 }

theorem afterErr_delivered (s : PS) : (afterErr s).delivered = s.delivered := rfl

/-- state after one write of message `idx` and what its outcome triggers -/
def write1 (wo : Nat → WOut) (dl : Nat → DOut) (idx : Nat) (m : Bytes) (s : PS) : PS :=
  match wo s.wi with
  | .ok => { s with wi := s.wi + 1, delivered := s.delivered ++ [⟨s.conn, idx, frame m⟩] }
  | .lost => { s with wi := s.wi + 1 }
  | .errOther => afterErr s
  | .errPipe => afterPipe dl s

theorem sendOne_retry {wo : Nat → WOut} {dl : Nat → DOut} {idx : Nat} {m : Bytes} {l : Nat} {s : PS}
    (h : isErr (wo s.wi) = true) :
    sendOne wo dl idx m (l + 1) s = sendOne wo dl idx m l (write1 wo dl idx m s) := by
  rw [sendOne]
  unfold write1
  cases hw : wo s.wi <;> first | rfl | (rw [hw] at h; cases h)

theorem sendOne_last {wo : Nat → WOut} {dl : Nat → DOut} {idx : Nat} {m : Bytes} {left : Nat} {s : PS}
    (h : isErr (wo s.wi) = false ∨ left = 0) : sendOne wo dl idx m left s = write1 wo dl idx m s := by
  rw [sendOne]
  unfold write1
  cases hw : wo s.wi <;> cases left <;> first | rfl | (rw [hw] at h; exact h.elim nofun nofun)

theorem write1_wi (wo : Nat → WOut) (dl : Nat → DOut) (idx : Nat) (m : Bytes) (s : PS) :
    (write1 wo dl idx m s).wi = s.wi + 1 := by
  unfold write1 afterPipe
  split <;> first | rfl | (split <;> rfl)

theorem write1_delivered (wo : Nat → WOut) (dl : Nat → DOut) (idx : Nat) (m : Bytes) (s : PS) :
    (write1 wo dl idx m s).delivered =
      if wo s.wi = .ok then s.delivered ++ [⟨s.conn, idx, frame m⟩] else s.delivered := by
  unfold write1 afterPipe
  split <;> rename_i hw <;> simp only [hw, reduceCtorEq, if_false, if_true, afterErr]
  split <;> rfl

theorem write1_acct {wo : Nat → WOut} {dl : Nat → DOut} (idx : Nat) (m : Bytes) {s : PS} (h : Acct wo dl s) :
    Acct wo dl (write1 wo dl idx m s) := by
  cases hw : wo s.wi <;> simp only [write1, hw]
  case errPipe =>
    unfold afterPipe
    split <;> rename_i hd <;>
      exact ⟨by simp [countTo, hw, isErr, h.ec], by simp [countTo, hw, isPipe, h.di],
        by simp [dialsOk, hd, h.conn], by simp [countTo, hw, isOk, h.dlv]⟩
  all_goals
    exact ⟨by simp [afterErr, countTo, hw, isErr, h.ec], by simp [afterErr, countTo, hw, isPipe, h.di], h.conn,
      by simp [afterErr, countTo, hw, isOk, h.dlv]⟩

/-- one message: accounting is kept, at least one write is made, at most `left + 1`; the sink gets
    nothing, or exactly this message once, framed, on the then-current connection -/
theorem sendOne_spec {wo : Nat → WOut} {dl : Nat → DOut} (idx : Nat) (m : Bytes) :
    ∀ (left : Nat) (s : PS), Acct wo dl s →
      Acct wo dl (sendOne wo dl idx m left s) ∧ s.wi < (sendOne wo dl idx m left s).wi ∧
      (sendOne wo dl idx m left s).wi ≤ s.wi + left + 1 ∧
      ((sendOne wo dl idx m left s).delivered = s.delivered ∨
        ∃ c, (sendOne wo dl idx m left s).delivered = s.delivered ++ [⟨c, idx, frame m⟩]) := by
  have last : ∀ s, Acct wo dl s → Acct wo dl (write1 wo dl idx m s) ∧ (write1 wo dl idx m s).wi = s.wi + 1 ∧
      ((write1 wo dl idx m s).delivered = s.delivered ∨
        ∃ c, (write1 wo dl idx m s).delivered = s.delivered ++ [⟨c, idx, frame m⟩]) := by
    intro s h
    refine ⟨write1_acct idx m h, write1_wi .., ?_⟩
    rw [write1_delivered]
    split
    · exact .inr ⟨_, rfl⟩
    · exact .inl rfl
  intro left
  induction left with
  | zero =>
    intro s h
    obtain ⟨a, b, d⟩ := last s h
    rw [sendOne_last (.inr rfl)]
    exact ⟨a, by omega, by omega, d⟩
  | succ l ih =>
    intro s h
    obtain ⟨a, b, d⟩ := last s h
    cases hb : isErr (wo s.wi)
    · rw [sendOne_last (.inl hb)]
      exact ⟨a, by omega, by omega, d⟩
    · -- a failed write delivers nothing; the rest is the loop with one retry less
      rw [sendOne_retry hb]
      obtain ⟨a', b', c', d'⟩ := ih _ a
      rw [write1_delivered, if_neg fun e => by rw [e] at hb; cases hb] at d'
      exact ⟨a', by omega, by omega, d'⟩

/-- indices of delivered messages, in delivery order -/
def idxs (s : PS) : List Nat := s.delivered.map (·.idx)

/-- the channel loop: accounting is kept, every message costs between one and `retryMax + 1` writes, and
    what the sink gets beyond what it had is, with the indices, a subsequence of the framed messages -/
theorem sendAll_spec {wo : Nat → WOut} {dl : Nat → DOut} (rm : Nat) :
    ∀ (ms : List Bytes) (idx : Nat) (s : PS), Acct wo dl s →
      Acct wo dl (sendAll wo dl rm ms idx s) ∧ s.wi + ms.length ≤ (sendAll wo dl rm ms idx s).wi ∧
      (sendAll wo dl rm ms idx s).wi ≤ s.wi + ms.length * (rm + 1) ∧
      ∃ cs : List Chunk, (sendAll wo dl rm ms idx s).delivered = s.delivered ++ cs ∧
        (cs.map fun c => (c.data, c.idx)).Sublist ((ms.map frame).zipIdx idx) := by
  intro ms
  induction ms with
  | nil => exact fun idx s h => ⟨h, Nat.le_refl _, by simp [sendAll], [], (List.append_nil _).symm, List.Sublist.refl _⟩
  | cons m ms ih =>
    intro idx s h
    obtain ⟨h1, h2, h3, h4⟩ := sendOne_spec idx m rm s h
    obtain ⟨g1, g2, g3, cs, g4, g5⟩ := ih (idx + 1) _ h1
    rw [List.length_cons, Nat.succ_mul, List.map_cons, List.zipIdx_cons, sendAll]
    refine ⟨g1, by omega, by omega, ?_⟩
    rcases h4 with e | ⟨c, e⟩ <;> rw [e] at g4
    · exact ⟨cs, g4, g5.cons _⟩
    · exact ⟨⟨c, idx, frame m⟩ :: cs, by rw [g4, List.append_assoc]; rfl, g5.cons_cons _⟩

theorem sendOne_ok {wo : Nat → WOut} {dl : Nat → DOut} {idx : Nat} {m : Bytes} {left : Nat} {s : PS}
    (h : wo s.wi = .ok) : sendOne wo dl idx m left s =
      { s with wi := s.wi + 1, delivered := s.delivered ++ [⟨s.conn, idx, frame m⟩] } := by
  rw [sendOne, h]

theorem sendAll_append (wo : Nat → WOut) (dl : Nat → DOut) (rm : Nat) :
    ∀ (ms1 ms2 : List Bytes) (idx : Nat) (s : PS),
      sendAll wo dl rm (ms1 ++ ms2) idx s = sendAll wo dl rm ms2 (idx + ms1.length) (sendAll wo dl rm ms1 idx s) := by
  intro ms1
  induction ms1 with
  | nil => intro ms2 idx s; rfl
  | cons m ms ih =>
    intro ms2 idx s
    rw [List.cons_append, sendAll, sendAll, ih, List.length_cons, Nat.add_assoc, Nat.add_comm 1]

/-- the messages `ms`, framed, all on connection `c`, numbered from `idx` -/
def framesFrom (c : Nat) : Nat → List Bytes → List Chunk
  | _, [] => []
  | idx, m :: ms => ⟨c, idx, frame m⟩ :: framesFrom c (idx + 1) ms

theorem sendAll_all_ok (wo : Nat → WOut) (dl : Nat → DOut) (rm : Nat) :
    ∀ (ms : List Bytes) (idx : Nat) (s : PS), (∀ j, s.wi ≤ j → wo j = .ok) →
      (sendAll wo dl rm ms idx s).delivered = s.delivered ++ framesFrom s.conn idx ms ∧
      (sendAll wo dl rm ms idx s).ec = s.ec ∧ (sendAll wo dl rm ms idx s).wi = s.wi + ms.length ∧
      (sendAll wo dl rm ms idx s).conn = s.conn := by
  intro ms
  induction ms with
  | nil => intro idx s _; exact ⟨(List.append_nil _).symm, rfl, rfl, rfl⟩
  | cons m ms ih =>
    intro idx s h
    obtain ⟨a, b, c, d⟩ := ih (idx + 1)
      { s with wi := s.wi + 1, delivered := s.delivered ++ [⟨s.conn, idx, frame m⟩] }
      (fun j hj => h j (Nat.le_of_succ_le hj))
    rw [sendAll, sendOne_ok (h s.wi (Nat.le_refl _)), a, b, c, d, List.append_assoc, List.length_cons]
    exact ⟨rfl, rfl, by simp only []; omega, rfl⟩

end Producer
end Vflow
