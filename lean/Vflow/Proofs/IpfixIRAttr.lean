import Lean.Meta.Tactic.Simp.RegisterCommand
import Lean.Meta.Tactic.Simp.BuiltinSimprocs
/-- the evaluation rules of the interpreter of `Model/IpfixIR.lean` (see `Proofs/IpfixIRExec.lean`) -/
register_simp_attr ir
