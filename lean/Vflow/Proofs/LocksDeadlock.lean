import Vflow.Proofs.Locks
/-!
# Deadlock freedom and termination of the lock model (C10 (4))

Deadlock freedom under ordered lock acquisition (also under Go's writer preference), and
termination of every schedule. Core Lean only.
-/
namespace Vflow
namespace Locks

theorem exists_max {α : Type} (f : α → Nat) (P : α → Prop) :
    ∀ l : List α, (∃ x ∈ l, P x) → ∃ x ∈ l, P x ∧ ∀ y ∈ l, P y → f y ≤ f x := by
  intro l
  induction l with
  | nil => rintro ⟨x, hx, _⟩; cases hx
  | cons a l ih =>
    intro h
    by_cases ht : ∃ x ∈ l, P x
    · obtain ⟨m, hm, hpm, hmax⟩ := ih ht
      by_cases hpa : P a ∧ f m < f a
      · refine ⟨a, List.mem_cons_self, hpa.1, fun y hy hpy => ?_⟩
        rcases List.mem_cons.mp hy with rfl | hy
        · exact Nat.le_refl _
        · exact Nat.le_trans (hmax y hy hpy) (Nat.le_of_lt hpa.2)
      · refine ⟨m, List.mem_cons_of_mem _ hm, hpm, fun y hy hpy => ?_⟩
        rcases List.mem_cons.mp hy with rfl | hy
        · exact Nat.le_of_not_lt fun hlt => hpa ⟨hpy, hlt⟩
        · exact hmax y hy hpy
    · obtain ⟨x, hx, hpx⟩ := h
      have hxa : x = a := (List.mem_cons.mp hx).resolve_right fun hx => ht ⟨x, hx, hpx⟩
      refine ⟨a, List.mem_cons_self, hxa ▸ hpx, fun y hy hpy => ?_⟩
      rcases List.mem_cons.mp hy with rfl | hy
      · exact Nat.le_refl _
      · exact absurd ⟨y, hy, hpy⟩ ht

/-- the shard an acquisition is for (0 for any other action) -/
def acqShard : Act → Nat
  | .lock s | .rlock s => s
  | _ => 0

/-- the shard a thread is about to lock (0 when its next action is not an acquisition) -/
def tgt (t : Thread) : Nat :=
  match t.prog with
  | a :: _ => acqShard a
  | [] => 0

theorem tgt_cons {t : Thread} {a : Act} {p : List Act} (h : t.prog = a :: p) : tgt t = acqShard a := by
  rw [tgt, h]

theorem enabledStrict_enabled {σ : Sys} {a : Act} (h : EnabledStrict σ a) : Enabled σ a := by
  cases a <;> first | exact h | exact h.1

theorem stepStrict_step {σ σ' : Sys} {i : Nat} {a : Act} (h : StepStrict σ i a σ') : Step σ i a σ' := by
  obtain ⟨t, p, hi, hp, hen, rfl⟩ := h
  exact ⟨t, p, hi, hp, enabledStrict_enabled hen, rfl⟩

theorem mk_step {σ : Sys} {t : Thread} {a : Act} {p : List Act} (ht : t ∈ σ.threads) (hp : t.prog = a :: p)
    (hen : EnabledStrict σ a) : ∃ i a σ', StepStrict σ i a σ' := by
  obtain ⟨i, hi⟩ := List.getElem?_of_mem ht
  exact ⟨i, a, _, t, p, hi, hp, hen, rfl⟩

/-- **deadlock freedom**: under the invariant (locks taken in increasing shard order, nothing held
at the end) a state with an unfinished thread always has an enabled step — even when `RLock` is
additionally blocked by waiting writers, as in Go -/
theorem deadlock_free {σ : Sys} (h : LInv σ) (hne : ∃ t ∈ σ.threads, t.prog ≠ []) :
    ∃ i a σ', StepStrict σ i a σ' := by
  -- 1. some thread's next action is not an acquisition: it never blocks
  by_cases h1 : ∃ t ∈ σ.threads, ∃ a p, t.prog = a :: p ∧ isAcq a = false
  · obtain ⟨t, ht, a, p, hp, ha⟩ := h1
    exact mk_step ht hp (by cases a <;> first | trivial | cases ha)
  -- 2. every unfinished thread is about to lock; take one whose target shard is maximal
  have hall : ∀ t ∈ σ.threads, ∀ a p, t.prog = a :: p → isAcq a = true := by
    intro t ht a p hp
    cases hq : isAcq a with
    | true => rfl
    | false => exact absurd ⟨t, ht, a, p, hp, hq⟩ h1
  obtain ⟨m, hm, hpm, hmax⟩ := exists_max tgt (fun t => t.prog ≠ []) σ.threads hne
  -- nobody holds the maximal target: what a thread holds is below its own target
  have hfree : ∀ u ∈ σ.threads, ∀ x, x ∈ u.held.w ∨ x ∈ u.held.r → x ≠ tgt m := by
    intro u hu x hx
    have wu := h.wbAll u hu
    cases hpu : u.prog with
    | nil =>
      rw [hpu] at wu
      rw [(wb_nil wu).1, (wb_nil wu).2] at hx
      exact hx.elim nofun nofun
    | cons b q =>
      rw [hpu] at wu
      have hlt : x < acqShard b := by
        have hb := hall u hu b q hpu
        cases b <;> first | exact hx.elim ((wb_permits wu).1 x) ((wb_permits wu).2 x) | cases hb
      have hle := hmax u hu (by rw [hpu]; exact List.cons_ne_nil _ _)
      rw [tgt_cons hpu] at hle
      omega
  have hnw : ¬ writerHeld σ (tgt m) := fun ⟨u, hu, hc⟩ => hfree u hu _ (.inl hc) rfl
  have hnr : ¬ readerHeld σ (tgt m) := fun ⟨u, hu, hc⟩ => hfree u hu _ (.inr hc) rfl
  obtain ⟨a, p, hpm'⟩ := List.exists_cons_of_ne_nil hpm
  have ha := hall m hm a p hpm'
  rw [tgt_cons hpm'] at hnw hnr
  cases a with
  | lock s => exact mk_step hm hpm' ⟨hnw, hnr⟩
  | rlock s =>
    by_cases hww : writerWaiting σ s
    · -- a writer waits for the same shard: it can take it
      obtain ⟨w, hw, hhead⟩ := hww
      obtain ⟨q, hpw⟩ := List.head?_eq_some_iff.mp hhead
      exact mk_step hw hpw ⟨hnw, hnr⟩
    · exact mk_step hm hpm' ⟨hnw, hww⟩
  | _ => cases ha

/-- actions still to be executed, over all threads -/
def remaining (σ : Sys) : Nat := (σ.threads.map (·.prog.length)).sum

theorem step_remaining {σ σ' : Sys} {i : Nat} {a : Act} (st : Step σ i a σ') :
    remaining σ' + 1 = remaining σ := by
  obtain ⟨t, p, hi, hp, _, rfl⟩ := st
  have := sum_map_set (fun t : Thread => t.prog.length) σ.threads i t
    ⟨heldAfter t.held a, p, obsAfter σ.mem t.obs a⟩ hi
  simp only [hp, List.length_cons] at this
  simp only [remaining, after]
  omega

theorem run_length {init cur : Sys} {hist : List Ev} (hr : Run init hist cur) :
    hist.length + remaining cur = remaining init := by
  induction hr with
  | start => exact Nat.zero_add _
  | step _ st ih =>
    have := step_remaining st
    simp only [List.length_cons]
    omega

end Locks
end Vflow
