import Vflow.Proofs.TruncIpfix
/-!
# IPFIX: an undecodable set is skipped without any other effect

A set is *undecodable* when no template `sid` is cached for the exporter (`sid > 255`) or `sid` is reserved
(`4 ≤ sid ≤ 255`); a data set whose template names an element missing from the information model, or (F30 repair)
has no field specifier at all, and set id 1 are skipped in the same way; set id 0 is not (fatal `invalidSet`).
In each case the set header is read, the record loop stops somewhere inside the set without having touched cache or
records, and the leftover skip moves to the end of the set (`InSet`, `setBody_skips`).
-/
namespace Vflow.Ipfix
open Vflow

/-- no template cached under this id, or a reserved set id -/
def Undecodable (c : Cache) (addr : Bytes) (sid : Nat) : Prop :=
  (sid > 255 ∧ c.lookup addr sid = none) ∨ (4 ≤ sid ∧ sid ≤ 255)

def skipErr (sid : Nat) : Option Err := if sid > 255 then some .unknownTpl else none

theorem skipErr_nonfatal (sid : Nat) (e : Err) (h : skipErr sid = some e) : e.nonfatal = true := by
  unfold skipErr at h
  split at h <;> cases h
  rfl

theorem nonfatalErr_emptyRec : nonfatalErr .emptyRec = true := rfl

structure InSet (ctx : Ctx) (x : Bytes) (c : Nat) : Prop where
  cnt : c + x.length = ctx.start + ctx.len
  start : ctx.start ≤ c
  len : ctx.len < 65536

/-- then the 16-bit arithmetic of `decodeSet` does not wrap: what it takes to be left of the set is `x` -/
theorem InSet.left16 {ctx : Ctx} {x : Bytes} {c : Nat} (h : InSet ctx x c) (rem : Bytes) :
    left16 ctx ⟨rem, c⟩ = x.length := by
  obtain ⟨h1, h2, h3⟩ := h
  simp only [Ipfix.left16, consumed16]
  omega

theorem InSet.contCond {ctx : Ctx} {x : Bytes} {c : Nat} (h : InSet ctx x c) (rest : Bytes) :
    contCond ctx ⟨x ++ rest, c⟩ = decide (x.length ≥ minLeft ctx) := by
  have hm := minLeft_pos ctx
  have h1 := h.1
  have h2 := h.2
  rw [Bool.eq_iff_iff, contCond_iff, h.left16, decide_eq_true_eq]
  simp only [consumed16, List.length_append]
  omega

theorem InSet.skipRest {ctx : Ctx} {x : Bytes} {c : Nat} (h : InSet ctx x c) (rest : Bytes) (cache : Cache)
    (recs : List Record) (e1 : Option Err) :
    skipRest ctx ⟨⟨x ++ rest, c⟩, cache, recs⟩ e1 = (⟨⟨rest, c + x.length⟩, cache, recs⟩, e1) := by
  have hl : (ctx.len + 65536 - consumed16 ctx ⟨x ++ rest, c⟩) % 65536 = x.length := h.left16 _
  simp only [Ipfix.skipRest, hl]
  by_cases hb : x.length > 0
  · rw [if_pos hb, readN_append]
  · rw [if_neg hb]
    obtain rfl : x = [] := List.eq_nil_of_length_eq_zero (by omega)
    rfl

theorem decodeSet_setBytes (addr : Bytes) (fuel : Nat) (st : St) (sid : Nat) (body rest : Bytes)
    (hsid : sid < 65536) (hlen : 4 + body.length < 65536) (hfuel : 0 < fuel)
    (hrem : st.r.rem = setBytes sid body ++ rest) {e : Option Err}
    (h : ∀ f, setBody addr sid (4 + body.length) st.r.cnt (f + 1) ⟨⟨body ++ rest, st.r.cnt + 2 + 2⟩, st.cache, st.recs⟩ =
      (⟨⟨rest, st.r.cnt + 2 + 2 + body.length⟩, st.cache, st.recs⟩, e)) :
    decodeSet addr fuel st = ({ st with r := ⟨rest, st.r.cnt + (setBytes sid body).length⟩ }, e) := by
  obtain ⟨⟨rem, cnt⟩, cache, recs⟩ := st
  simp only at hrem h ⊢
  subst hrem
  obtain ⟨fuel, rfl⟩ : ∃ f, fuel = f + 1 := ⟨fuel - 1, by omega⟩
  simp only [decodeSet, setBytes, List.append_assoc, rU16_be16 _ _ _ hsid, rU16_be16 _ _ _ hlen]
  rw [if_neg (by omega), h, ← List.append_assoc, ← setBytes, setBytes_length,
    show cnt + (4 + body.length) = cnt + 2 + 2 + body.length by omega]

theorem inSet_body (addr : Bytes) (sid : Nat) (body : Bytes) (cnt : Nat) (tr : Template)
    (hlen : 4 + body.length < 65536) : InSet ⟨addr, sid, 4 + body.length, cnt, tr⟩ body (cnt + 2 + 2) :=
  ⟨by simp only; omega, by simp only; omega, hlen⟩

theorem setBody_skips (addr : Bytes) (sid : Nat) (body rest : Bytes) (cnt fuel : Nat) (cache : Cache)
    (recs : List Record) (tr : Template) (x : Bytes) (c : Nat) (e : Option Err)
    (hlook : lookupTpl cache addr sid = (some tr, none) ∨ (lookupTpl cache addr sid = (none, none) ∧ tr = emptyTpl))
    (hin : InSet ⟨addr, sid, 4 + body.length, cnt, tr⟩ x c)
    (hloop : setLoop ⟨addr, sid, 4 + body.length, cnt, tr⟩ fuel ⟨⟨body ++ rest, cnt + 2 + 2⟩, cache, recs⟩ =
      (⟨⟨x ++ rest, c⟩, cache, recs⟩, e, false)) :
    setBody addr sid (4 + body.length) cnt fuel ⟨⟨body ++ rest, cnt + 2 + 2⟩, cache, recs⟩ =
      (⟨⟨rest, cnt + 2 + 2 + body.length⟩, cache, recs⟩, e) := by
  have hc : c + x.length = cnt + 2 + 2 + body.length := by have := hin.cnt; simp only at this; omega
  rw [← hc, ← hin.skipRest rest cache recs e, setBody]
  rcases hlook with hl | ⟨hl, rfl⟩ <;>
    simp only [hl, Option.getD_some, Option.getD_none, hloop, Bool.false_eq_true, ↓reduceIte]

theorem setLoop_reserved (ctx : Ctx) (fuel : Nat) (st : St) (h : 4 ≤ ctx.setId ∧ ctx.setId ≤ 255) :
    setLoop ctx (fuel + 1) st = (st, none, false) := by
  have h23 : ¬ (ctx.setId = 2 ∨ ctx.setId = 3) := by omega
  simp only [setLoop, if_neg h23, if_pos h, ite_self]

theorem decodeSet_skips (addr : Bytes) (fuel : Nat) (st : St) (sid : Nat) (body rest : Bytes)
    (hsid : sid < 65536) (hlen : 4 + body.length < 65536) (hfuel : 0 < fuel)
    (hrem : st.r.rem = setBytes sid body ++ rest) (hu : Undecodable st.cache addr sid) :
    decodeSet addr fuel st =
      ({ st with r := ⟨rest, st.r.cnt + (setBytes sid body).length⟩ }, skipErr sid) := by
  refine decodeSet_setBytes addr fuel st sid body rest hsid hlen hfuel hrem fun fuel => ?_
  obtain ⟨⟨rem, cnt⟩, cache, recs⟩ := st
  simp only at hu ⊢
  by_cases hbig : sid > 255
  · have hnone : cache.lookup addr sid = none := hu.elim (·.2) (by omega)
    rw [← (inSet_body addr sid body cnt emptyTpl hlen).skipRest rest cache recs, setBody]
    simp only [lookupTpl, if_pos hbig, hnone, skipErr, Option.getD_none]
  · have h4 : 4 ≤ sid := hu.elim (by omega) (·.1)
    rw [skipErr, if_neg hbig]
    refine setBody_skips addr sid body rest cnt _ cache recs emptyTpl body _ none
      (.inr ⟨by rw [lookupTpl, if_neg hbig], rfl⟩) (inSet_body addr sid body cnt _ hlen)
      (setLoop_reserved _ _ _ ⟨h4, by simp only; omega⟩)

/-- (the record decoder's run on the body alone may be given at any count `c0`) -/
theorem decodeSet_skips_unknownElem' (addr : Bytes) (fuel : Nat) (st : St) (sid : Nat) (body rest : Bytes)
    (t : Template) (c0 : Nat) (r1 : Rd)
    (hsid : sid < 65536) (hlen : 4 + body.length < 65536) (hfuel : 0 < fuel)
    (hrem : st.r.rem = setBytes sid body ++ rest)
    (hbig : sid > 255) (hlook : st.cache.lookup addr sid = some t) (hbody : body.length ≥ minRecLen t)
    (hdec : decodeData t ⟨body, c0⟩ = (.error .unknownElem, r1)) :
    decodeSet addr fuel st =
      ({ st with r := ⟨rest, st.r.cnt + (setBytes sid body).length⟩ }, some .unknownElem) := by
  refine decodeSet_setBytes addr fuel st sid body rest hsid hlen hfuel hrem fun fuel => ?_
  obtain ⟨⟨rem, cnt⟩, cache, recs⟩ := st
  simp only at hlook ⊢
  -- in front of `rest` the record decoder fails in the same way, `n` octets into the body
  obtain ⟨n, hn, hrun⟩ := (decodeData_local t).of_run hdec (by simp)
  have hin := inSet_body addr sid body cnt t hlen
  refine setBody_skips addr sid body rest cnt _ cache recs t (body.drop n) (cnt + 2 + 2 + n) _
    (.inl (by rw [lookupTpl, if_pos hbig, hlook])) ⟨?_, ?_, hlen⟩ ?_
  · simp only [List.length_drop]; omega
  · simp only; omega
  · have hcc : contCond ⟨addr, sid, 4 + body.length, cnt, t⟩ ⟨body ++ rest, cnt + 2 + 2⟩ = true := by
      rw [hin.contCond, decide_eq_true_eq, minLeft, if_pos hbig]; exact hbody
    have h23 : ¬ (sid = 2 ∨ sid = 3) := by omega
    have hres : ¬ (4 ≤ sid ∧ sid ≤ 255) := by omega
    have hz : ¬ sid = 0 := by omega
    simp only [setLoop, hcc, if_true, if_neg h23, if_neg hres, if_neg hz, hrun,
      show nonfatalErr Err.unknownElem = true from rfl]

theorem decodeSet_skips_unknownElem (addr : Bytes) (fuel : Nat) (st : St) (sid : Nat) (body rest : Bytes)
    (t : Template) (r1 : Rd)
    (hsid : sid < 65536) (hlen : 4 + body.length < 65536) (hfuel : 0 < fuel)
    (hrem : st.r.rem = setBytes sid body ++ rest)
    (hbig : sid > 255) (hlook : st.cache.lookup addr sid = some t) (hbody : body.length ≥ minRecLen t)
    (hdec : decodeData t ⟨body, st.r.cnt + 4⟩ = (.error .unknownElem, r1)) :
    decodeSet addr fuel st =
      ({ st with r := ⟨rest, st.r.cnt + (setBytes sid body).length⟩ }, some .unknownElem) :=
  decodeSet_skips_unknownElem' addr fuel st sid body rest t _ r1 hsid hlen hfuel hrem hbig hlook hbody hdec

/-- the set is decoded with a template that has no field specifier: the template cached under `sid > 255` has
neither scope nor field specifiers (installed from a template record with field count 0 — the withdrawal format
of RFC 7011 §8.1 — that was followed by other octets in its set), or `sid = 1`, which takes the data-set path
with the zero template -/
def NoFields (c : Cache) (addr : Bytes) (sid : Nat) : Prop :=
  (sid > 255 ∧ ∃ t, c.lookup addr sid = some t ∧ t.scope = [] ∧ t.fields = []) ∨ sid = 1

/-- the error `decodeSet` reports for such a set: "failed to decodeData" (non-fatal since the F30 repair) if the
record loop is entered — a body of at least one octet (`minRecordLen` of a template without fields is 1), of at
least 5 octets for set id 1 (`minLen` stays 5) — and nothing otherwise -/
def emptyErr (sid : Nat) (body : Bytes) : Option Err :=
  if body.length ≥ (if sid > 255 then 1 else 5) then some .emptyRec else none

theorem emptyErr_nonfatal (sid : Nat) (body : Bytes) (e : Err) (h : emptyErr sid body = some e) :
    nonfatalErr e = true := by
  unfold emptyErr at h
  by_cases hb : body.length ≥ (if sid > 255 then 1 else 5)
  · rw [if_pos hb] at h; cases h; rfl
  · rw [if_neg hb] at h; cases h

/-- the record loop with a template without fields: one look at the loop condition, then "failed to decodeData"
without an octet read -/
theorem setLoop_noFields (ctx : Ctx) (fuel : Nat) (st : St) (hs : ctx.tr.scope = []) (hf : ctx.tr.fields = [])
    (hid : ctx.setId = 1 ∨ ctx.setId > 255) :
    setLoop ctx (fuel + 1) st =
      (st, if contCond ctx st.r then some .emptyRec else none, false) := by
  have h23 : ¬ (ctx.setId = 2 ∨ ctx.setId = 3) := by omega
  have hres : ¬ (4 ≤ ctx.setId ∧ ctx.setId ≤ 255) := by omega
  have hz : ¬ ctx.setId = 0 := by omega
  have hd : decodeData ctx.tr st.r = (.error .emptyRec, st.r) := by
    simp only [decodeData, hs, hf, List.append_nil, decFields_nil, List.isEmpty_nil, if_true]
  simp only [setLoop, if_neg h23, if_neg hres, if_neg hz, hd, nonfatalErr_emptyRec, if_true]
  split <;> rfl

theorem decodeSet_skips_noFields (addr : Bytes) (fuel : Nat) (st : St) (sid : Nat) (body rest : Bytes)
    (hsid : sid < 65536) (hlen : 4 + body.length < 65536) (hfuel : 0 < fuel)
    (hrem : st.r.rem = setBytes sid body ++ rest) (hn : NoFields st.cache addr sid) :
    decodeSet addr fuel st =
      ({ st with r := ⟨rest, st.r.cnt + (setBytes sid body).length⟩ }, emptyErr sid body) := by
  refine decodeSet_setBytes addr fuel st sid body rest hsid hlen hfuel hrem fun fuel => ?_
  obtain ⟨⟨rem, cnt⟩, cache, recs⟩ := st
  simp only at hn ⊢
  -- whichever template `tr` the set is decoded with: no fields, and `minLeft` is 1 (data set) or 5 (set id 1)
  have hfin : ∀ tr : Template, tr.scope = [] → tr.fields = [] → (sid = 1 ∨ sid > 255) →
      minLeft ⟨addr, sid, 4 + body.length, cnt, tr⟩ = (if sid > 255 then 1 else 5) →
      setLoop ⟨addr, sid, 4 + body.length, cnt, tr⟩ (fuel + 1) ⟨⟨body ++ rest, cnt + 2 + 2⟩, cache, recs⟩ =
        (⟨⟨body ++ rest, cnt + 2 + 2⟩, cache, recs⟩, emptyErr sid body, false) := by
    intro tr hsc hfl hidc hml
    rw [setLoop_noFields _ _ _ hsc hfl hidc, (inSet_body addr sid body cnt tr hlen).contCond, hml, emptyErr]
    simp only [decide_eq_true_eq]
  rcases hn with ⟨hbig, t, hlook, h1, h2⟩ | rfl
  · refine setBody_skips addr sid body rest cnt _ cache recs t body _ _
      (.inl (by rw [lookupTpl, if_pos hbig, hlook])) (inSet_body addr sid body cnt t hlen)
      (hfin t h1 h2 (.inr hbig) ?_)
    simp only [minLeft, if_pos hbig, minRecLen, h1, h2, List.append_nil, List.map_nil, List.sum_nil]
    rfl
  · refine setBody_skips addr 1 body rest cnt _ cache recs emptyTpl body _ _
      (.inr ⟨rfl, rfl⟩) (inSet_body addr 1 body cnt _ hlen) (hfin emptyTpl rfl rfl (.inl rfl) rfl)

/-- `u` is *skipped* at cache `c` with error slot `e`: it is a whole set (at least the 4-octet
header), `e` is not a fatal error, and in front of any `rest`, at any count, with any records
accumulated, `decodeSet` only moves the reader over `u`. -/
structure Skipped (addr : Bytes) (c : Cache) (u : Bytes) (e : Option Err) : Prop where
  nonfatal : ∀ x, e = some x → nonfatalErr x = true
  len : 4 ≤ u.length
  run : ∀ (fuel k : Nat) (recs : List Record) (rest : Bytes), 0 < fuel →
    decodeSet addr fuel ⟨⟨u ++ rest, k⟩, c, recs⟩ = (⟨⟨rest, k + u.length⟩, c, recs⟩, e)

theorem Skipped.not_fatal {addr : Bytes} {c : Cache} {u : Bytes} {e : Option Err} (h : Skipped addr c u e) :
    fatal nonfatalErr e = false := by
  cases e with
  | none => rfl
  | some x => simp [fatal, h.nonfatal x rfl]

theorem skipped_of_undecodable (addr : Bytes) (c : Cache) (sid : Nat) (body : Bytes)
    (hsid : sid < 65536) (hlen : 4 + body.length < 65536) (hu : Undecodable c addr sid) :
    Skipped addr c (setBytes sid body) (skipErr sid) where
  nonfatal := fun x hx => by simp [nonfatalErr, skipErr_nonfatal sid x hx]
  len := by rw [setBytes_length]; omega
  run := fun fuel k recs rest hf =>
    decodeSet_skips addr fuel ⟨⟨setBytes sid body ++ rest, k⟩, c, recs⟩ sid body rest hsid hlen hf rfl hu

theorem skipped_of_noFields (addr : Bytes) (c : Cache) (sid : Nat) (body : Bytes)
    (hsid : sid < 65536) (hlen : 4 + body.length < 65536) (hn : NoFields c addr sid) :
    Skipped addr c (setBytes sid body) (emptyErr sid body) where
  nonfatal := emptyErr_nonfatal sid body
  len := by rw [setBytes_length]; omega
  run := fun fuel k recs rest hf =>
    decodeSet_skips_noFields addr fuel ⟨⟨setBytes sid body ++ rest, k⟩, c, recs⟩ sid body rest hsid hlen hf rfl hn

theorem skipped_of_unknownElem (addr : Bytes) (c : Cache) (sid : Nat) (body : Bytes) (t : Template) (r1 : Rd)
    (hsid : sid < 65536) (hlen : 4 + body.length < 65536)
    (hbig : sid > 255) (hlook : c.lookup addr sid = some t) (hbody : body.length ≥ minRecLen t)
    (hdec : decodeData t ⟨body, 0⟩ = (.error .unknownElem, r1)) :
    Skipped addr c (setBytes sid body) (some .unknownElem) where
  nonfatal := fun x hx => by cases hx; rfl
  len := by rw [setBytes_length]; omega
  run := fun fuel k recs rest hf =>
    decodeSet_skips_unknownElem' addr fuel ⟨⟨setBytes sid body ++ rest, k⟩, c, recs⟩ sid body rest t 0 r1
      hsid hlen hf rfl hbig hlook hbody hdec

theorem outer_skips_gen (addr : Bytes) (fuel : Nat) (st : St) (errs : List Err) (u rest : Bytes)
    (e : Option Err) (hs : Skipped addr st.cache u e) (hrem : st.r.rem = u ++ rest)
    (hgt : u.length + rest.length > 4) :
    outer addr (fuel + 1) st errs =
      outer addr fuel { st with r := ⟨rest, st.r.cnt + u.length⟩ } (errs ++ e.toList) := by
  obtain ⟨⟨rem, cnt⟩, cache, recs⟩ := st
  subst hrem
  rw [(outer_loop addr).iter fuel _ errs _ e (by simp only [List.length_append]; omega)
    (hs.run _ _ _ _ (Nat.succ_pos _)), hs.not_fatal]
  rfl

theorem outer_skips (addr : Bytes) (fuel : Nat) (st : St) (errs : List Err) (sid : Nat) (body rest : Bytes)
    (hsid : sid < 65536) (hlen : 4 + body.length < 65536)
    (hrem : st.r.rem = setBytes sid body ++ rest) (hu : Undecodable st.cache addr sid)
    (hgt : body.length + rest.length > 0) :
    outer addr (fuel + 1) st errs =
      outer addr fuel { st with r := ⟨rest, st.r.cnt + (setBytes sid body).length⟩ }
        (errs ++ (skipErr sid).toList) :=
  outer_skips_gen addr fuel st errs _ rest _ (skipped_of_undecodable addr st.cache sid body hsid hlen hu) hrem
    (by rw [setBytes_length]; omega)

theorem outer_tail (addr : Bytes) (fuel : Nat) (st : St) (errs : List Err) (h : st.r.rem.length ≤ 4) :
    outer addr (fuel + 1) st errs = (st, none, errs) :=
  (outer_loop addr).stop fuel st errs h

theorem outer_skips_tail (addr : Bytes) (fuel : Nat) (st : St) (errs : List Err) (sid : Nat)
    (hrem : st.r.rem = setBytes sid []) :
    outer addr (fuel + 1) st errs = (st, none, errs) :=
  outer_tail addr fuel st errs (by rw [hrem, setBytes_length]; simp)

theorem outer_ext (addr : Bytes) : ∀ (fuelT : Nat) (stT : St) (errs : List Err)
    (stT' : St) (errs' : List Err),
    outer addr fuelT stT errs = (stT', none, errs') →
    stT'.r.rem.length ≤ 4 ∧ ∃ j, j ≤ fuelT ∧ ∀ (s : Bytes) (stF : St), SRel s stT stF →
      ∃ stF', SRel s stT' stF' ∧ ∀ m, outer addr (j + m) stF errs = outer addr m stF' errs' := by
  intro fuelT stT errs stT' errs' h
  obtain ⟨hlen, j, hj, hall⟩ := (outer_loop addr).lockstep St.ext St.ext_length (decodeSet_ext addr) _ _ _ _ _ h
  exact ⟨hlen, j, hj, fun s stF hrel => ⟨_, SRel.ext stT' s, fun m => hrel.eq ▸ hall s m⟩⟩

theorem decode_of_header (c : Cache) (addr hdr x : Bytes) (h : Hdr) (k : Nat)
    (hh : readHeader ⟨hdr, 0⟩ = some (h, ⟨[], k⟩)) :
    decode c addr (hdr ++ x) =
      if h.headD 0 ≠ 10 then (.error .badVersion, c) else
      match outer addr ((hdr ++ x).length + 1) ⟨⟨x, k⟩, c, []⟩ [] with
      | (st, some e, _) => (.error e, st.cache)
      | (st, none, errs) => (.ok (h, st.recs, errs), st.cache) := by
  have hF : readHeader ⟨hdr ++ x, 0⟩ = some (h, ⟨x, k⟩) := readHeader_persists _ _ _ hh x 0
  simp only [decode, hF]
  rfl

theorem decode_skips (c : Cache) (addr hdr pre post u : Bytes) (e : Option Err)
    (h : Hdr) (k k1 : Nat) (c1 : Cache) (recs1 : List Record) (errs1 : List Err)
    (hh : readHeader ⟨hdr, 0⟩ = some (h, ⟨[], k⟩))
    (hpre : outer addr (pre.length + 1) ⟨⟨pre, k⟩, c, []⟩ [] = (⟨⟨[], k1⟩, c1, recs1⟩, none, errs1))
    (hs : Skipped addr c1 u e)
    (hfuel : (decode c addr (hdr ++ (pre ++ post))).1 ≠ .error .fuel) :
    recordsOf (decode c addr (hdr ++ (pre ++ (u ++ post)))).1 =
      recordsOf (decode c addr (hdr ++ (pre ++ post))).1 ∧
    (decode c addr (hdr ++ (pre ++ (u ++ post)))).2 = (decode c addr (hdr ++ (pre ++ post))).2 ∧
    ∀ x, (decode c addr (hdr ++ (pre ++ (u ++ post)))).1 = .error x ↔
      (decode c addr (hdr ++ (pre ++ post))).1 = .error x := by
  rw [decode_of_header c addr hdr _ h k hh] at hfuel ⊢
  rw [decode_of_header c addr hdr _ h k hh]
  by_cases hv : h.headD 0 ≠ 10
  · simp only [if_pos hv, recordsOf, true_and, implies_true]
  · rw [if_neg hv] at hfuel
    rw [if_neg hv, if_neg hv]
    have hnf : (outer addr ((hdr ++ (pre ++ post)).length + 1) ⟨⟨pre ++ post, k⟩, c, []⟩ []).2.1 ≠ some .fuel := by
      intro hx
      generalize outer addr ((hdr ++ (pre ++ post)).length + 1) _ [] = o at hfuel hx
      obtain ⟨st, eo, errs⟩ := o
      cases hx
      exact hfuel rfl
    have hsame := (outer_loop addr).insert St.ext St.ext_length (decodeSet_ext addr) (fun a : St => (a.recs, a.cache))
      (fun _ _ _ => rfl) hpre rfl (u := u) (post := post) hs.len hs.not_fatal
      (fun f hf => by
        simpa only [St.ext, Rd.ext, List.nil_append, List.append_nil, Nat.add_zero] using hs.run f k1 recs1 post hf)
      (FA := (hdr ++ (pre ++ (u ++ post))).length + 1) (FB := (hdr ++ (pre ++ post)).length + 1)
      (by simp only [List.length_append]; omega) (by simp only [List.length_append]; omega) hnf
    simp only [St.ext, Rd.ext, Nat.add_zero] at hsame
    generalize outer addr ((hdr ++ (pre ++ (u ++ post))).length + 1) _ [] = oA at hsame ⊢
    generalize outer addr ((hdr ++ (pre ++ post)).length + 1) _ [] = oB at hsame ⊢
    obtain ⟨stA, eA, errsA⟩ := oA
    obtain ⟨stB, eB, errsB⟩ := oB
    obtain ⟨h1, h2⟩ := hsame
    simp only [Prod.mk.injEq] at h1 h2
    subst h2
    cases eA with
    | none => simp [recordsOf, h1.1, h1.2]
    | some x => simp [recordsOf, h1.2]

end Vflow.Ipfix
