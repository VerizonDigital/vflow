import Vflow.Proofs.WireLemmas
/-!
# `interpret` on integer fields = the RFC's value of the field's octets (F24)

`Wire.unsignedValue` / `Wire.signedValue` are written from RFC 7011 §6.1.1 / §6.1.2 (most significant octet
first, two's complement over all the bits of the field).  Here: for the eight integer types, a field at least as
long as the type and at most 8 octets long is decoded to exactly that number; longer than 8 octets, or shorter
than the type, to its raw octets.  Statements are re-exported in `Props/C03` and `Props/C06`.
-/
namespace Vflow.Interp
open Vflow Vflow.Wire

/-- the model's `beN` (a left fold, as `binary.BigEndian.UintK` / the loop of `wideUint` compute it) is the
positional value of the octets -/
theorem beN_eq_unsignedValue : ∀ b : Bytes, beN b = unsignedValue b
  | [] => rfl
  | x :: xs => by
    rw [unsignedValue, ← beN_eq_unsignedValue xs, ← List.singleton_append, beN_append]
    simp [beN]

theorem unsignedValue_lt (b : Bytes) : unsignedValue b < 256 ^ b.length := by
  rw [← beN_eq_unsignedValue]
  exact beN_lt b

theorem interpret_short {b : Bytes} {t : Nat} (h : b.length < minLen t) : interpret b t = .raw b := by
  unfold interpret
  rw [if_pos h]

theorem interpret_wideUint {b : Bytes} {t : Nat} (ht : isUintT t = true) (h : minLen t < b.length) :
    interpret b t = wideUint b := by
  unfold interpret
  rw [if_neg (Nat.lt_asymm h), ht, Bool.and_true, if_pos (decide_eq_true h)]

theorem interpret_wideInt {b : Bytes} {t : Nat} (hu : isUintT t = false) (ht : isIntT t = true)
    (h : minLen t < b.length) : interpret b t = wideInt b := by
  unfold interpret
  rw [if_neg (Nat.lt_asymm h), hu, Bool.and_false, if_neg Bool.false_ne_true, ht, Bool.and_true,
    if_pos (decide_eq_true h)]

theorem uintSize?_some {t k : Nat} (h : uintSize? t = some k) :
    isUintT t = true ∧ minLen t = k ∧ k ≤ 8 := by
  unfold uintSize? at h
  split at h <;> cases h <;> exact ⟨rfl, rfl, by decide⟩

theorem intSize?_some {t k : Nat} (h : intSize? t = some k) :
    isUintT t = false ∧ isIntT t = true ∧ minLen t = k ∧ 1 ≤ k ∧ k ≤ 8 := by
  unfold intSize? at h
  split at h <;> cases h <;> exact ⟨rfl, rfl, rfl, by decide, by decide⟩

theorem interpret_unsigned (b : Bytes) (t k : Nat) (ht : uintSize? t = some k)
    (hk : k ≤ b.length) (h8 : b.length ≤ 8) :
    intOf (interpret b t) = some (unsignedValue b : Int) ∧
    (interpret b t).kind = (if b.length = k then "u" ++ toString (8 * k) else "u64") := by
  rw [← beN_eq_unsignedValue]
  by_cases he : b.length = k
  · -- the type's size: no guard fires, the switch reads the first `k` octets, which are all
    rw [if_pos he]
    unfold uintSize? at ht
    split at ht <;> cases ht <;>
      (unfold interpret
       rw [he, if_neg (by decide), if_neg (by decide), if_neg (by decide),
         List.take_of_length_le (Nat.le_of_eq he)]
       exact ⟨rfl, rfl⟩)
  · obtain ⟨hu, hm, _⟩ := uintSize?_some ht
    rw [if_neg he, interpret_wideUint hu (by omega), wideUint, if_neg (by omega)]
    exact ⟨rfl, rfl⟩

theorem signed_eq_signedValue (b : Bytes) (hpos : 0 < b.length) :
    signed (unsignedValue b) (256 ^ b.length) = signedValue b := by
  unfold signed signedValue
  have heven : 256 ^ b.length = 2 * (256 ^ b.length / 2) := by
    obtain ⟨n, hn⟩ : ∃ n, b.length = n + 1 := ⟨b.length - 1, by omega⟩
    rw [hn, Nat.pow_succ]; omega
  by_cases h : 256 ^ b.length ≤ 2 * unsignedValue b
  · rw [if_pos h, if_pos (by omega)]
  · rw [if_neg h, if_neg (by omega)]

/-- `int64(v<<shift) >> shift` is the sign extension of the `8·len` bits: for 1 ≤ len ≤ 8 octets the value
`wideInt` computes is the two's-complement value of all octets -/
theorem wideInt_value (b : Bytes) (h1 : 1 ≤ b.length) (h8 : b.length ≤ 8) :
    wideInt b = .i64 (signedValue b) := by
  have hlt := unsignedValue_lt b
  have hP : 0 < 2 ^ (64 - 8 * b.length) := Nat.two_pow_pos _
  -- the field's `8·len` bits and the shift make up the 64 bits of the word
  have hW : 256 ^ b.length * 2 ^ (64 - 8 * b.length) = 18446744073709551616 := by
    rw [show 256 = 2 ^ 8 from rfl, ← Nat.pow_mul, ← Nat.pow_add,
      show 8 * b.length + (64 - 8 * b.length) = 64 by omega]
  unfold wideInt signedValue signed
  rw [if_neg (by omega), beN_eq_unsignedValue]
  generalize unsignedValue b = v at hlt ⊢
  generalize 256 ^ b.length = M at hlt hW ⊢
  generalize 2 ^ (64 - 8 * b.length) = P at hP hW ⊢
  -- so the left shift does not wrap, the sign bit of the word is the sign bit of the field,
  -- and the arithmetic right shift undoes the left one
  have hvP : v * P < 18446744073709551616 := by rw [← hW]; exact Nat.mul_lt_mul_of_pos_right hlt hP
  have hsign : M ≤ 2 * v ↔ 18446744073709551616 ≤ 2 * (v * P) := by
    rw [← hW, ← Nat.mul_assoc]; exact (Nat.mul_le_mul_right_iff hP).symm
  rw [Nat.mod_eq_of_lt hvP]
  congr 1
  by_cases h : M ≤ 2 * v
  · rw [if_pos h, if_pos (by have := hsign.1 h; omega), ← hW, Int.natCast_mul, Int.natCast_mul,
      ← Int.sub_mul, Int.mul_ediv_cancel _ (by omega)]
  · rw [if_neg h, if_neg (by have := mt hsign.2 h; omega), Int.natCast_mul,
      Int.mul_ediv_cancel _ (by omega)]

theorem interpret_signed (b : Bytes) (t k : Nat) (ht : intSize? t = some k)
    (hk : k ≤ b.length) (h8 : b.length ≤ 8) :
    intOf (interpret b t) = some (signedValue b) ∧
    (interpret b t).kind = (if b.length = k then "i" ++ toString (8 * k) else "i64") := by
  obtain ⟨hu, hi, hm, h1, _⟩ := intSize?_some ht
  by_cases he : b.length = k
  · rw [if_pos he, ← signed_eq_signedValue b (by omega), ← beN_eq_unsignedValue]
    unfold intSize? at ht
    split at ht <;> cases ht <;>
      (unfold interpret
       rw [he, if_neg (by decide), if_neg (by decide), if_neg (by decide),
         List.take_of_length_le (Nat.le_of_eq he)]
       exact ⟨rfl, rfl⟩)
  · rw [if_neg he, interpret_wideInt hu hi (by omega), wideInt_value b (by omega) h8]
    exact ⟨rfl, rfl⟩

theorem interpret_integer_too_long (b : Bytes) (t : Nat) (ht : (uintSize? t).isSome ∨ (intSize? t).isSome)
    (h : 8 < b.length) : interpret b t = .raw b := by
  rcases ht with ht | ht <;> obtain ⟨k, hk⟩ := Option.isSome_iff_exists.1 ht
  · obtain ⟨hu, hm, _⟩ := uintSize?_some hk
    rw [interpret_wideUint hu (by omega), wideUint, if_pos h]
  · obtain ⟨hu, hi, hm, _, _⟩ := intSize?_some hk
    rw [interpret_wideInt hu hi (by omega), wideInt, if_pos h]

theorem expected_unsigned (s : Spec) (v : Bytes) (fid ty k : Nat)
    (hl : lookupElem s.ent s.id = some (fid, ty)) (ht : uintSize? ty = some k)
    (hk : k ≤ v.length) (h8 : v.length ≤ 8) :
    (expectedField s v).id = fid ∧ (expectedField s v).ent = s.ent ∧
    intOf (expectedField s v).val = some (unsignedValue v : Int) := by
  rw [expectedField_of_lookup hl]
  exact ⟨rfl, rfl, (interpret_unsigned v ty k ht hk h8).1⟩

theorem expected_signed (s : Spec) (v : Bytes) (fid ty k : Nat)
    (hl : lookupElem s.ent s.id = some (fid, ty)) (ht : intSize? ty = some k)
    (hk : k ≤ v.length) (h8 : v.length ≤ 8) :
    (expectedField s v).id = fid ∧ (expectedField s v).ent = s.ent ∧
    intOf (expectedField s v).val = some (signedValue v) := by
  rw [expectedField_of_lookup hl]
  exact ⟨rfl, rfl, (interpret_signed v ty k ht hk h8).1⟩

theorem expected_raw (s : Spec) (v : Bytes) (fid ty : Nat)
    (hl : lookupElem s.ent s.id = some (fid, ty))
    (h : v.length < minLen ty ∨ (((uintSize? ty).isSome ∨ (intSize? ty).isSome) ∧ 8 < v.length)) :
    expectedField s v = ⟨fid, s.ent, .raw v⟩ := by
  rw [expectedField_of_lookup hl]
  rcases h with h | ⟨ht, h⟩
  · rw [interpret_short h]
  · rw [interpret_integer_too_long v ty ht h]

end Vflow.Interp
