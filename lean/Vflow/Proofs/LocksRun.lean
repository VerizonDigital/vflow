import Vflow.Proofs.Locks
/-!
# Runs of the lock model: write log, held write locks, lock point (C10 (2), (3))

What a step changes; the shard maps are the log of writes (`run_mem`); a thread that has written and not yet
unlocked still holds the write lock (`wrote_holds`); after its last acquisition a read-only thread sees frozen
shards (`frozen`), hence the two-phase snapshot `two_phase`. Core Lean only.
-/
namespace Vflow
namespace Locks

theorem step_other {σ σ' : Sys} {i j : Nat} {a : Act} (st : Step σ i a σ') (h : j ≠ i) :
    σ'.threads[j]? = σ.threads[j]? := by
  obtain ⟨t, p, _, _, _, rfl⟩ := st
  exact List.getElem?_set_ne (Ne.symm h)

theorem step_self {σ σ' : Sys} {i : Nat} {a : Act} (st : Step σ i a σ') :
    ∃ t p, σ.threads[i]? = some t ∧ t.prog = a :: p ∧
      σ'.threads[i]? = some ⟨heldAfter t.held a, p, obsAfter σ.mem t.obs a⟩ := by
  obtain ⟨t, p, hi, hp, _, rfl⟩ := st
  exact ⟨t, p, hi, hp, List.getElem?_set_self (List.getElem?_eq_some_iff.mp hi).1⟩

theorem step_self' {σ σ' : Sys} {i : Nat} {a : Act} (st : Step σ i a σ') {t : Thread}
    (ht : σ.threads[i]? = some t) :
    ∃ p, t.prog = a :: p ∧ σ'.threads[i]? = some ⟨heldAfter t.held a, p, obsAfter σ.mem t.obs a⟩ := by
  obtain ⟨t', p, hi, hp, hn⟩ := step_self st
  cases ht.symm.trans hi
  exact ⟨p, hp, hn⟩

theorem step_mem {σ σ' : Sys} {i : Nat} {a : Act} (st : Step σ i a σ') : σ'.mem = memAfter σ.mem a := by
  obtain ⟨t, p, _, _, _, rfl⟩ := st
  rfl

theorem memAfter_ne {m : Mem} {a : Act} {s : Nat} (h : ∀ k v, a ≠ .wr s k v) : memAfter m a s = m s := by
  cases a <;> try rfl
  case wr s' k v =>
    funext k'
    have : ¬ (s = s' ∧ k' = k) := fun hc => h k v (by rw [hc.1])
    simp only [memAfter, if_neg this]

theorem run_split {init cur : Sys} {hist : List Ev} (hr : Run init hist cur) :
    ∀ (post pre : List Ev) (e : Ev), hist = post ++ e :: pre →
      Run init pre e.pre ∧ ∃ σ', Step e.pre e.tid e.act σ' := by
  induction hr with
  | start => intro post pre e h; simp at h
  | @step hist0 cur0 nxt i a hr0 st ih =>
    intro post pre e h
    cases post with
    | nil =>
      obtain ⟨rfl, rfl⟩ := List.cons.inj h
      exact ⟨hr0, nxt, st⟩
    | cons x post' => exact ih post' pre e (List.cons.inj h).2

/-- value of the most recent write to `(s, k)` in the history (newest first), else the initial content -/
def lastWrite (m0 : Mem) : List Ev → Nat → Nat → Option Val
  | [], s, k => m0 s k
  | e :: es, s, k =>
    match e.act with
    | .wr s' k' v => if s = s' ∧ k = k' then some v else lastWrite m0 es s k
    | _ => lastWrite m0 es s k

theorem run_mem {init cur : Sys} {hist : List Ev} (hr : Run init hist cur) :
    ∀ s k, cur.mem s k = lastWrite init.mem hist s k := by
  induction hr with
  | start => intro s k; rfl
  | @step hist0 cur0 nxt i a _ st ih =>
    intro s k
    rw [step_mem st]
    cases a <;> simp only [memAfter, lastWrite, ih]

theorem lastWrite_cons (m0 : Mem) (e : Ev) (es : List Ev) (s k : Nat) :
    (∃ v, e.act = .wr s k v ∧ lastWrite m0 (e :: es) s k = some v) ∨
    lastWrite m0 (e :: es) s k = lastWrite m0 es s k := by
  cases he : e.act with
  | wr s' k' v =>
    by_cases hc : s = s' ∧ k = k'
    · exact .inl ⟨v, by rw [hc.1, hc.2], by simp only [lastWrite, he, if_pos hc]⟩
    · exact .inr (by simp only [lastWrite, he, if_neg hc])
  | _ => exact .inr (by simp only [lastWrite, he])

/-- a value written before an older write is never the last one -/
theorem lastWrite_mid (m0 : Mem) (s k : Nat) (v2 : Val) (σ2 : Sys) (j : Nat) (old : List Ev) :
    ∀ mid : List Ev,
      lastWrite m0 (mid ++ ⟨σ2, j, .wr s k v2⟩ :: old) s k = some v2 ∨
      ∃ e ∈ mid, ∃ v, e.act = .wr s k v ∧ lastWrite m0 (mid ++ ⟨σ2, j, .wr s k v2⟩ :: old) s k = some v := by
  intro mid
  induction mid with
  | nil => exact .inl (by simp [lastWrite])
  | cons e es ih =>
    rcases lastWrite_cons m0 e (es ++ ⟨σ2, j, .wr s k v2⟩ :: old) s k with ⟨v, he, h⟩ | h
    · exact .inr ⟨e, List.mem_cons_self, v, he, h⟩
    · rw [List.cons_append, h]
      exact ih.imp id fun ⟨e', he', hv⟩ => ⟨e', List.mem_cons_of_mem _ he', hv⟩

theorem heldAfter_keeps_w {h : Held} {a : Act} {s : Nat} (hs : s ∈ h.w) (ha : a ≠ .unlock s) :
    s ∈ (heldAfter h a).w := by
  cases a <;> try exact hs
  case lock s' => exact List.mem_cons_of_mem _ hs
  case unlock s' => exact (List.mem_erase_of_ne fun hc => ha (by rw [hc])).mpr hs

/-- a thread that has written into shard `s` and not unlocked it since still holds the write lock -/
theorem wrote_holds {init cur : Sys} {hist : List Ev} (h0 : LInv init) (hr : Run init hist cur) :
    ∀ (p2 p1 : List Ev) (σ' : Sys) (j s k : Nat) (v : Val), hist = p2 ++ ⟨σ', j, .wr s k v⟩ :: p1 →
      (∀ e ∈ p2, ¬ (e.tid = j ∧ e.act = .unlock s)) →
      ∃ tj, cur.threads[j]? = some tj ∧ s ∈ tj.held.w := by
  induction hr with
  | start => intro p2 p1 σ' j s k v h; simp at h
  | @step hist0 cur0 nxt i a hr0 st ih =>
    intro p2 p1 σ' j s k v h hno
    cases p2 with
    | nil =>
      obtain ⟨⟨rfl, rfl, rfl⟩, rfl⟩ := List.cons.inj h
      obtain ⟨t, p, hi, hp, hi'⟩ := step_self st
      exact ⟨_, hi', (run_linv' h0 hr0).permits hi hp⟩
    | cons x p2' =>
      obtain ⟨rfl, h'⟩ := List.cons.inj h
      obtain ⟨tj, htj, hs⟩ := ih p2' p1 σ' j s k v h' (fun e he => hno e (List.mem_cons_of_mem _ he))
      by_cases hij : j = i
      · subst hij
        obtain ⟨p, _, hi'⟩ := step_self' st htj
        exact ⟨_, hi', heldAfter_keeps_w hs fun hc => hno ⟨cur0, j, a⟩ List.mem_cons_self ⟨rfl, hc⟩⟩
      · exact ⟨tj, (step_other st hij).trans htj, hs⟩

theorem heldAfter_quiet_sub {h : Held} {a : Act} (hq : quiet a = true) {s : Nat}
    (hs : s ∈ (heldAfter h a).w ∨ s ∈ (heldAfter h a).r) : s ∈ h.w ∨ s ∈ h.r :=
  hs.imp (fun hw => (mem_heldAfter_w hw).resolve_right fun e => by rw [e] at hq; cases hq)
    (fun hr => (mem_heldAfter_r hr).resolve_right fun e => by rw [e] at hq; cases hq)

theorem obsOf_stable {m m' : Mem} {h : Held} {a : Act} (hp : Permits h a)
    (hm : ∀ s, (s ∈ h.w ∨ s ∈ h.r) → m s = m' s) : obsOf m a = obsOf m' a := by
  cases a <;> simp only [obsOf]
  case rd s k => rw [hm s hp]
  case iter s => rw [hm s hp]

/-- **lock-point lemma**: from a state `σ` in which thread `i` has only quiet actions left (no more
lock acquisitions, no writes), in every continuation every shard it still holds has the content
it had at `σ`, and what it has recorded since is exactly what reading `σ`'s memory gives -/
theorem frozen {σ cur : Sys} {hist : List Ev} (hinv : LInv σ) (hr : Run σ hist cur)
    {i : Nat} {tσ : Thread} (hi : σ.threads[i]? = some tσ) (hq : ∀ a ∈ tσ.prog, quiet a = true) :
    ∃ t done, cur.threads[i]? = some t ∧ tσ.prog = done ++ t.prog ∧
      (∀ s, (s ∈ t.held.w ∨ s ∈ t.held.r) → cur.mem s = σ.mem s) ∧
      t.obs = (done.filterMap (obsOf σ.mem)).reverse ++ tσ.obs := by
  induction hr with
  | start => exact ⟨tσ, [], hi, rfl, fun _ _ => rfl, by simp⟩
  | @step hist0 cur0 nxt j a hr0 st ih =>
    obtain ⟨t, done, ht, hprog, hmem, hobs⟩ := ih
    have hinv0 := run_linv' hinv hr0
    by_cases hji : j = i
    · subst hji
      obtain ⟨p, hp, hn⟩ := step_self' st ht
      have hqa : quiet a = true := hq a (by rw [hprog, hp]; simp)
      refine ⟨_, done ++ [a], hn, by rw [hprog, hp]; simp, fun s hs => ?_, ?_⟩
      · -- a quiet action writes nothing and leaves no new holding
        have hnw : ∀ k v, a ≠ .wr s k v := by rintro k v rfl; cases hqa
        rw [step_mem st, memAfter_ne hnw]
        exact hmem s (heldAfter_quiet_sub hqa hs)
      · -- it reads a shard the thread holds, unchanged since `σ`
        have hst : obsOf cur0.mem a = obsOf σ.mem a := obsOf_stable (hinv0.permits ht hp) hmem
        simp only [obsAfter, hst, List.filterMap_append, List.reverse_append]
        cases ho : obsOf σ.mem a <;> simp [ho, hobs]
    · -- another thread cannot write a shard this one holds
      obtain ⟨tj, p, hj, hp, _⟩ := step_self st
      refine ⟨t, done, (step_other st (Ne.symm hji)).trans ht, hprog, fun s hs => ?_, hobs⟩
      rw [step_mem st, memAfter_ne]
      · exact hmem s hs
      · rintro k v rfl
        have ex := hinv0.excl j i tj t s hj ht hji (hinv0.permits hj hp)
        exact hs.elim ex.1 ex.2

/-- the states a run has visited: every pre-state of a step, and the current one -/
def Visited (σ : Sys) (hist : List Ev) (cur : Sys) : Prop := σ = cur ∨ ∃ e ∈ hist, e.pre = σ

/-- **two-phase snapshot**: a thread whose program is `acq ++ rest` — `acq` only lock acquisitions,
`rest` quiet — has, at any point of any run, either not yet passed its lock point and recorded
nothing, or there is one visited state `σ` (its lock point) such that everything it has recorded is
exactly what executing the finished part of `rest` against `σ`'s memory gives -/
theorem two_phase {init cur : Sys} {hist : List Ev} (h0 : Init init) (hr : Run init hist cur)
    {i : Nat} {t0 : Thread} {acq rest : List Act} (hi0 : init.threads[i]? = some t0)
    (hprog : t0.prog = acq ++ rest) (hacq : ∀ a ∈ acq, isAcq a = true) (hrest : ∀ a ∈ rest, quiet a = true) :
    ∃ t, cur.threads[i]? = some t ∧
      ((t.obs = [] ∧ ∃ acq', acq' ≠ [] ∧ t.prog = acq' ++ rest) ∨
       (∃ σ done, Visited σ hist cur ∧ rest = done ++ t.prog ∧
          (∀ s, (s ∈ t.held.w ∨ s ∈ t.held.r) → cur.mem s = σ.mem s) ∧
          t.obs = (done.filterMap (obsOf σ.mem)).reverse)) := by
  -- invariant: before the lock point nothing is recorded; after it, `frozen` applies from there
  suffices h : ∃ t, cur.threads[i]? = some t ∧
      ((t.obs = [] ∧ ∃ acq', acq' ≠ [] ∧ (∀ a ∈ acq', isAcq a = true) ∧ t.prog = acq' ++ rest) ∨
       (∃ σ h2 tσ, Visited σ hist cur ∧ LInv σ ∧ Run σ h2 cur ∧ σ.threads[i]? = some tσ ∧
          tσ.prog = rest ∧ tσ.obs = [])) by
    obtain ⟨t, ht, h⟩ := h
    rcases h with ⟨ho, acq', hne, _, hp⟩ | ⟨σ, h2, tσ, hv, hl, hr2, hiσ, hpσ, hoσ⟩
    · exact ⟨t, ht, Or.inl ⟨ho, acq', hne, hp⟩⟩
    · obtain ⟨t', done, ht', hp', hm', ho'⟩ := frozen hl hr2 hiσ (by rw [hpσ]; exact hrest)
      cases ht.symm.trans ht'
      exact ⟨t, ht, Or.inr ⟨σ, done, hv, by rw [← hpσ]; exact hp', hm', by rw [ho', hoσ]; simp⟩⟩
  induction hr with
  | start =>
    refine ⟨t0, hi0, ?_⟩
    have hobs := (h0 t0 (List.mem_of_getElem? hi0)).2.1
    cases acq with
    | nil => exact .inr ⟨init, [], t0, Or.inl rfl, linv_init h0, Run.start, hi0, by simpa using hprog, hobs⟩
    | cons b bs => exact .inl ⟨hobs, b :: bs, by simp, hacq, hprog⟩
  | @step hist0 cur0 nxt j a hr0 st ih =>
    obtain ⟨t, ht, h⟩ := ih
    rcases h with ⟨ho, acq', hne, hall, hp⟩ | ⟨σ, h2, tσ, hv, hl, hr2, hiσ, hpσ, hoσ⟩
    · by_cases hji : j = i
      · subst hji
        obtain ⟨p, hp', hn⟩ := step_self' st ht
        cases acq' with
        | nil => exact absurd rfl hne
        | cons b bs =>
          obtain ⟨rfl, rfl⟩ := List.cons.inj (hp.symm.trans hp')
          have hob : obsAfter cur0.mem t.obs b = [] := by
            have hb := hall b List.mem_cons_self
            cases b <;> first | exact ho | cases hb
          refine ⟨_, hn, ?_⟩
          cases bs with
          | nil =>
            exact .inr ⟨nxt, [], _, Or.inl rfl, step_preserves (run_linv h0 hr0) st, Run.start, hn, rfl, hob⟩
          | cons c cs =>
            exact .inl ⟨hob, c :: cs, by simp, fun x hx => hall x (List.mem_cons_of_mem _ hx), rfl⟩
      · exact ⟨t, (step_other st (Ne.symm hji)).trans ht, Or.inl ⟨ho, acq', hne, hall, hp⟩⟩
    · have hr2' : Run σ (⟨cur0, j, a⟩ :: h2) nxt := Run.step hr2 st
      have hv' : Visited σ (⟨cur0, j, a⟩ :: hist0) nxt := by
        right
        rcases hv with rfl | ⟨e, he, hpre⟩
        · exact ⟨⟨σ, j, a⟩, List.mem_cons_self, rfl⟩
        · exact ⟨e, List.mem_cons_of_mem _ he, hpre⟩
      obtain ⟨t', _, ht', _, _, _⟩ := frozen hl hr2' hiσ (by rw [hpσ]; exact hrest)
      exact ⟨t', ht', Or.inr ⟨σ, _, tσ, hv', hl, hr2', hiσ, hpσ, hoσ⟩⟩

end Locks
end Vflow
